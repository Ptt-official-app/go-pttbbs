/-
C01 — frozen pttbbs layouts (specification; HAND-WRITTEN, never regenerated from /repo).

Transcribed from pttbbs `include/pttstruct.h`, `include/fav.h` and from the member list that
`c-pttbbs/shm_offset.c` prints.  The pttbbs submodule is empty in this checkout, so the member lists are the
upstream header as documented by the C comments the Go port keeps beside every field, anchored on the
documented record sizes 512 / 256 / 128 / 128 / 100 / 12 / 3484 / 100 (theorems `anchor_*` below).
The same table is kept for the Go property oracle in go/cmd/c01/frozen.go (both written by
go/cmd/c01/frozen_table.py, which is a transcription aid and is not run by ./check).

A member is (Go field name, C declaration, element size, alignment, element count).  `layout` computes
member offsets by the C rule: back to back for `__attribute__((packed))` structs, natural alignment otherwise.
Core Lean only.
-/
namespace PttVerif.C01.Frozen
set_option linter.unusedVariables false

structure Member where
  goName : String
  cDecl : String
  elem : Nat
  align : Nat
  count : Nat

/-- site constants the shared-memory structures are sized by (config.h / pttbbs.conf). -/
structure K where
  MAX_USERS : Nat
  MAX_ACTIVE : Nat
  MAX_BOARD : Nat
  HASH_BITS : Nat
  MAX_FRIEND : Nat
  MAX_REJECT : Nat
  MAX_MSGS : Nat
  MAX_ADBANNER : Nat
  MAX_ADBANNER_SECTION : Nat
  MAX_ADBANNER_HEIGHT : Nat
  HOTBOARDCACHE : Nat
  MAX_FROM : Nat

/-- the C rule, written without reference to the model's `alignUp`: the two meet only in the evaluated table facts. -/
def alignUpC (x a : Nat) : Nat := (x + (a - 1)) / a * a

/-- (name, offset, size) of every member, starting at `off`. -/
def layout (packed : Bool) : List Member → Nat → List (String × Nat × Nat)
  | [], _ => []
  | m :: r, off =>
    let o := if packed then off else alignUpC off m.align
    (m.goName, o, m.elem * m.count) :: layout packed r (o + m.elem * m.count)

def endOf (packed : Bool) : List Member → Nat → Nat
  | [], off => off
  | m :: r, off => endOf packed r ((if packed then off else alignUpC off m.align) + m.elem * m.count)

def maxAlign : List Member → Nat
  | [] => 1
  | m :: r => max m.align (maxAlign r)

/-- a frozen struct: its members and whether the C declaration is packed. -/
structure CStruct where
  packed : Bool
  members : List Member

/-- `sizeof` by the C rule. -/
def sizeOf (s : CStruct) : Nat :=
  if s.packed then endOf true s.members 0 else alignUpC (endOf false s.members 0) (maxAlign s.members)

def fields (s : CStruct) : List (String × Nat × Nat) := layout s.packed s.members 0

/-- `userec_t` — .PASSWDS record, packed. -/
def userec_t (k : K) : CStruct := ⟨true, [
  ⟨"Version", "uint32_t version", 4, 4, 1⟩,
  ⟨"UserID", "char userid[IDLEN+1]", 1, 1, 13⟩,
  ⟨"RealName", "char realname[REALNAMESZ]", 1, 1, 20⟩,
  ⟨"Nickname", "char nickname[NICKNAMESZ]", 1, 1, 24⟩,
  ⟨"PasswdHash", "char passwd[PASSLEN]", 1, 1, 14⟩,
  ⟨"Pad1", "char pad_1", 1, 1, 1⟩,
  ⟨"UFlag", "uint32_t uflag", 4, 4, 1⟩,
  ⟨"Unused1", "uint32_t _unused1", 4, 4, 1⟩,
  ⟨"UserLevel", "uint32_t userlevel", 4, 4, 1⟩,
  ⟨"NumLoginDays", "uint32_t numlogindays", 4, 4, 1⟩,
  ⟨"NumPosts", "uint32_t numposts", 4, 4, 1⟩,
  ⟨"FirstLogin", "time4_t firstlogin", 4, 4, 1⟩,
  ⟨"LastLogin", "time4_t lastlogin", 4, 4, 1⟩,
  ⟨"LastHost", "char lasthost[IPV4LEN+1]", 1, 1, 16⟩,
  ⟨"Money", "int32_t money", 4, 4, 1⟩,
  ⟨"Unused2", "char _unused[4]", 1, 1, 4⟩,
  ⟨"Email", "char email[EMAILSZ]", 1, 1, 50⟩,
  ⟨"Address", "char address[ADDRESSSZ]", 1, 1, 50⟩,
  ⟨"Justify", "char justify[REGLEN+1]", 1, 1, 39⟩,
  ⟨"UnusedBirth", "uint8_t _unused_birth[3]", 1, 1, 3⟩,
  ⟨"Over18", "uint8_t over_18", 1, 1, 1⟩,
  ⟨"PagerUIType", "uint8_t pager_ui_type", 1, 1, 1⟩,
  ⟨"Pager", "uint8_t pager", 1, 1, 1⟩,
  ⟨"Invisible", "uint8_t invisible", 1, 1, 1⟩,
  ⟨"Unused4", "char _unused4[2]", 1, 1, 2⟩,
  ⟨"Exmailbox", "uint32_t exmailbox", 4, 4, 1⟩,
  ⟨"Unused5", "char _unused5[4]", 1, 1, 4⟩,
  ⟨"Career", "char career[CAREERSZ]", 1, 1, 40⟩,
  ⟨"UnusedPhone", "char _unused_phone[PHONESZ]", 1, 1, 20⟩,
  ⟨"Unused6", "uint32_t _unused6", 4, 4, 1⟩,
  ⟨"Chkpad1", "char chkpad1[44]", 1, 1, 44⟩,
  ⟨"Role", "uint32_t role", 4, 4, 1⟩,
  ⟨"LastSeen", "time4_t lastseen", 4, 4, 1⟩,
  ⟨"TimeSetAngel", "time4_t timesetangel", 4, 4, 1⟩,
  ⟨"TimePlayAngel", "time4_t timeplayangel", 4, 4, 1⟩,
  ⟨"LastSong", "time4_t lastsong", 4, 4, 1⟩,
  ⟨"LoginView", "uint32_t loginview", 4, 4, 1⟩,
  ⟨"Unused8", "uint8_t _unused8", 1, 1, 1⟩,
  ⟨"Pad2", "char pad_2", 1, 1, 1⟩,
  ⟨"VlCount", "uint16_t vl_count", 2, 2, 1⟩,
  ⟨"FiveWin", "uint16_t five_win", 2, 2, 1⟩,
  ⟨"FiveLose", "uint16_t five_lose", 2, 2, 1⟩,
  ⟨"FiveTie", "uint16_t five_tie", 2, 2, 1⟩,
  ⟨"ChcWin", "uint16_t chc_win", 2, 2, 1⟩,
  ⟨"ChcLose", "uint16_t chc_lose", 2, 2, 1⟩,
  ⟨"ChcTie", "uint16_t chc_tie", 2, 2, 1⟩,
  ⟨"Conn6Win", "uint16_t conn6_win", 2, 2, 1⟩,
  ⟨"Conn6Lose", "uint16_t conn6_lose", 2, 2, 1⟩,
  ⟨"Conn6Tie", "uint16_t conn6_tie", 2, 2, 1⟩,
  ⟨"UnusedMind", "char _unused_mind[2]", 1, 1, 2⟩,
  ⟨"GoWin", "uint16_t go_win", 2, 2, 1⟩,
  ⟨"GoLose", "uint16_t go_lose", 2, 2, 1⟩,
  ⟨"GoTie", "uint16_t go_tie", 2, 2, 1⟩,
  ⟨"DarkWin", "uint16_t dark_win", 2, 2, 1⟩,
  ⟨"DarkLose", "uint16_t dark_lose", 2, 2, 1⟩,
  ⟨"UaVersion", "uint8_t ua_version", 1, 1, 1⟩,
  ⟨"Signature", "uint8_t signature", 1, 1, 1⟩,
  ⟨"Unused10", "uint8_t _unused10", 1, 1, 1⟩,
  ⟨"BadPost", "uint8_t badpost", 1, 1, 1⟩,
  ⟨"DarkTie", "uint16_t dark_tie", 2, 2, 1⟩,
  ⟨"MyAngel", "char myangel[IDLEN+1]", 1, 1, 13⟩,
  ⟨"Pad3", "char pad_3", 1, 1, 1⟩,
  ⟨"ChessEloRating", "uint16_t chess_elo_rating", 2, 2, 1⟩,
  ⟨"WithMe", "uint32_t withme", 4, 4, 1⟩,
  ⟨"TimeRemoveBadPost", "time4_t timeremovebadpost", 4, 4, 1⟩,
  ⟨"TimeViolateLaw", "time4_t timeviolatelaw", 4, 4, 1⟩,
  ⟨"PadTail", "char pad_tail[28]", 1, 1, 28⟩]⟩

/-- `userec2 (go-pttbbs)` — .passwd2 record, packed. -/
def userec2_t (k : K) : CStruct := ⟨true, [
  ⟨"Version", "uint32_t version", 4, 4, 1⟩,
  ⟨"UserLevel2", "uint32_t userlevel2", 4, 4, 1⟩,
  ⟨"UpdateTS", "time4_t update_ts", 4, 4, 1⟩,
  ⟨"PadTail", "char pad_tail[116]", 1, 1, 116⟩]⟩

/-- `boardheader_t` — .BRD record, packed. -/
def boardheader_t (k : K) : CStruct := ⟨true, [
  ⟨"Brdname", "char brdname[IDLEN+1]", 1, 1, 13⟩,
  ⟨"Title", "char title[BTLEN+1]", 1, 1, 49⟩,
  ⟨"BM", "char BM[IDLEN*3+3]", 1, 1, 39⟩,
  ⟨"Pad1", "char pad1[3]", 1, 1, 3⟩,
  ⟨"BrdAttr", "uint32_t brdattr", 4, 4, 1⟩,
  ⟨"ChessCountry", "char chesscountry", 1, 1, 1⟩,
  ⟨"VoteLimitPosts_", "uint8_t _vote_limit_posts", 1, 1, 1⟩,
  ⟨"VoteLimitLogins", "uint8_t vote_limit_logins", 1, 1, 1⟩,
  ⟨"Pad2_1", "uint8_t pad2_1[1]", 1, 1, 1⟩,
  ⟨"BUpdate", "time4_t bupdate", 4, 4, 1⟩,
  ⟨"PostLimitPosts_", "uint8_t _post_limit_posts", 1, 1, 1⟩,
  ⟨"PostLimitLogins", "uint8_t post_limit_logins", 1, 1, 1⟩,
  ⟨"Pad2_2", "uint8_t pad2_2[1]", 1, 1, 1⟩,
  ⟨"BVote", "uint8_t bvote", 1, 1, 1⟩,
  ⟨"VTime", "time4_t vtime", 4, 4, 1⟩,
  ⟨"Level", "uint32_t level", 4, 4, 1⟩,
  ⟨"PermReload", "time4_t perm_reload", 4, 4, 1⟩,
  ⟨"Gid", "int32_t gid", 4, 4, 1⟩,
  ⟨"Next", "int32_t next[2]", 4, 4, 2⟩,
  ⟨"FirstChild", "int32_t firstchild[2]", 4, 4, 2⟩,
  ⟨"Parent", "int32_t parent", 4, 4, 1⟩,
  ⟨"ChildCount", "int32_t childcount", 4, 4, 1⟩,
  ⟨"NUser", "int32_t nuser", 4, 4, 1⟩,
  ⟨"PostExpire", "int32_t postexpire", 4, 4, 1⟩,
  ⟨"EndGamble", "time4_t endgamble", 4, 4, 1⟩,
  ⟨"PostType", "char posttype[33]", 1, 1, 33⟩,
  ⟨"PostTypeF", "char posttype_f", 1, 1, 1⟩,
  ⟨"FastRecommendPause", "uint8_t fastrecommend_pause", 1, 1, 1⟩,
  ⟨"VoteLimitBadpost", "uint8_t vote_limit_badpost", 1, 1, 1⟩,
  ⟨"PostLimitBadpost", "uint8_t post_limit_badpost", 1, 1, 1⟩,
  ⟨"Pad3", "char pad3[3]", 1, 1, 3⟩,
  ⟨"SRexpire", "time4_t SRexpire", 4, 4, 1⟩,
  ⟨"Pad4", "char pad4[40]", 1, 1, 40⟩]⟩

/-- `fileheader_t` — .DIR record, packed. -/
def fileheader_t (k : K) : CStruct := ⟨true, [
  ⟨"Filename", "char filename[FNLEN]", 1, 1, 28⟩,
  ⟨"Modified", "time4_t modified", 4, 4, 1⟩,
  ⟨"Pad", "char pad", 1, 1, 1⟩,
  ⟨"Recommend", "char recommend", 1, 1, 1⟩,
  ⟨"Owner", "char owner[IDLEN+2]", 1, 1, 14⟩,
  ⟨"Date", "char date[6]", 1, 1, 6⟩,
  ⟨"Title", "char title[TTLEN+1]", 1, 1, 65⟩,
  ⟨"Pad2", "char pad2", 1, 1, 1⟩,
  ⟨"Multi", "union { int money; int anon_uid; struct vote_limits; struct refer; } multi", 1, 1, 4⟩,
  ⟨"Filemode", "unsigned char filemode", 1, 1, 1⟩,
  ⟨"Pad3", "char pad3[3]", 1, 1, 3⟩]⟩

/-- `postlog_t` — .post record, natural alignment. -/
def postlog_t (k : K) : CStruct := ⟨false, [
  ⟨"Author", "char author[IDLEN+1]", 1, 1, 13⟩,
  ⟨"Board", "char board[IDLEN+1]", 1, 1, 13⟩,
  ⟨"Title", "char title[66] (first 65 bytes)", 1, 1, 65⟩,
  ⟨"Pad", "char title[66] (last byte)", 1, 1, 1⟩,
  ⟨"TheDate", "time4_t date", 4, 4, 1⟩,
  ⟨"Number", "int number", 4, 4, 1⟩]⟩

/-- `fav_board_t` — .fav board entry, natural alignment. -/
def fav_board_t (k : K) : CStruct := ⟨false, [
  ⟨"Bid", "int32_t bid", 4, 4, 1⟩,
  ⟨"LastVisit", "time4_t lastvisit", 4, 4, 1⟩,
  ⟨"Attr", "char attr", 1, 1, 1⟩]⟩

/-- `fav_line_t` — .fav line entry, natural alignment. -/
def fav_line_t (k : K) : CStruct := ⟨false, [
  ⟨"Lid", "int8_t lid", 1, 1, 1⟩]⟩

/-- `fav4_board_t` — version-4 .fav board entry, natural alignment. -/
def fav4_board_t (k : K) : CStruct := ⟨false, [
  ⟨"Bid", "int32_t bid", 4, 4, 1⟩,
  ⟨"LastVisit", "time4_t lastvisit", 4, 4, 1⟩,
  ⟨"Attr", "char attr", 1, 1, 1⟩]⟩

/-- `msgque_t` — shared-memory message, natural alignment. -/
def msgque_t (k : K) : CStruct := ⟨false, [
  ⟨"Pid", "pid_t pid", 4, 4, 1⟩,
  ⟨"UserID", "char userid[IDLEN+1]", 1, 1, 13⟩,
  ⟨"LastCallIn", "char last_call_in[76]", 1, 1, 76⟩,
  ⟨"MsgMode", "int msgmode", 4, 4, 1⟩]⟩

/-- `userinfo_t` — shared-memory user slot, natural alignment. -/
def userinfo_t (k : K) : CStruct := ⟨false, [
  ⟨"UID", "int uid", 4, 4, 1⟩,
  ⟨"Pid", "pid_t pid", 4, 4, 1⟩,
  ⟨"SockAddr", "int sockaddr", 4, 4, 1⟩,
  ⟨"UserLevel", "unsigned int userlevel", 4, 4, 1⟩,
  ⟨"UserID", "char userid[IDLEN+1]", 1, 1, 13⟩,
  ⟨"Nickname", "char nickname[24]", 1, 1, 24⟩,
  ⟨"From", "char from[27]", 1, 1, 27⟩,
  ⟨"FromIP", "in_addr_t from_ip", 4, 4, 1⟩,
  ⟨"DarkWin", "unsigned short dark_win", 2, 2, 1⟩,
  ⟨"DarkLose", "unsigned short dark_lose", 2, 2, 1⟩,
  ⟨"Gap0", "char gap_0", 1, 1, 1⟩,
  ⟨"AngelPause", "unsigned char angelpause", 1, 1, 1⟩,
  ⟨"DarkTie", "unsigned short dark_tie", 2, 2, 1⟩,
  ⟨"FriendTotal", "int friendtotal", 4, 4, 1⟩,
  ⟨"NFriends", "short nFriends", 2, 2, 1⟩,
  ⟨"Unused3_", "short _unused3", 2, 2, 1⟩,
  ⟨"MyFriend", "int myfriend[MAX_FRIEND]", 4, 4, (k.MAX_FRIEND)⟩,
  ⟨"Gap1", "char gap_1[4]", 1, 1, 4⟩,
  ⟨"FriendOnline", "unsigned int friend_online[MAX_FRIEND]", 4, 4, (k.MAX_FRIEND)⟩,
  ⟨"Gap2", "char gap_2[4]", 1, 1, 4⟩,
  ⟨"Reject", "int reject[MAX_REJECT]", 4, 4, (k.MAX_REJECT)⟩,
  ⟨"Gap3", "char gap_3[4]", 1, 1, 4⟩,
  ⟨"MsgCount", "char msgcount", 1, 1, 1⟩,
  ⟨"Unused4_", "char _unused4[3]", 1, 1, 3⟩,
  ⟨"Msgs", "msgque_t msgs[MAX_MSGS]", (sizeOf (msgque_t k)), 4, (k.MAX_MSGS)⟩,
  ⟨"Gap4", "char gap_4[sizeof(msgque_t)]", 1, 1, (sizeOf (msgque_t k))⟩,
  ⟨"Birth", "char birth", 1, 1, 1⟩,
  ⟨"Active", "unsigned char active", 1, 1, 1⟩,
  ⟨"Invisible", "unsigned char invisible", 1, 1, 1⟩,
  ⟨"Mode", "unsigned char mode", 1, 1, 1⟩,
  ⟨"Pager", "unsigned char pager", 1, 1, 1⟩,
  ⟨"Unused5_", "char _unused5", 1, 1, 1⟩,
  ⟨"Conn6Win", "unsigned short conn6_win", 2, 2, 1⟩,
  ⟨"LastAct", "time4_t lastact", 4, 4, 1⟩,
  ⟨"Alerts", "char alerts", 1, 1, 1⟩,
  ⟨"UnusedMind_", "char _unused_mind", 1, 1, 1⟩,
  ⟨"Conn6Lose", "unsigned short conn6_lose", 2, 2, 1⟩,
  ⟨"UnusedMind2_", "char _unused_mind2", 1, 1, 1⟩,
  ⟨"Sig", "char sig", 1, 1, 1⟩,
  ⟨"Conn6Tie", "unsigned short conn6_tie", 2, 2, 1⟩,
  ⟨"DestUID", "int destuid", 4, 4, 1⟩,
  ⟨"DestUip", "int destuip", 4, 4, 1⟩,
  ⟨"SockActive", "unsigned char sockactive", 1, 1, 1⟩,
  ⟨"InChat", "unsigned char in_chat", 1, 1, 1⟩,
  ⟨"Chatid", "char chatid[11]", 1, 1, 11⟩,
  ⟨"LockMode", "unsigned char lockmode", 1, 1, 1⟩,
  ⟨"Turn", "char turn", 1, 1, 1⟩,
  ⟨"Mateid", "char mateid[IDLEN+1]", 1, 1, 13⟩,
  ⟨"Color", "char color", 1, 1, 1⟩,
  ⟨"FiveWin", "unsigned short five_win", 2, 2, 1⟩,
  ⟨"FiveLose", "unsigned short five_lose", 2, 2, 1⟩,
  ⟨"FiveTie", "unsigned short five_tie", 2, 2, 1⟩,
  ⟨"ChcWin", "unsigned short chc_win", 2, 2, 1⟩,
  ⟨"ChcLose", "unsigned short chc_lose", 2, 2, 1⟩,
  ⟨"ChcTie", "unsigned short chc_tie", 2, 2, 1⟩,
  ⟨"ChessEloRating", "unsigned short chess_elo_rating", 2, 2, 1⟩,
  ⟨"GoWin", "unsigned short go_win", 2, 2, 1⟩,
  ⟨"GoLose", "unsigned short go_lose", 2, 2, 1⟩,
  ⟨"GoTie", "unsigned short go_tie", 2, 2, 1⟩,
  ⟨"WithMe", "unsigned int withme", 4, 4, 1⟩,
  ⟨"BrcID", "unsigned int brc_id", 4, 4, 1⟩,
  ⟨"WBTime", "time4_t wbtime /* NOKILLWATERBALL */", 4, 4, 1⟩]⟩

/-- `SHM_t.GV2 (union { int v[512]; struct e })` — shared-memory global variables, natural alignment. -/
def shm_gv2_t (k : K) : CStruct := ⟨false, [
  ⟨"DyMaxMctive", "int dymaxactive", 4, 4, 1⟩,
  ⟨"TooManyUsers", "int toomanyusers", 4, 4, 1⟩,
  ⟨"NoonLineUser", "int noonlineuser", 4, 4, 1⟩,
  ⟨"Now", "time4_t now", 4, 4, 1⟩,
  ⟨"NWelcomes", "int nWelcomes", 4, 4, 1⟩,
  ⟨"Shutdown", "int shutdown", 4, 4, 1⟩,
  ⟨"Dummy", "(rest of int v[512])", 4, 4, 506⟩]⟩

/-- `SHM_t` — the shared-memory segment, natural alignment. -/
def SHM_t (k : K) : CStruct := ⟨false, [
  ⟨"Version", "int version", 4, 4, 1⟩,
  ⟨"Size", "int size", 4, 4, 1⟩,
  ⟨"Userid", "char userid[MAX_USERS][IDLEN+1]", 13, 1, (k.MAX_USERS)⟩,
  ⟨"Gap1", "char gap_1[IDLEN+1]", 1, 1, 13⟩,
  ⟨"NextInHash", "int next_in_hash[MAX_USERS]", 4, 4, (k.MAX_USERS)⟩,
  ⟨"Gap2", "char gap_2[sizeof(int)]", 1, 1, 4⟩,
  ⟨"Money", "int money[MAX_USERS]", 4, 4, (k.MAX_USERS)⟩,
  ⟨"Gap3", "char gap_3[sizeof(int)]", 1, 1, 4⟩,
  ⟨"CooldownTime", "time4_t cooldowntime[MAX_USERS] /* USE_COOLDOWN */", 4, 4, (k.MAX_USERS)⟩,
  ⟨"Gap4", "char gap_4[sizeof(int)]", 1, 1, 4⟩,
  ⟨"HashHead", "int hash_head[1 << HASH_BITS]", 4, 4, (2 ^ k.HASH_BITS)⟩,
  ⟨"Gap5", "char gap_5[sizeof(int)]", 1, 1, 4⟩,
  ⟨"Number", "int number", 4, 4, 1⟩,
  ⟨"Loaded", "int loaded", 4, 4, 1⟩,
  ⟨"UInfo", "userinfo_t uinfo[USHM_SIZE]", (sizeOf (userinfo_t k)), 4, ((k.MAX_ACTIVE * 41 / 40))⟩,
  ⟨"Gap6", "char gap_6[sizeof(userinfo_t)]", 1, 1, (sizeOf (userinfo_t k))⟩,
  ⟨"Sorted", "int sorted[2][9][USHM_SIZE]", 4, 4, (2 * 9 * (k.MAX_ACTIVE * 41 / 40))⟩,
  ⟨"Gap7", "char gap_7[sizeof(int)]", 1, 1, 4⟩,
  ⟨"CurrSorted", "int currsorted", 4, 4, 1⟩,
  ⟨"UTMPUptime", "time4_t UTMPuptime", 4, 4, 1⟩,
  ⟨"UTMPNumber", "int UTMPnumber", 4, 4, 1⟩,
  ⟨"UTMPNeedSort", "char UTMPneedsort", 1, 1, 1⟩,
  ⟨"UTMPBusyState", "char UTMPbusystate", 1, 1, 1⟩,
  ⟨"Gap8", "char gap_8[sizeof(int)]", 1, 1, 4⟩,
  ⟨"BMCache", "int BMcache[MAX_BOARD][MAX_BMs]", 4, 4, (k.MAX_BOARD * 4)⟩,
  ⟨"Gap9", "char gap_9[sizeof(int)]", 1, 1, 4⟩,
  ⟨"BCache", "boardheader_t bcache[MAX_BOARD]", (sizeOf (boardheader_t k)), 1, (k.MAX_BOARD)⟩,
  ⟨"Gap10", "char gap_10[sizeof(int)]", 1, 1, 4⟩,
  ⟨"BSorted", "int bsorted[2][MAX_BOARD]", 4, 4, (2 * k.MAX_BOARD)⟩,
  ⟨"Gap11", "char gap_11[sizeof(int)]", 1, 1, 4⟩,
  ⟨"NHOTs", "unsigned char nHOTs /* HOTBOARDCACHE */", 1, 1, 1⟩,
  ⟨"HBcache", "int HBcache[HOTBOARDCACHE]", 4, 4, (k.HOTBOARDCACHE)⟩,
  ⟨"Gap12", "char gap_12[sizeof(int)]", 1, 1, 4⟩,
  ⟨"BusyStateB", "time4_t busystate_b[MAX_BOARD]", 4, 4, (k.MAX_BOARD)⟩,
  ⟨"Gap13", "char gap_13[sizeof(int)]", 1, 1, 4⟩,
  ⟨"Total", "int total[MAX_BOARD]", 4, 4, (k.MAX_BOARD)⟩,
  ⟨"Gap14", "char gap_14[sizeof(int)]", 1, 1, 4⟩,
  ⟨"NBottom", "unsigned char n_bottom[MAX_BOARD]", 1, 1, (k.MAX_BOARD)⟩,
  ⟨"Gap15", "char gap_15[sizeof(int)]", 1, 1, 4⟩,
  ⟨"Hbfl", "int hbfl[MAX_BOARD][MAX_FRIEND+1]", 4, 4, (k.MAX_BOARD * (k.MAX_FRIEND + 1))⟩,
  ⟨"Gap16", "char gap_16[sizeof(int)]", 1, 1, 4⟩,
  ⟨"LastPostTime", "time4_t lastposttime[MAX_BOARD]", 4, 4, (k.MAX_BOARD)⟩,
  ⟨"Gap17", "char gap_17[sizeof(int)]", 1, 1, 4⟩,
  ⟨"BUptime", "time4_t Buptime", 4, 4, 1⟩,
  ⟨"BTouchTime", "time4_t Btouchtime", 4, 4, 1⟩,
  ⟨"BNumber", "int Bnumber", 4, 4, 1⟩,
  ⟨"BBusyState", "int Bbusystate", 4, 4, 1⟩,
  ⟨"CloseVoteTime", "time4_t close_vote_time", 4, 4, 1⟩,
  ⟨"Notes", "char notes[MAX_ADBANNER][256*MAX_ADBANNER_HEIGHT]", 1, 1, (k.MAX_ADBANNER * (256 * k.MAX_ADBANNER_HEIGHT))⟩,
  ⟨"Gap18", "char gap_18[sizeof(int)]", 1, 1, 4⟩,
  ⟨"TodayIs", "char today_is[20]", 1, 1, 20⟩,
  ⟨"NeverUsedNNotes_", "int __never_used__n_notes[MAX_ADBANNER_SECTION]", 4, 4, (k.MAX_ADBANNER_SECTION)⟩,
  ⟨"Gap19", "char gap_19[sizeof(int)]", 1, 1, 4⟩,
  ⟨"NeverUsedNextRefresh_", "int __never_used__next_refresh[MAX_ADBANNER_SECTION]", 4, 4, (k.MAX_ADBANNER_SECTION)⟩,
  ⟨"Gap20", "char gap_20[sizeof(int)]", 1, 1, 4⟩,
  ⟨"LoginMsg", "msgque_t loginmsg", (sizeOf (msgque_t k)), 4, 1⟩,
  ⟨"LastFilm", "int last_film", 4, 4, 1⟩,
  ⟨"LastUsong", "int last_usong", 4, 4, 1⟩,
  ⟨"PUptime", "time4_t Puptime", 4, 4, 1⟩,
  ⟨"PTouchTime", "time4_t Ptouchtime", 4, 4, 1⟩,
  ⟨"PBusyState", "int Pbusystate", 4, 4, 1⟩,
  ⟨"GV2", "union { int v[512]; struct e; } GV2", (sizeOf (shm_gv2_t k)), 4, 1⟩,
  ⟨"Statistic", "unsigned int statistic[STAT_MAX]", 4, 4, 512⟩,
  ⟨"DeprecatedHomeIp_", "unsigned int _deprecated_home_ip[MAX_FROM]", 4, 4, (k.MAX_FROM)⟩,
  ⟨"DeprecatedHomeMask_", "unsigned int _deprecated_home_mask[MAX_FROM]", 4, 4, (k.MAX_FROM)⟩,
  ⟨"DeprecatedHomeDesc_", "char _deprecated_home_desc[MAX_FROM][32]", 32, 1, (k.MAX_FROM)⟩,
  ⟨"DeprecatedHomeNum_", "int _deprecated_home_num", 4, 4, 1⟩,
  ⟨"MaxUser", "int max_user", 4, 4, 1⟩,
  ⟨"MaxTime", "time4_t max_time", 4, 4, 1⟩,
  ⟨"FUptime", "time4_t Fuptime", 4, 4, 1⟩,
  ⟨"FTouchTime", "time4_t Ftouchtime", 4, 4, 1⟩,
  ⟨"FBusyState", "int Fbusystate", 4, 4, 1⟩]⟩

/-- the frozen struct of a Go record type. -/
def byGoName (k : K) : List (String × CStruct) := [
  ("UserecRaw", userec_t k),
  ("Userec2Raw", userec2_t k),
  ("BoardHeaderRaw", boardheader_t k),
  ("FileHeaderRaw", fileheader_t k),
  ("PostLog", postlog_t k),
  ("FavBoard", fav_board_t k),
  ("FavLine", fav_line_t k),
  ("Fav4Board", fav4_board_t k),
  ("MsgQueueRaw", msgque_t k),
  ("UserInfoRaw", userinfo_t k),
  ("shmGV2", shm_gv2_t k),
  ("SHMRaw", SHM_t k)]

/-- documented sizes; the Go oracle reads the table of the same name in go/cmd/c01/frozen.go (the `anchor_*`
theorems state them as literals). -/
def documentedSize : List (String × Nat) := [
  ("UserecRaw", 512),
  ("Userec2Raw", 128),
  ("BoardHeaderRaw", 256),
  ("FileHeaderRaw", 128),
  ("PostLog", 100),
  ("FavBoard", 12),
  ("FavLine", 1),
  ("Fav4Board", 12),
  ("MsgQueueRaw", 100),
  ("shmGV2", 2048)]

/-- the production constants under which `userinfo_t` is documented to be 3484 bytes
(only MAX_FRIEND, MAX_REJECT and MAX_MSGS enter `userinfo_t`; the others are the docker values). -/
def prodK : K where
  MAX_USERS := 2000000
  MAX_ACTIVE := 512
  MAX_BOARD := 20000
  HASH_BITS := 16
  MAX_FRIEND := 256
  MAX_REJECT := 32
  MAX_MSGS := 10
  MAX_ADBANNER := 500
  MAX_ADBANNER_SECTION := 10
  MAX_ADBANNER_HEIGHT := 11
  HOTBOARDCACHE := 128
  MAX_FROM := 300

/-- which field(s) of which record each partial update is meant to touch (in the order the code seeks to them),
and the record-size constant it must use as stride (`none`: single-record file). -/
def intended : List (String × String × Option String × List String) := [
  ("cmbbs.PasswdQuery", "UserecRaw", some "USEREC_RAW_SZ", []),
  ("cmbbs.PasswdUpdate", "UserecRaw", some "USEREC_RAW_SZ", []),
  ("cmbbs.PasswdQueryPasswd", "UserecRaw", some "USEREC_RAW_SZ", ["PasswdHash"]),
  ("cmbbs.PasswdQueryUserLevel", "UserecRaw", some "USEREC_RAW_SZ", ["UserLevel"]),
  ("cmbbs.PasswdUpdatePasswd", "UserecRaw", some "USEREC_RAW_SZ", ["PasswdHash"]),
  ("cmbbs.PasswdUpdateEmail", "UserecRaw", some "USEREC_RAW_SZ", ["Email"]),
  ("cache.passwdUpdateMoney", "UserecRaw", some "USEREC_RAW_SZ", ["Money"]),
  ("cmbbs.PasswdGetUserLevel2", "Userec2Raw", none, ["UserLevel2"]),
  ("cmbbs.PasswdUpdateUserLevel2", "Userec2Raw", none, ["UserLevel2", "UserLevel2", "UpdateTS"])]

/-! the transcription agrees with the documented sizes -/

theorem anchor_userec_t : sizeOf (userec_t prodK) = 512 := by decide +kernel
theorem anchor_userec2_t : sizeOf (userec2_t prodK) = 128 := by decide +kernel
theorem anchor_boardheader_t : sizeOf (boardheader_t prodK) = 256 := by decide +kernel
theorem anchor_fileheader_t : sizeOf (fileheader_t prodK) = 128 := by decide +kernel
theorem anchor_postlog_t : sizeOf (postlog_t prodK) = 100 := by decide +kernel
theorem anchor_fav_board_t : sizeOf (fav_board_t prodK) = 12 := by decide +kernel
theorem anchor_fav_line_t : sizeOf (fav_line_t prodK) = 1 := by decide +kernel
theorem anchor_fav4_board_t : sizeOf (fav4_board_t prodK) = 12 := by decide +kernel
theorem anchor_msgque_t : sizeOf (msgque_t prodK) = 100 := by decide +kernel
theorem anchor_shm_gv2_t : sizeOf (shm_gv2_t prodK) = 2048 := by decide +kernel
theorem anchor_userinfo_t : sizeOf (userinfo_t prodK) = 3484 := by decide +kernel

end PttVerif.C01.Frozen
