import PttVerif.Proofs.C14
/-
C14 — Concurrent appends never lose, tear or double-assign a record.

The theorems with a hypothesis `Reachable proc true n0 s` are about ALL states reachable by ANY interleaving of the
atomic steps (failing system calls included) of ANY number of threads in ANY number of processes (`proc` is
arbitrary), from a file of `n0` old records, in the system whose lock functions clean up after a refused kernel lock
(`cl = true`: what `source_cleans_up` reads from the source).
-/
namespace PttVerif.C14.Props
open PttVerif.C14

variable (proc : Nat → Nat) (n0 : Nat)

/-- read from cmsys/lock.go on every run: GoFlock, GoFlockExNb and GoPttLock take the key out of the
lock table again when the kernel lock is not obtained (`cl = true` in the theorems below). -/
theorem source_cleans_up : sourceCleansUp = true := by decide +kernel

/-- read from the source on every run: every function that takes one of these locks registers the
unlock with `defer` before any statement that can return. -/
theorem source_users_defer : usersDeferOf Gen.Lock.lockUsers = true := by decide +kernel

/-- the inductive invariant holds in every reachable state. -/
theorem invariant (s : Sys) (h : Reachable proc true n0 s) : Inv proc n0 s := reachable_inv proc n0 s h

/-- at most one thread is between flock and funlock, system-wide. -/
theorem mutual_exclusion (s : Sys) (h : Reachable proc true n0 s) (t u : Nat)
    (ht : holds (s.pc t) = true) (hu : holds (s.pc u) = true) : t = u :=
  holds_unique (reachable_inv proc n0 s h).holder_iff t u ht hu

/-- within one process at most one thread owns the lock-table entry. -/
theorem one_owner_per_process (s : Sys) (h : Reachable proc true n0 s) (t u : Nat)
    (ht : owns (s.pc t) = true) (hu : owns (s.pc u) = true) (hp : proc t = proc u) : t = u :=
  (reachable_inv proc n0 s h).owner_unique t u ht hu hp

/-- returned indices are pairwise distinct (also against calls that have written but not yet returned). -/
theorem distinct_indices (s : Sys) (h : Reachable proc true n0 s) (t u i : Nat)
    (ht : wroteAt (s.pc t) = some i) (hu : wroteAt (s.pc u) = some i) : t = u := by
  have inv := reachable_inv proc n0 s h
  have a := inv.written_at t i ht
  have b := inv.written_at u i hu
  rw [a] at b
  exact Option.some.inj (Option.some.inj b)

/-- a returned index holds that call's record, intact, and lies after the old records. -/
theorem records_intact (s : Sys) (h : Reachable proc true n0 s) (t i : Nat) (ht : s.pc t = .doneOk i) :
    s.recs[i]? = some (some t) ∧ n0 ≤ i := by
  have inv := reachable_inv proc n0 s h
  have a := inv.written_at t i (by rw [ht]; rfl)
  refine ⟨a, Nat.le_of_not_lt fun hlt => ?_⟩
  -- below `n0` the file has the old records, written by nobody
  obtain ⟨ws, h1, _, _⟩ := inv.writers
  rw [h1, List.getElem?_append_left (by rw [List.length_replicate]; exact hlt), List.getElem?_replicate,
    if_pos hlt] at a
  cases a

/-- the old records are never touched. -/
theorem old_records_untouched (s : Sys) (h : Reachable proc true n0 s) :
    s.recs.take n0 = List.replicate n0 none := by
  obtain ⟨ws, h1, _, _⟩ := (reachable_inv proc n0 s h).writers
  rw [h1]
  exact List.take_left' List.length_replicate

/-- file length = initial length + one record per call that has written; the writers are exactly
the threads that wrote (each once): `ws` is duplicate-free and its members are those threads. -/
theorem final_length (s : Sys) (h : Reachable proc true n0 s) :
    ∃ ws : List Nat, s.recs.length = n0 + ws.length ∧ ws.Nodup ∧
      ∀ t, t ∈ ws ↔ (wroteAt (s.pc t)).isSome = true := by
  obtain ⟨ws, h1, h2, h3⟩ := (reachable_inv proc n0 s h).writers
  exact ⟨ws, by rw [h1, List.length_append, List.length_replicate, List.length_map], h2, h3⟩

/-- no thread is in flight, i.e. between a successful lockFD and its return (a thread that has not started or
whose lockFD failed is not in flight). -/
def quiescent (s : Sys) : Prop := ∀ t, owns (s.pc t) = false

/-- when every call has returned, every lock table is empty and the kernel lock is free. -/
theorem locks_released (s : Sys) (h : Reachable proc true n0 s) (q : quiescent s) :
    s.holder = none ∧ ∀ p, s.table p = false := by
  have inv := reachable_inv proc n0 s h
  constructor
  · cases hh : s.holder with
    | none => rfl
    | some t =>
      have := owns_of_holds _ ((inv.holder_iff t).1 hh)
      rw [q t] at this
      cases this
  · intro p
    cases hp : s.table p with
    | false => rfl
    | true =>
      obtain ⟨w, _, hw⟩ := inv.table_owner p hp
      rw [q w] at hw
      cases hw

/-- run thread `t` for `k` consecutive steps. -/
def runThread (t : Nat) : Nat → Sys → Option Sys
  | 0, s => some s
  | k + 1, s => (step proc true s t).bind (runThread t k)

theorem runThread_reachable (t : Nat) : ∀ (k : Nat) (s s' : Sys), Reachable proc true n0 s →
    runThread proc t k s = some s' → Reachable proc true n0 s' := by
  intro k
  induction k with
  | zero =>
    intro s s' r e
    cases e
    exact r
  | succ k ih =>
    intro s s' r e
    obtain ⟨s1, hs, e⟩ := Option.bind_eq_some_iff.1 e
    exact ih s1 s' (.step t r hs) e

/-- an append issued after the others have finished always succeeds, at the next index:
the thread's six atomic steps are all enabled and it returns `length + 1`. -/
theorem later_append_succeeds (s : Sys) (h : Reachable proc true n0 s) (q : quiescent s) (t : Nat)
    (ht : s.pc t = .start) :
    ∃ s', runThread proc t 6 s = some s' ∧ s'.pc t = .doneOk s.recs.length ∧
      s'.recs = s.recs ++ [some t] ∧ s'.holder = none ∧ s'.table (proc t) = false := by
  obtain ⟨hh, htab⟩ := locks_released proc n0 s h q
  let s1 : Sys := { s with pc := setPc s t .wantFlock, table := setTable s (proc t) true }
  let s2 : Sys := { s1 with pc := setPc s1 t .haveLock, holder := some t }
  let s3 : Sys := { s2 with pc := setPc s2 t (.seeked s.recs.length) }
  let s4 : Sys := { s3 with pc := setPc s3 t (.written s.recs.length), recs := writeRec s.recs s.recs.length t }
  let s5 : Sys := { s4 with pc := setPc s4 t (.unlocked s.recs.length), holder := none }
  let s6 : Sys := { s5 with pc := setPc s5 t (.doneOk s.recs.length), table := setTable s5 (proc t) false }
  have e1 : step proc true s t = some s1 := by simp [step, ht, htab, s1]
  have e2 : step proc true s1 t = some s2 := by simp [step, s1, s2, hh]
  have e3 : step proc true s2 t = some s3 := by simp [step, s2, s3, s1]
  have e4 : step proc true s3 t = some s4 := by simp [step, s3, s4, s2, s1]
  have e5 : step proc true s4 t = some s5 := by simp [step, s4, s5]
  have e6 : step proc true s5 t = some s6 := by simp [step, s5, s6]
  refine ⟨s6, ?_, ?_, ?_, ?_, ?_⟩
  · simp only [runThread, e1, e2, e3, e4, e5, e6, Option.bind_some]
  · simp [s6]
  · simp [s6, s5, s4, writeRec]
  · simp [s6, s5]
  · simp [s6, setTable]

/-- no deadlock: if some thread is blocked waiting for the flock, the holder has an enabled step;
every thread that has not returned and is not waiting has an enabled step itself. -/
theorem no_deadlock (s : Sys) (h : Reachable proc true n0 s) (t : Nat)
    (ht : ∀ i, s.pc t ≠ .doneOk i) (ht' : s.pc t ≠ .doneErr) (ht'' : s.pc t ≠ .doneFail) :
    (∃ s', step proc true s t = some s') ∨
    (s.pc t = .wantFlock ∧ ∃ u s', s.holder = some u ∧ step proc true s u = some s') := by
  rcases step_enabled proc true s t ht ht' ht'' with h1 | ⟨hw, u, hu⟩
  · exact .inl h1
  · refine .inr ⟨hw, u, ?_⟩
    -- the holder is between flock and funlock: it has not returned and does not wait
    have hh := ((reachable_inv proc n0 s h).holder_iff u).1 hu
    have notOk : ∀ i, s.pc u ≠ .doneOk i := fun i e => by rw [e] at hh; cases hh
    have notErr : s.pc u ≠ .doneErr := fun e => by rw [e] at hh; cases hh
    have notFail : s.pc u ≠ .doneFail := fun e => by rw [e] at hh; cases hh
    rcases step_enabled proc true s u notOk notErr notFail with ⟨s', hs⟩ | ⟨hw', _⟩
    · exact ⟨s', hu, hs⟩
    · rw [hw'] at hh
      cases hh

/-! ### the schedule-level semantics only takes atomic steps

`wake`, `tryLock`, `release` and a whole schedule (what the correspondence harness validates against the real code)
produce reachable states only, so every theorem above applies to every state the driven implementation was
observed in. In each proof the goals of `fun_cases` come in the order of the branches of the function, counted
from 1; the branches not named leave the system as it is. -/

theorem wake_reachable (n : Nat) (sc : Sched) (h : Reachable proc true n0 sc.sys) :
    Reachable proc true n0 (wake proc true n sc).sys := by
  fun_cases wake proc true n sc
  case case3 u _ s' hs => exact .step u h hs
  all_goals exact h

theorem tryLock_reachable (sc : Sched) (t : Nat) (h : Reachable proc true n0 sc.sys) :
    Reachable proc true n0 (tryLock proc true sc t).sys := by
  fun_cases tryLock proc true sc t
  case case3 s1 hs1 _ => exact .step t h hs1
  case case4 s1 hs1 s2 hs2 s3 hs3 => exact .step t (.fail t (.step t h hs1) hs2) hs3
  case case5 s1 hs1 s2 hs2 _ => exact .fail t (.step t h hs1) hs2
  all_goals exact h

theorem release_reachable (n : Nat) (sc : Sched) (t : Nat) (h : Reachable proc true n0 sc.sys) :
    Reachable proc true n0 (release proc true n sc t).sys := by
  fun_cases release proc true n sc t
  case case1 => exact tryLock_reachable proc n0 sc t h
  -- at `start`: lockFD, then flock unless lockFD failed or the flock is held
  case case5 s1 hs1 _ => exact .step t h hs1
  case case6 s1 hs1 s2 hs2 _ => exact .step t (.step t h hs1) hs2
  case case7 s1 hs1 _ _ => exact .step t h hs1
  -- at `haveLock`: seekEnd
  case case8 s1 hs1 => exact .step t h hs1
  -- at `seeked`, the write fails: funlock, unlockFD, a waiter is woken
  case case11 s1 hs1 _ => exact .fail t h hs1
  case case12 s1 hs1 s2 hs2 s3 hs3 =>
    exact wake_reachable proc n0 n _ (.step t (.step t (.fail t h hs1) hs2) hs3)
  case case13 s1 hs1 s2 hs2 _ => exact .step t (.fail t h hs1) hs2
  -- at `seeked`: the write
  case case14 s1 hs1 => exact .step t h hs1
  -- at `written`: funlock, unlockFD, a waiter is woken
  case case17 s1 hs1 s2 hs2 => exact wake_reachable proc n0 n _ (.step t (.step t h hs1) hs2)
  all_goals exact h

theorem schedule_reachable (n : Nat) (sched : List Nat) (sc : Sched) (h : Reachable proc true n0 sc.sys) :
    Reachable proc true n0 (sched.foldl (release proc true n) sc).sys := by
  induction sched generalizing sc with
  | nil => exact h
  | cons t ts ih => exact ih _ (release_reachable proc n0 n sc t h)

/-- a lock attempt that the kernel refuses (EWOULDBLOCK, EINTR, …) leaves nothing behind: the call
returns an error and its process's table entry is free again. -/
theorem failed_lock_released (s : Sys) (t : Nat) (ht : s.pc t = .wantFlock) :
    ∃ s1 s2, failStep s t = some s1 ∧ step proc true s1 t = some s2 ∧
      s2.pc t = .doneErr ∧ s2.table (proc t) = false ∧ s2.holder = s.holder ∧ s2.recs = s.recs := by
  let s1 : Sys := { s with pc := setPc s t .lockFailed }
  let s2 : Sys := { s1 with pc := setPc s1 t .doneErr, table := setTable s1 (proc t) false }
  exact ⟨s1, s2, by simp [failStep, ht, s1], by simp [step, s1, s2], by simp [s2], by simp [s2, setTable], rfl, rfl⟩

/-! ### concrete histories; the leak without the cleanup -/

/-- actions of a history: an atomic step of a thread, or a refused kernel lock call of a thread. -/
inductive Act where
  | st (t : Nat)
  | fl (t : Nat)

def exec (cl : Bool) : List Act → Sys → Option Sys
  | [], s => some s
  | .st t :: as, s => (step proc cl s t).bind (exec cl as)
  | .fl t :: as, s => (failStep s t).bind (exec cl as)

theorem exec_reachable (cl : Bool) : ∀ (as : List Act) (s s' : Sys), Reachable proc cl n0 s →
    exec proc cl as s = some s' → Reachable proc cl n0 s' := by
  intro as
  induction as with
  | nil =>
    intro s s' r e
    cases e
    exact r
  | cons a as ih =>
    intro s s' r e
    cases a with
    | st t =>
      obtain ⟨s1, hs, e⟩ := Option.bind_eq_some_iff.1 e
      exact ih s1 s' (.step t r hs) e
    | fl t =>
      obtain ⟨s1, hs, e⟩ := Option.bind_eq_some_iff.1 e
      exact ih s1 s' (.fail t r hs) e

/-- a thread's state is changed by its own steps only. -/
theorem step_pc_other (cl : Bool) (s s' : Sys) (t u : Nat) (h : step proc cl s t = some s') (hu : u ≠ t) :
    s'.pc u = s.pc u := by
  revert h
  fun_cases step proc cl s t
  case case4 => nofun
  case case13 => nofun
  case case14 => nofun
  case case15 => nofun
  all_goals
    rintro ⟨⟩
    exact setPc_other hu

theorem failStep_pc_other (s s' : Sys) (t u : Nat) (h : failStep s t = some s') (hu : u ≠ t) :
    s'.pc u = s.pc u := by
  revert h
  fun_cases failStep s t
  case case4 => nofun
  all_goals
    rintro ⟨⟩
    exact setPc_other hu

def Act.thread : Act → Nat
  | .st t => t
  | .fl t => t

theorem exec_pc_other (cl : Bool) (u : Nat) : ∀ (as : List Act) (s s' : Sys),
    exec proc cl as s = some s' → (∀ a ∈ as, a.thread ≠ u) → s'.pc u = s.pc u := by
  intro as
  induction as with
  | nil =>
    intro s s' e _
    cases e
    rfl
  | cons a as ih =>
    intro s s' e hne
    have ha : a.thread ≠ u := hne a List.mem_cons_self
    have hrest : ∀ b ∈ as, b.thread ≠ u := fun b hb => hne b (List.mem_cons_of_mem a hb)
    cases a with
    | st t =>
      obtain ⟨s1, hs, e⟩ := Option.bind_eq_some_iff.1 e
      rw [ih s1 s' e hrest]
      exact step_pc_other proc cl s s1 t u hs (Ne.symm ha)
    | fl t =>
      obtain ⟨s1, hs, e⟩ := Option.bind_eq_some_iff.1 e
      rw [ih s1 s' e hrest]
      exact failStep_pc_other s s1 t u hs (Ne.symm ha)

/-- the history of the defect repaired by d86fe7a: thread 0 (process 0) takes the flock, thread 1
(process 1) tries and is refused by the kernel, thread 0 finishes. -/
def leakHistory : List Act := [.st 0, .st 0, .st 1, .fl 1, .st 1, .st 0, .st 0, .st 0, .st 0]

def leakState (cl : Bool) : Sys := (exec (fun t => t % 2) cl leakHistory (init 0)).getD (init 0)

theorem leakState_eq (cl : Bool) : exec (fun t => t % 2) cl leakHistory (init 0) = some (leakState cl) := by
  cases cl
  · exact eq_some_getD _ (by decide +kernel)
  · exact eq_some_getD _ (by decide +kernel)

/-- the negation without the cleanup: after `leakHistory` every call has returned and the flock is
free, yet process 1's table entry is still set, and the next append of process 1 (thread 3) fails. -/
theorem leak_without_cleanup :
    Reachable (fun t => t % 2) false 0 (leakState false) ∧
      (∀ t, (leakState false).pc t = .start ∨ (∃ i, (leakState false).pc t = .doneOk i) ∨ (leakState false).pc t = .doneErr) ∧
      (leakState false).holder = none ∧ (leakState false).table 1 = true ∧
      ∃ s', step (fun t => t % 2) false (leakState false) 3 = some s' ∧ s'.pc 3 = .doneErr := by
  have ends : (leakState false).pc 0 = .doneOk 0 ∧ (leakState false).pc 1 = .doneErr ∧
      (leakState false).holder = none ∧ (leakState false).table 1 = true := by decide +kernel
  -- the history moves threads 0 and 1 only
  have others : ∀ t, t ≠ 0 → t ≠ 1 → (leakState false).pc t = .start := by
    intro t h0 h1
    have acts : ∀ a ∈ leakHistory, a.thread = 0 ∨ a.thread = 1 := by decide
    refine exec_pc_other (fun t => t % 2) false t leakHistory (init 0) _ (leakState_eq false) ?_
    intro a ha e
    rw [← e] at h0 h1
    exact (acts a ha).elim h0 h1
  refine ⟨?_, ?_, ends.2.2.1, ends.2.2.2, ?_⟩
  · exact exec_reachable (fun t => t % 2) 0 false leakHistory (init 0) _ .init (leakState_eq false)
  · intro t
    by_cases h0 : t = 0
    · exact .inr (.inl ⟨0, h0 ▸ ends.1⟩)
    · by_cases h1 : t = 1
      · exact .inr (.inr (h1 ▸ ends.2.1))
      · exact .inl (others t h0 h1)
  · refine ⟨{ leakState false with pc := setPc (leakState false) 3 .doneErr }, ?_,
      setPc_same (leakState false) 3 .doneErr⟩
    unfold step
    rw [others 3 (by decide) (by decide)]
    exact if_pos ends.2.2.2

/-- with the cleanup the same history ends with every table entry free (instance of `locks_released`). -/
example : (leakState true).table 0 = false ∧ (leakState true).table 1 = false ∧ (leakState true).holder = none := by
  decide +kernel

/-! non-vacuity: the hypotheses are met by reachable states — from the initial system an appender
runs to completion, giving a reachable quiescent state with a returned index. -/
example : ∃ s, Reachable (fun t => t) true 3 s ∧ s.pc 0 = .doneOk 3 ∧ s.recs = [none, none, none, some 0] := by
  have r0 : Reachable (fun t => t) true 3 (init 3) := .init
  obtain ⟨s6, e6, p6, r6, _, _⟩ :=
    later_append_succeeds (fun t => t) 3 (init 3) r0 (fun _ => rfl) 0 rfl
  exact ⟨s6, runThread_reachable (fun t => t) 3 0 6 _ _ r0 e6, p6, r6⟩

/-! ### other users of the same locks: descriptor numbers and fallback writers -/

/-- read from the source on every run, for every function of the repository that takes one of the
locks: the deferred unlock is given the locked file's own descriptor, and the file is closed only
after that unlock has run (`defer file.Close()` registered first, no explicit Close while the unlock is
pending). -/
theorem source_unlock_before_close : unlockBeforeCloseOf Gen.Lock.lockClose = true := by decide +kernel

/-- read from the source on every run, for every call of cmsys.AppendRecord in the repository: the
caller hands the error on or drops it (or calls AppendRecord again) — none writes the record by
another route. -/
theorem source_append_callers_no_bypass : noBypassOf Gen.Lock.appendCallers = true := by decide +kernel

/-- the facts talk about the same functions: every lock user has its close-order verdict. -/
theorem source_lock_users_covered :
    Gen.Lock.lockClose.map (·.1) = Gen.Lock.lockUsers.map (·.1) := rfl

variable (procU : Nat → Nat)

/-- with the discipline the two facts establish, the system with descriptor numbers, other lock users
and their unlocks is — for the appenders — exactly the system of the theorems above: every reachable
state's appender part is `Reachable`. -/
theorem disciplined_reachable (x : XSys) (h : XReachable proc procU true disciplined n0 x) :
    Reachable proc true n0 x.sys :=
  (xreachable_disciplined proc procU n0 x h).2

/-- no foreign unlock is reachable: whenever a lock user is about to issue its unlock, the number it
passes names its own open description (so `unlockNum` cannot touch an appender's flock). -/
theorem no_foreign_unlock (x : XSys) (h : XReachable proc procU true disciplined n0 x) (u n : Nat)
    (hu : x.upc u = .opened n) :
    x.names (procU u) n = some (.usr u) ∧ unlockNum x (procU u) n = x := by
  have mine := (xreachable_disciplined proc procU n0 x h).1.usr_names u n (Or.inl hu)
  exact ⟨mine, unlockNum_usr mine⟩

/-- … and no unlock is ever pending on a closed file, no fallback write ever starts. -/
theorem disciplined_no_stale (x : XSys) (h : XReachable proc procU true disciplined n0 x) :
    (∀ u n, x.upc u ≠ .closed n) ∧ ∀ t, x.byp t = .idle :=
  ⟨(xreachable_disciplined proc procU n0 x h).1.no_closed, (xreachable_disciplined proc procU n0 x h).1.byp_idle⟩

/-- so the theorems about `Reachable` states hold of the appender part in the presence of the other lock users;
spelt out for the two that `foreign_unlock_double_assign` and `bypass_shares_slot` break: -/
theorem disciplined_distinct_indices (x : XSys) (h : XReachable proc procU true disciplined n0 x) (t u i : Nat)
    (ht : wroteAt (x.sys.pc t) = some i) (hu : wroteAt (x.sys.pc u) = some i) : t = u :=
  distinct_indices proc n0 x.sys (disciplined_reachable proc n0 procU x h) t u i ht hu

theorem disciplined_final_length (x : XSys) (h : XReachable proc procU true disciplined n0 x) :
    ∃ ws : List Nat, x.sys.recs.length = n0 + ws.length ∧ ws.Nodup ∧
      ∀ t, t ∈ ws ↔ (wroteAt (x.sys.pc t)).isSome = true :=
  final_length proc n0 x.sys (disciplined_reachable proc n0 procU x h)

theorem xexec_reachable (cl : Bool) (d : Disc) : ∀ (as : List XAct) (x x' : XSys),
    XReachable proc procU cl d n0 x → xexec proc procU cl d as x = some x' → XReachable proc procU cl d n0 x' := by
  intro as
  induction as with
  | nil =>
    intro x x' r e
    cases e
    exact r
  | cons a as ih =>
    intro x x' r e
    obtain ⟨x1, hs, e⟩ := Option.bind_eq_some_iff.1 e
    exact ih x1 x' (.step a r hs) e

/-- the history a close-before-unlock lock user makes possible (appender 0 and lock user 0 in process
0, appender 1 in process 1): the user opens its file as number 3 and closes it; appender 0's
OpenFile is handed number 3, it takes the flock and reads the length; the user's deferred unlock of
number 3 drops appender 0's flock; appender 1 locks, reads the same length, writes, returns;
appender 0 writes the same slot and returns. -/
def foreignHistory : List XAct :=
  [.uopen 0 3, .uclose 0, .aopen 0 3, .st 0, .st 0, .st 0, .uunlock 0,
   .aopen 1 3, .st 1, .st 1, .st 1, .st 1, .st 1, .st 1, .st 0, .st 0, .st 0]

def closeFirstDisc : Disc := { closeFirst := true, bypass := false }

def foreignState : XSys :=
  (xexec (fun t => t % 2) (fun _ => 0) true closeFirstDisc foreignHistory (xinit 0)).getD (xinit 0)

theorem foreignState_eq :
    xexec (fun t => t % 2) (fun _ => 0) true closeFirstDisc foreignHistory (xinit 0) = some foreignState :=
  eq_some_getD _ (by decide +kernel)

/-- the negation with ONE foreign unlock: both calls return index 1 (slot 0), the file holds one record
for two successful calls, and it is not call 1's. -/
theorem foreign_unlock_double_assign :
    XReachable (fun t => t % 2) (fun _ => 0) true closeFirstDisc 0 foreignState ∧
      foreignState.sys.pc 0 = .doneOk 0 ∧ foreignState.sys.pc 1 = .doneOk 0 ∧
      foreignState.sys.recs = [some 0] := by
  refine ⟨?_, by decide +kernel⟩
  exact xexec_reachable (fun t => t % 2) 0 (fun _ => 0) true closeFirstDisc foreignHistory (xinit 0) _ .init
    foreignState_eq

/-- the same history is not executable under the discipline: the user's close before its unlock is refused. -/
example : xexec (fun t => t % 2) (fun _ => 0) true disciplined foreignHistory (xinit 0) = none := by decide +kernel

/-- the history a fallback writer makes possible (one process): call 0 holds the lock and has read the
length; call 1 gets ErrPttLock, counts the records without the lock, stores at that slot and reports
success; call 0 writes the same slot. -/
def bypassHistory : List XAct :=
  [.aopen 0 3, .st 0, .st 0, .st 0, .aopen 1 4, .st 1, .aclose 1, .bread 1, .bstore 1, .st 0, .st 0, .st 0]

def bypassDisc : Disc := { closeFirst := false, bypass := true }

def bypassState : XSys :=
  (xexec (fun _ => 0) (fun _ => 0) true bypassDisc bypassHistory (xinit 0)).getD (xinit 0)

theorem bypassState_eq :
    xexec (fun _ => 0) (fun _ => 0) true bypassDisc bypassHistory (xinit 0) = some bypassState :=
  eq_some_getD _ (by decide +kernel)

/-- the negation with a fallback writer: two calls report success for slot 0, the file holds one
record, and it is not call 1's. -/
theorem bypass_shares_slot :
    XReachable (fun _ => 0) (fun _ => 0) true bypassDisc 0 bypassState ∧
      bypassState.sys.pc 0 = .doneOk 0 ∧ bypassState.byp 1 = .stored 0 ∧
      bypassState.sys.recs = [some 0] := by
  refine ⟨?_, by decide +kernel⟩
  exact xexec_reachable (fun _ => 0) 0 (fun _ => 0) true bypassDisc bypassHistory (xinit 0) _ .init bypassState_eq

/-- without the fallback the same calls end with call 1 refused and one record for one success. -/
example : ((xexec (fun _ => 0) (fun _ => 0) true disciplined
    [.aopen 0 3, .st 0, .st 0, .st 0, .aopen 1 4, .st 1, .aclose 1, .st 0, .st 0, .st 0] (xinit 0)).map
      (fun x => (x.sys.pc 0, x.sys.pc 1, x.sys.recs))) = some (.doneOk 0, .doneErr, [some 0]) := by decide +kernel

/-! non-vacuity of the disciplined system: a lock user runs open → unlock → close beside an appender
that is handed the user's old number afterwards; the appender's part is the plain run. -/
example : ((xexec (fun _ => 0) (fun _ => 0) true disciplined
    [.uopen 0 3, .uunlock 0, .uclose 0, .aopen 0 3, .st 0, .st 0, .st 0, .st 0, .st 0, .st 0, .aclose 0] (xinit 1)).map
      (fun x => (x.sys.pc 0, x.sys.recs, x.upc 0, x.names 0 3))) = some (.doneOk 1, [none, some 0], .done, none) := by decide +kernel

/-! ### the index a request reports -/

/-- read from the source on every run, for every call of cmsys.AppendRecord in the repository: a
caller that hands an index on to its own caller hands on the one AppendRecord returned (data flow:
the call's result reaches the function's result); none reports an index obtained another way. -/
theorem source_reported_index_is_appended : reportsAppendedOf Gen.Lock.appendIndex = true := by decide +kernel

theorem source_append_index_covered :
    Gen.Lock.appendIndex.map (·.1) = Gen.Lock.appendCallers.map (·.1) := rfl

/-- a request that reports the index its append returned reports — whenever it does so — a slot no
other request reports, and that slot holds its own record. -/
theorem reported_appended_distinct_intact (s : Sys) (h : Reachable proc true n0 s) (t u i : Nat)
    (ht : reportSlot .appended s t = some i) (hu : reportSlot .appended s u = some i) :
    t = u ∧ s.recs[i]? = some (some t) := by
  have pt := (reportSlot_appended s t i).1 ht
  have pu := (reportSlot_appended s u i).1 hu
  exact ⟨distinct_indices proc n0 s h t u i (by rw [pt]; rfl) (by rw [pu]; rfl),
    (records_intact proc n0 s h t i pt).1⟩

/-- … and later appends do not change that: the report is the same in every later state. -/
theorem reported_appended_stable (s s' : Sys) (t u : Nat) (hs : step proc true s u = some s') (hne : u ≠ t) (i : Nat)
    (ht : reportSlot .appended s t = some i) : reportSlot .appended s' t = some i := by
  unfold reportSlot at ht ⊢
  rw [step_pc_other proc true s s' u t hs (fun e => hne e.symm)]
  exact ht

/-- the negation for "index := number of records, read after the unlock": call 0 (process 0) appends
and returns; call 1 (process 1) appends and returns; then call 0 looks at the file.  Both report
slot 1, which holds call 1's record; slot 0 is reported by nobody. -/
def lateHistory : List Act := [.st 0, .st 0, .st 0, .st 0, .st 0, .st 0, .st 1, .st 1, .st 1, .st 1, .st 1, .st 1]

def lateState : Sys := (exec (fun t => t % 2) true lateHistory (init 0)).getD (init 0)

theorem lateState_eq : exec (fun t => t % 2) true lateHistory (init 0) = some lateState :=
  eq_some_getD _ (by decide +kernel)

theorem length_after_unlock_shares_index :
    Reachable (fun t => t % 2) true 0 lateState ∧
      lateState.pc 0 = .doneOk 0 ∧ lateState.pc 1 = .doneOk 1 ∧
      reportSlot .lengthAfter lateState 0 = some 1 ∧ reportSlot .appended lateState 1 = some 1 ∧
      lateState.recs[1]? = some (some 1) := by
  refine ⟨?_, by decide +kernel⟩
  exact exec_reachable (fun t => t % 2) 0 true lateHistory (init 0) _ .init lateState_eq

/-- with the returned index the same state has the two requests at slots 0 and 1. -/
example : reportSlot .appended lateState 0 = some 0 ∧ reportSlot .appended lateState 1 = some 1 := by decide +kernel

/-! ### other writers of the record file beside the append -/

/-- read from the source on every run, for every call of cmsys.AppendRecord in the repository: no
other call of the same function that is given the same path creates, truncates, removes, renames or
rewrites the file (directly, or in the body of the repository function it calls); an in-place slot
write is only allowed as the exclusive alternative to the append. -/
theorem source_append_callers_no_side_writer : noSideWriterOf Gen.Lock.appendSideWriters = true := by decide +kernel

theorem source_side_writers_covered :
    Gen.Lock.appendSideWriters.map (·.1) = Gen.Lock.appendCallers.map (·.1) := rfl

/-- what the fact protects: a truncation of the file to a length read earlier (no lock held) removes a
record whose append has returned — the invariant's `written_at` cannot survive it. -/
theorem truncate_loses_record (s : Sys) (t i k : Nat) (_hw : s.pc t = .doneOk i) (hk : k ≤ i) :
    ¬ (({ s with recs := s.recs.take k } : Sys).recs[i]? = some (some t)) := by
  intro h
  rw [List.getElem?_take, if_neg (Nat.not_lt.mpr hk)] at h
  cases h

end PttVerif.C14.Props
