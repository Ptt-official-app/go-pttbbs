import PttVerif.Proofs.C06Bbs
/-
C06 — Article lookup and paging over a board index equal a linear scan.
The property theorems.
Model: Model/C06.lean (mirrors cmsys/record.go, ptt/article_list.go, cache/cache_board.go,
bbs/load_general_articles.go, bbs/article_summary.go; of the posting path ptt/bbs.go `DoPostArticle` and its log-board
copies, and ptt/article.go `getFileHeader`, the effect on index and cached total).
Specification: `Spec.*` in Proofs/C06.lean (`Spec.window`, `pagesOf` in Proofs/C06Page.lean) —
`Spec.position idx T ct fn dir` scans the first `T` records once: the entry `(ct, fn)` itself if present
(last such for desc, first for asc), else the last parsable entry with time ≤ ct (desc) / the first with
time ≥ ct (asc), else none.

Hypotheses, always explicit:
  `SortedValid idx`  the parsable entries are in non-decreasing creation-time order; entries without a time
                     (delete-marked ones keep theirs; unparsable ones have none) may sit ANYWHERE;
  `UniqueKeys idx`   no two parsable entries share (time, name[2:]).
The theorems on the parts of the search speak of positions (Proofs/C06.lean): `Frame idx T ss ee` the first and last
parsable position among the first `T` records, `SortedT idx T` = `SortedValid` on the positions below `T`.
-/
namespace PttVerif.C06.Props
open PttVerif PttVerif.C06

/-! #### the bisection: loop measure, termination, landing -/

/-- one iteration under the invariant `BInv` (start ≤ end inside the file, both parsable) either ends the
loop on a parsable position inside `[start, end]` whose header is the one returned, or continues with a
strictly smaller `end - start` and the invariant intact — including the odd `idx == start ⇒ jump to end`
step and every branch of findRecordStartIdxBinSearchValidIdxInStore. No branch fails or reads outside. -/
theorem binsearch_measure {idx : Index} {s e : Int} (B : BInv idx s e) (ct : Int) :
    ∃ out, binStep idx ct s e = .ok out ∧ BPost idx s e out := binStep_post B ct

/-- the unbounded `for` terminates: `(end - start) + 1` iterations always suffice (the model passes
`binFuel = (end - start) + 2`), so `Fault.diverge` is unreachable. -/
theorem binsearch_terminates {idx : Index} {s e : Int} (B : BInv idx s e) (ct : Int) (fuel : Nat)
    (hf : (e - s).toNat + 1 ≤ fuel) : ∃ r, binSearch idx ct fuel s e = .ok r := by
  obtain ⟨i, h, _⟩ := binSearch_lands_fuel (idx := idx) ct fuel s e B
    (Int.lt_of_le_of_lt (Int.self_le_toNat _) (Int.ofNat_lt.mpr hf))
  exact ⟨_, h⟩

/-- whatever the comparison results are (`subT4` is never inspected: int32 wrap-around cannot hurt), the
bisection returns a parsable position inside `[startStart, endEnd]` together with that position's header.
In particular the `start == end` exit on an unparsable header is unreachable. -/
theorem binsearch_lands {idx : Index} {s e : Int} (B : BInv idx s e) (ct : Int) :
    ∃ i, binSearch idx ct (binFuel s e) s e = .ok (i, ent idx i) ∧ s ≤ i ∧ i ≤ e ∧ Valid idx i :=
  binSearch_lands_fuel ct (binFuel s e) s e B (lt_binFuel s e)

/-! #### the directional post-searches are correct from ANY landing position -/

/-- descending: from any position `p` of the frame `[ss, ee]` (parsable or not) the two scans return exactly
the linear-scan position. Correctness does not depend on where the bisection lands. -/
theorem postsearch_correct_desc {idx : Index} {T : Nat} {ss ee : Int} (F : Frame idx T ss ee) (S : SortedT idx T)
    (ct p : Int) (fn : Option (List Nat)) (hp1 : ss ≤ p) (hp2 : p ≤ ee) :
    postSearchDesc idx p ss ee ct fn = pos0 idx T ct fn true := postSearchDesc_spec F S ct p fn hp1 hp2

/-- ascending (the code after repair db2703a): symmetric. -/
theorem postsearch_correct_asc {idx : Index} {T : Nat} {ss ee : Int} (F : Frame idx T ss ee) (S : SortedT idx T)
    (ct p : Int) (fn : Option (List Nat)) (hp1 : ss ≤ p) (hp2 : p ≤ ee) :
    postSearchAsc idx p ss ee ct fn = pos0 idx T ct fn false := postSearchAsc_spec F S ct p fn hp1 hp2

/-! #### FindRecordStartIdx = linear scan -/

/-- for every index, every cursor (present, absent, before the first, after the last, nil name), both
directions: FindRecordStartIdx with the true record count returns what the linear scan returns. -/
theorem find_eq_scan (idx : Index) (S : SortedValid idx) (U : UniqueKeys idx)
    (ct : Int) (fn : Option (List Nat)) (isDesc : Bool) :
    findRecordStartIdx idx idx.length ct fn isDesc = Spec.find idx idx.length ct fn isDesc :=
  find_spec (Nat.le_refl _) (sortedT_full S) (uniqueT_full U) ct fn isDesc

/-- a cached total that lags behind the file answers for the prefix it covers: only the first `T` records
are read and only they need to be sorted. -/
theorem find_stale_total (idx : Index) (T : Nat) (hT : T ≤ idx.length) (S : SortedValid (idx.take T))
    (U : UniqueKeys (idx.take T)) (ct : Int) (fn : Option (List Nat)) (isDesc : Bool) :
    findRecordStartIdx idx T ct fn isDesc = Spec.find (idx.take T) T ct fn isDesc := by
  rw [find_spec hT (sortedT_of hT S) (uniqueT_of hT U)]
  unfold Spec.find
  rw [Spec.position_take]

/-- no fault, no read error, no Atoi error: the answer is a position in `1..T` or ErrRecordNotFound. -/
theorem find_nopanic (idx : Index) (T : Nat) (hT : T ≤ idx.length) (S : SortedValid (idx.take T))
    (U : UniqueKeys (idx.take T)) (ct : Int) (fn : Option (List Nat)) (isDesc : Bool) :
    (∃ i : Nat, i < T ∧ findRecordStartIdx idx T ct fn isDesc = .ok ((i : Int) + 1)) ∨
      findRecordStartIdx idx T ct fn isDesc = .error .notFound := by
  rw [find_spec hT (sortedT_of hT S) (uniqueT_of hT U)]
  unfold Spec.find
  cases h : Spec.position idx T ct fn isDesc with
  | none => right; rfl
  | some i => left; exact ⟨i, (Spec.position_some h).1, rfl⟩

/-! #### GetRecord = lookup by name -/

/-- GetRecord returns the position and header of the entry with that name, or not-found.  `hkt`: an entry
carrying the looked-up name key carries the looked-up time (true of real names: the key contains the digits). -/
theorem getRecord_eq_lookup (idx : Index) (T : Nat) (hT : T ≤ idx.length) (S : SortedValid (idx.take T))
    (U : UniqueKeys (idx.take T)) (name : Entry) (ct : Int) (hct : name.time? = some ct)
    (hkt : ∀ j t, j < (T : Int) → tm idx j = some t → (ent idx j).key = name.key → t = ct) :
    getRecord idx name T =
      match Spec.lastBelow (Spec.hitAt idx ct name.key) T with
      | some i => .ok ((i : Int) + 1, ent idx i)
      | none => .error .notFound := by
  have hrd : ∀ i : Nat, i < T → rd idx ((i : Int) + 1 - 1) = .ok (ent idx i) := fun i hi => by
    rw [Int.add_sub_cancel]
    exact rd_ok (Int.natCast_nonneg i) (Int.ofNat_lt.mpr (Nat.lt_of_lt_of_le hi hT))
  unfold getRecord
  rw [hct]
  simp only
  rw [find_spec hT (sortedT_of hT S) (uniqueT_of hT U)]
  unfold Spec.find Spec.position
  simp only [if_true]
  cases hE : Spec.lastBelow (Spec.hitAt idx ct name.key) T with
  | some i =>
    obtain ⟨hh, hiT, _⟩ := lastBelow_some_pos (hitAt_iff idx ct name.key) hit_nonneg hE
    simp only
    rw [hrd i (Int.ofNat_lt.mp hiT)]
    simp only
    rw [if_pos (hit_key hh).symm]
  | none =>
    have hnone := lastBelow_none_pos (hitAt_iff idx ct name.key) hit_nonneg hE
    simp only
    cases hN : Spec.lastBelow (Spec.leAt idx ct) T with
    | none => rfl
    | some j =>
      -- the nearest older record does not carry the name: by `hkt` it would hold the cursor
      obtain ⟨⟨t, ht, _⟩, hjT, _⟩ := lastBelow_some_pos (leAt_iff idx ct) atMost_nonneg hN
      simp only
      rw [hrd j (Int.ofNat_lt.mp hjT)]
      simp only
      rw [if_neg fun (hk : name.key = (ent idx j).key) => hnone j hjT ⟨hkt j t hjT ht hk.symm ▸ ht, beq_iff_eq.mpr hk⟩]

/-- a name whose time field does not parse is rejected before the file is opened. -/
theorem getRecord_unparsable (idx : Index) (name : Entry) (T : Int) (h : name.time? = none) :
    getRecord idx name T = .error .atoi := by
  unfold getRecord; rw [h]

/-! #### GetRecords = the window -/

/-- GetRecords lists the positions `start, start±1, …`: at most `n`, clipped to `1..len`, nothing when
`start` is beyond the file; each with the record stored there. -/
theorem getRecords_window (idx : Index) (start n : Int) (isDesc : Bool) (hs : 1 ≤ start) (hn : 0 ≤ n) :
    getRecords idx start n isDesc = .ok ((Spec.window idx.length start n.toNat isDesc).map (withEntry idx)) :=
  getRecords_spec idx start n isDesc hs hn

/-! #### the page walk

Full statement of the property (NOT a theorem of the code — recorded finding `walk:unparsable-lookahead`):
    ∀ idx n, SortedValid idx → UniqueKeys idx → 1 ≤ n →
      walk idx n false = .ok (pagesOf n (idx.length + 1) (upFrom 1 idx.length))            (and desc)
It fails when a look-ahead element (the entry after a full page, whose (time, name) becomes the next cursor)
is unparsable: such an entry has no cursor (`pagewalk_unparsable_lookahead`, `walk_witness_*` below; at the
`bbs` level its cursor text "0@00000000" does not deserialise).  What holds is the statement under the
explicit hypothesis that every look-ahead element is parsable; delete-marked and unparsable entries may sit
anywhere else.  `walk` is the client loop on the abstract index (cursor = `(time, key)` of the look-ahead
element, positioned with FindRecordStartIdx); `pagewalk_bbs` below carries the result to the
`bbs.LoadGeneralArticles` loop over cursor texts. -/

/-- ascending: the look-ahead elements are the 0-based positions `n, 2n, 3n, …`. -/
def LookaheadOKAsc (idx : Index) (n : Nat) : Prop :=
  ∀ m : Nat, 1 ≤ m → m * n < idx.length → Valid idx ((m * n : Nat) : Int)

/-- descending: `len-1-n, len-1-2n, …`. -/
def LookaheadOKDesc (idx : Index) (n : Nat) : Prop :=
  ∀ m : Nat, 1 ≤ m → m * n < idx.length → Valid idx ((idx.length : Int) - 1 - ((m * n : Nat) : Int))

/-- following the next cursor from the first page, ascending, page size `n ≥ 1`: the walk terminates and
its pages are exactly `1..len` cut into pages of `n`. -/
theorem pagewalk_complete_asc (idx : Index) (S : SortedValid idx) (U : UniqueKeys idx) (n : Nat) (hn : 1 ≤ n)
    (hla : LookaheadOKAsc idx n) :
    walk idx n false = .ok (pagesOf n (idx.length + 1) (upFrom 1 idx.length)) :=
  walk_eq (sortedT_full S) (uniqueT_full U) n hn false 1 rfl fun m hm hlt => by
    have e : stepBy false 1 (m * n) - 1 = ((m * n : Nat) : Int) := by show (1 : Int) + _ - 1 = _; omega
    exact e ▸ hla m hm hlt

/-- descending: `len, len-1, …, 1` cut into pages of `n`. -/
theorem pagewalk_complete_desc (idx : Index) (S : SortedValid idx) (U : UniqueKeys idx) (n : Nat) (hn : 1 ≤ n)
    (hla : LookaheadOKDesc idx n) :
    walk idx n true = .ok (pagesOf n (idx.length + 1) (downFrom idx.length idx.length)) :=
  walk_eq (sortedT_full S) (uniqueT_full U) n hn true idx.length rfl fun m hm hlt => by
    have e : stepBy true idx.length (m * n) - 1 = (idx.length : Int) - 1 - ((m * n : Nat) : Int) := by
      show (idx.length : Int) - _ - 1 = _; omega
    exact e ▸ hla m hm hlt

/-- cutting into pages loses, repeats and reorders nothing: the concatenation of the pages is the listing. -/
theorem pages_concat (n f : Nat) (l : List Int) : (pagesOf n f l).flatten = l := by
  induction f generalizing l with
  | zero => simp [pagesOf]
  | succ f ih =>
    unfold pagesOf
    by_cases h : l.length ≤ n
    · simp [h]
    · simp [h, ih]

/-- every entry exactly once, in order (both directions), and the walk ends. -/
theorem pagewalk_visits_all (idx : Index) (S : SortedValid idx) (U : UniqueKeys idx) (n : Nat) (hn : 1 ≤ n)
    (isDesc : Bool) (hla : if isDesc then LookaheadOKDesc idx n else LookaheadOKAsc idx n) :
    ∃ pages, walk idx n isDesc = .ok pages ∧
      pages.flatten = (if isDesc then downFrom idx.length idx.length else upFrom 1 idx.length) := by
  cases isDesc
  · exact ⟨_, pagewalk_complete_asc idx S U n hn hla, pages_concat _ _ _⟩
  · exact ⟨_, pagewalk_complete_desc idx S U n hn hla, pages_concat _ _ _⟩

/-- the recorded finding, in general form: an unparsable first look-ahead element stops the ascending walk
with the cursor error, whatever else the index contains. -/
theorem pagewalk_unparsable_lookahead (idx : Index) (n : Nat) (hlen : (1 : Int) + n ≤ idx.length)
    (hbad : tm idx n = none) : walk idx n false = .error .atoi := by
  have hL : (1 : Int) ≤ idx.length := Int.le_trans (Int.le_add_of_nonneg_right (Int.natCast_nonneg n)) hlen
  obtain ⟨p, hp, _, hnext⟩ := pttLoad_rest idx n false (Int.le_refl 1) hL
  rw [(rest_drop (Int.le_refl 1) hL (by rw [rest_length]; exact Int.lt_toNat.mpr (by omega))).1] at hnext
  unfold walk
  simp only [Bool.false_eq_true, if_false]
  unfold walkFrom
  rw [hp]
  simp only [hnext, Option.map_some, withEntry]
  have e : stepBy false 1 n - 1 = (n : Int) := by show (1 : Int) + _ - 1 = _; omega
  rw [e, show (ent idx (n : Int)).time? = none from hbad]

/-! #### the `bbs` cursor text designates the look-ahead entry

`bbs.LoadGeneralArticles` turns the look-ahead element into the text `"<time>@<article id>"` and the next call
turns the text back into `(time, file name)` for `FindRecordStartIdx`.  On the names of the article-id domain
of C13 (`render`: `M.`/`G.` + 10-digit time below 2^31 + `.A.` + 3 hex digits) this round trip yields exactly
the entry's `(time, key)`, so the `bbs` walk is the abstract `walk` above; composed from C13's theorems
`articleId_roundtrip` and `toArticleID_deleted`. -/

theorem cursor_roundtrip_live (isM : Bool) (t p : Nat) (hd : C13.InDomain t p) :
    ∃ fnm, deserializeIdx (serializeIdx (C13.render isM t p)) = .ok ((t : Int), fnm) ∧
      (absEntry (C13.render isM t p)).time? = some (t : Int) ∧
      (absEntry fnm).key = (absEntry (C13.render isM t p)).key :=
  C06.cursor_roundtrip_live isM t p hd

/-- a delete-marked look-ahead entry (repair 7c79b33) yields a cursor that positions on that entry. -/
theorem cursor_roundtrip_deleted (isM : Bool) (t p : Nat) (hd : C13.InDomain t p) :
    ∃ fnm, deserializeIdx (serializeIdx (C13.Props.markDeleted (C13.render isM t p))) = .ok ((t : Int), fnm) ∧
      (absEntry (C13.Props.markDeleted (C13.render isM t p))).time? = some (t : Int) ∧
      (absEntry fnm).key = (absEntry (C13.Props.markDeleted (C13.render isM t p))).key :=
  C06.cursor_roundtrip_deleted isM t p hd

/-- the `bbs.LoadGeneralArticles` client loop (empty cursor first, then `nextIdx` of each page, fresh cached
total) over a board file whose names are in the article-id domain or unparsable (`NamesOK`) visits every entry
exactly once, in order, and ends — same pages as the abstract walk; both directions. -/
theorem pagewalk_bbs (names : List Name) (hok : NamesOK names) (S : SortedValid (names.map absEntry))
    (U : UniqueKeys (names.map absEntry)) (n : Nat) (hn : 1 ≤ n) (isDesc : Bool)
    (hla : if isDesc then LookaheadOKDesc (names.map absEntry) n else LookaheadOKAsc (names.map absEntry) n) :
    ∃ bp, bbsWalk names n isDesc (names.length + 1) names.length [] = (bp, "end") ∧
      (bp.map (·.items)).flatten =
        (if isDesc then downFrom names.length names.length else upFrom 1 names.length) := by
  obtain ⟨pages, hw, hfl⟩ := pagewalk_visits_all (names.map absEntry) S U n hn isDesc hla
  unfold walk at hw
  simp only [List.length_map] at hw hfl
  obtain ⟨bp, h1, h2⟩ := bbsWalk_sim names hok n hn isDesc _ [] _ pages (Or.inl ⟨rfl, rfl⟩) hw
  exact ⟨bp, h1, by rw [h2]; exact hfl⟩

/-! #### the posting path keeps the cached total exact

The `total` that bounds every search and listing above is the value cached in shared memory.
`ptt.DoPostArticle` (NewPost) appends the record and then re-counts `.DIR` (`cache.SetBTotal`), so after every
post the cached total equals the record count WHATEVER it was before — cold, exact, lagging behind because a
record reached the file without the cache being told, or too large. -/

/-- for every previous cached value: after a post the file is the old file plus the new record and the
cached total is its record count. -/
theorem post_resyncs_total (names : List Name) (cached : Int) (nm : Name) :
    (postArticle names cached nm).2.1 = names ++ [nm] ∧
      (postArticle names cached nm).2.2 = ((names ++ [nm]).length : Int) :=
  ⟨rfl, setBTotal_count _⟩

/-- a post whose name has a parsable time succeeds (SetBTotal reads the last name for the last-post time). -/
theorem post_ok (names : List Name) (cached : Int) (nm : Name) (t : Int) (ht : C13.fnCreateTime nm = some t) :
    (postArticle names cached nm).1 = .ok () := setBTotal_ok names nm t ht

/-- history "anything; post; look the newest article up by name": found at the last position, both
directions, with the cached total the post left behind. -/
theorem post_then_find_newest (names : List Name) (cached : Int) (nm : Name) (t : Int)
    (ht : C13.fnCreateTime nm = some t) (S : SortedValid ((names ++ [nm]).map absEntry))
    (U : UniqueKeys ((names ++ [nm]).map absEntry)) (isDesc : Bool) :
    findNewest (postArticle names cached nm).2.1 (postArticle names cached nm).2.2 isDesc =
      (.ok ((names ++ [nm]).length : Int), ((names ++ [nm]).length : Int)) := by
  obtain ⟨h1, h2⟩ := post_resyncs_total names cached nm
  rw [h1, h2]
  exact findNewest_synced (names ++ [nm]) nm List.getLast?_concat t ht (sortedT_full S) (uniqueT_full U) isDesc

/-- history "anything; post; page both ways": the `bbs` walk started with the cached total the post left
behind visits every record of the new file exactly once, in order, and ends. -/
theorem post_then_pagewalk (names : List Name) (cached : Int) (nm : Name) (hok : NamesOK (names ++ [nm]))
    (S : SortedValid ((names ++ [nm]).map absEntry)) (U : UniqueKeys ((names ++ [nm]).map absEntry))
    (n : Nat) (hn : 1 ≤ n) (isDesc : Bool)
    (hla : if isDesc then LookaheadOKDesc ((names ++ [nm]).map absEntry) n
           else LookaheadOKAsc ((names ++ [nm]).map absEntry) n) :
    ∃ bp, bbsWalk (postArticle names cached nm).2.1 n isDesc ((names ++ [nm]).length + 1)
        (postArticle names cached nm).2.2 [] = (bp, "end") ∧
      (bp.map (·.items)).flatten =
        (if isDesc then downFrom (names ++ [nm]).length (names ++ [nm]).length else upFrom 1 (names ++ [nm]).length) := by
  obtain ⟨h1, h2⟩ := post_resyncs_total names cached nm
  rw [h1, h2]
  exact pagewalk_bbs (names ++ [nm]) hok S U n hn isDesc hla

/-- the log boards a post is copied to (ALLPOST, …; repair 4ca0e38) are re-counted too: whatever the log
board's cached total was before — in particular 0 right after `cache.ReloadBCache` — after the copy it is the
record count of the log board's `.DIR`. -/
theorem post_resyncs_logboard (logLen : Nat) (logCached : Int) :
    (logCopy logLen logCached).1 = logLen + 1 ∧ (logCopy logLen logCached).2 = (((logCopy logLen logCached).1 : Nat) : Int) :=
  ⟨rfl, rfl⟩

/-- the defect that was repaired (`post:logboard-total-cold-bump`): bumping the zeroed total by one instead of
re-counting leaves a log board with `N ≥ 1` earlier records at total 1 ≠ N + 1; since totals are only
re-counted when they are 0 it never healed. -/
theorem logboard_bump_witness (N : Nat) (hN : 1 ≤ N) (c : Int) :
    reloadTotal c + 1 ≠ (logCopy N (reloadTotal c)).2 := by
  unfold reloadTotal logCopy; simp; omega

/-- the broken rule (seeded change C06-r5-2: bump the cached total by one instead of re-counting): a board with
one counted record, one record appended behind the cache's back and the new post has 3 records but a cached
total of 1 + 1 = 2; the newest article (time 30) is then not found ascending and another article is returned
descending — contrary to the scan of the file. -/
theorem bump_witness :
    let idx : Index := [⟨some 10, [1]⟩, ⟨some 20, [2]⟩, ⟨some 30, [3]⟩]
    pttFindStart idx (1 + 1) 30 (some [3]) false = .error .notFound ∧
    pttFindStart idx (1 + 1) 30 (some [3]) true = .ok 2 ∧
    Spec.find idx 3 30 (some [3]) false = .ok 3 ∧ Spec.find idx 3 30 (some [3]) true = .ok 3 := by
  refine ⟨by rfl, by rfl, by rfl, by rfl⟩

/-- the broken rule of seeded change C06-r6-1: GetRecords silently reads at most `cap` records. -/
def getRecordsCapped (cap : Int) (idx : Index) (start n : Int) (isDesc : Bool) : R (List (Int × Entry)) :=
  getRecords idx start (min n cap) isDesc

/-- `getRecords_window` and `pagewalk_complete_*` hold for EVERY page size: GetRecords has no size-dependent
case.  Under the capped rule ptt.LoadGeneralArticles, which recognises a further page by getting `n + 1` records
back, loses it; on a small scale (cap 2, 4 records, page size 2): the capped listing reports no next page after the
first one, the real one names record 3 as the next cursor. -/
theorem cap_witness :
    let idx : Index := [⟨some 10, [1]⟩, ⟨some 11, [2]⟩, ⟨some 12, [3]⟩, ⟨some 13, [4]⟩]
    (pttLoadWith (getRecordsCapped 2 idx) 4 1 2 false).map (fun p => (p.items.map (·.1), p.next.map (·.1)))
        = .ok ([1, 2], none) ∧
    (pttLoad idx 4 1 2 false).map (fun p => (p.items.map (·.1), p.next.map (·.1))) = .ok ([1, 2], some 3) := by
  refine ⟨by rfl, by rfl⟩

/-- first access after a restart (`cache.ReloadBCache` zeroes the total): the by-name lookup in front of
EditPost / CrossPost (`ptt.getFileHeader`, total from `GetBTotalWithRetry`) answers exactly as with the exact
total — so by `getRecord_eq_lookup` an article that is in the index is found — and leaves the exact total
cached.  (`hlast`: the re-count accepts the last name: ".d" or parsable.) -/
theorem lookup_cold_first_access (names : List Name) (nm : Name) (hne : names ≠ [])
    (hlast : ∀ last, names.getLast? = some last → cstr last = [46, 100] ∨ ∃ t, C13.fnCreateTime last = some t) :
    lookupByName names 0 nm = lookupByName names names.length nm := by
  unfold lookupByName
  rw [getBTotal_cold names hne hlast, getBTotal_fresh]

/-- the broken rule of seeded change C06-r7-2: the lookup is bounded by the raw cached total. -/
def lookupNoRetry (names : List Name) (cached : Int) (nm : Name) : R Unit :=
  if cached = 0 then .error .invalidFilename
  else (getRecord (names.map absEntry) (absEntry nm) cached).map (fun _ => ())

/-- on a cold cache that total is 0 and the lookup refuses every name, whatever the index contains. -/
theorem cold_witness (names : List Name) (nm : Name) : lookupNoRetry names (reloadTotal names.length) nm = .error .invalidFilename := rfl

/-! #### non-vacuity and witnesses (kernel evaluation of the model) -/

def exIdx : Index :=
  [⟨none, [0]⟩, ⟨some 10, [1]⟩, ⟨some 10, [2]⟩, ⟨none, [3]⟩, ⟨some 12, [4]⟩, ⟨none, [5]⟩]

example : SortedValid exIdx ∧ UniqueKeys exIdx := by decide
/-- the hypotheses of the bisection / post-search theorems are satisfiable: positions 1..4 bracket the
parsable entries of `exIdx`, with an unparsable entry strictly inside and at both ends of the file. -/
example : BInv exIdx 1 4 := by
  refine ⟨by omega, by omega, by simp [exIdx], by decide, by decide⟩
example : Frame exIdx 6 1 4 := by
  refine ⟨by omega, by omega, by omega, by simp [exIdx], ?_, ?_⟩
  · intro j hj
    by_cases h0 : j < 0
    · exact tm_none_of_neg h0
    · have : j = 0 := by omega
      subst this; rfl
  · intro j h1 h2
    have : j = 5 := by omega
    subst this; rfl
example : SortedT exIdx 6 :=
  sortedT_of (by decide) (by decide)
example : LookaheadOKAsc exIdx 2 := by
  intro m hm hlt
  have : m = 1 ∨ m = 2 := by simp [exIdx] at hlt; omega
  rcases this with rfl | rfl <;> decide
example : findRecordStartIdx exIdx 6 11 none true = .ok 3 := by rfl
example : findRecordStartIdx exIdx 6 11 none false = .ok 5 := by rfl
example : walk exIdx 2 false = .ok [[1, 2], [3, 4], [5, 6]] := by rfl
example : walk exIdx 4 true = .ok [[6, 5, 4, 3], [2, 1]] := by rfl
/-- `NamesOK` is satisfiable with all three sorts of names present. -/
example : NamesOK [C13.render true 1234567890 1, C13.Props.markDeleted (C13.render false 1234567891 2), []] := by
  intro nm h
  simp only [List.mem_cons, List.not_mem_nil, or_false] at h
  rcases h with h | h | h
  · exact Or.inr ⟨true, 1234567890, 1, by unfold C13.InDomain; omega, Or.inl h⟩
  · exact Or.inr ⟨false, 1234567891, 2, by unfold C13.InDomain; omega, Or.inr h⟩
  · subst h; exact Or.inl (by decide)
/-- the repaired defect db2703a: times [10, 20], cursor time 5, ascending: the first entry. -/
example : findRecordStartIdx [⟨some 10, [1]⟩, ⟨some 20, [2]⟩] 2 5 none false = .ok 1 := by rfl
/-- the recorded finding on a concrete index: the look-ahead of the first page is unparsable. -/
theorem walk_witness_asc : walk [⟨some 10, [1]⟩, ⟨none, [2]⟩, ⟨some 20, [3]⟩] 1 false = .error .atoi := by rfl
theorem walk_witness_desc : walk [⟨some 10, [1]⟩, ⟨none, [2]⟩, ⟨some 20, [3]⟩] 1 true = .error .atoi := by rfl

end PttVerif.C06.Props
