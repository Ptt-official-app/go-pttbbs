import PttVerif.Proofs.C01Tables
/-
C01 — Persisted record formats are fixed, padding-free and match pttbbs.
Property theorems only (the lemmas are in Proofs/C01.lean and Proofs/C01Tables.lean).

Layout statements are about the field trees regenerated from /repo for BOTH build configurations
(`cfgDefault`, `cfgDocker`: Gen/LayoutDefault.lean, Gen/LayoutDocker.lean) and the hand-written frozen C layouts
(Spec/C01Frozen.lean); they are finite facts checked by kernel evaluation and are re-checked whenever the
source data changes.  The structural theorems are universal: all layout trees, all files, all slots, all fields,
all values, all histories, all schedules.
-/
namespace PttVerif.C01.Props
open PttVerif PttVerif.C01

/-! ### vocabulary -/

/-- `.fav` entries are written by `types.BinWrite(file, entry, SIZE_OF_…)`: the packed image, then zeros up to
the C `sizeof`.  The packed image is a prefix of the C layout and the padded size is the C size. -/
@[reducible] def FavEntryOK (s : Site) (name szConst : String) : Prop :=
  (s.cfg.ty name).isSome = true ∧ (s.cfg.ty name).map Ty.packed = (frozenOf s.k name).map Frozen.fields ∧
  s.cfg.const szConst = (frozenOf s.k name).map Frozen.sizeOf ∧
  (∀ p ∈ (s.cfg.ty name).map sizeP, ∀ z ∈ s.cfg.const szConst, p ≤ z)

/-- the model's alignment rule reproduces what go/types (gc, amd64) reports for every generated type. -/
def compilerAgrees (c : Config) : Bool :=
  c.types.all fun (n, t) => c.compiler.lookup n == some (sizeA t, alignOf t, t.aligned.map (·.2.1))

/-- (`*_SZ` constant, the type it is the `unsafe.Sizeof` of). -/
def szConsts : List (String × String) :=
  [("USEREC_RAW_SZ", "UserecRaw"), ("USEREC2_RAW_SZ", "Userec2Raw"), ("BOARD_HEADER_RAW_SZ", "BoardHeaderRaw"),
   ("FILE_HEADER_RAW_SZ", "FileHeaderRaw"), ("POSTLOG_SZ", "PostLog"), ("SIZE_OF_FAV_BOARD", "FavBoard"),
   ("SIZE_OF_FAV_LINE", "FavLine"), ("SIZE_OF_FAV4_BOARD", "Fav4Board"), ("MSG_QUEUE_RAW_SZ", "MsgQueueRaw"),
   ("USER_INFO_RAW_SZ", "UserInfoRaw"), ("SHM_RAW_SZ", "SHMRaw")]

/-- the `*_SZ` constants, as evaluated by the Go type checker, are the model's `unsafe.Sizeof`. -/
def constsAgree (c : Config) : Bool :=
  szConsts.all fun (k, n) => (c.const k).isSome && c.const k == (c.ty n).map sizeA

/-! ### the alignment rule -/

/-- `alignUp x a` is the least multiple of `a` that is `≥ x` (what the compiler pads to). -/
theorem alignUp_least (x a : Nat) (ha : 0 < a) :
    x ≤ alignUp x a ∧ alignUp x a % a = 0 ∧ ∀ y, x ≤ y → y % a = 0 → alignUp x a ≤ y :=
  ⟨alignUp_ge x a, alignUp_mod_eq_zero x a ha, fun y => C01.alignUp_least x a y ha⟩

/-- UNIVERSAL: for any layout tree in which (at every nesting level) every field starts at a multiple of its
alignment in the packed image and the packed size of every struct is a multiple of its alignment, the packed
image and the memory layout coincide: same size, and for a struct the same offset and size for every field.
This is why the explicit `Pad*`/`Gap*` fields work. -/
theorem packed_eq_aligned_of_wellPadded (t : Ty) (h : wellPadded t = true) :
    sizeA t = sizeP t ∧ t.aligned = t.packed :=
  packed_eq_aligned t h

/-- non-vacuity, and the converse direction on an example: one unpadded byte before an int32 is rejected. -/
example : wellPadded (.struct [("a", .prim 1 1), ("pad", .arr 3 (.prim 1 1)), ("b", .prim 4 4)]) = true ∧
    wellPadded (.struct [("a", .prim 1 1), ("b", .prim 4 4)]) = false := by decide

/-! ### configuration `default` -/

/-- every disk record type of this configuration satisfies the hypothesis of the universal theorem. -/
theorem wellPadded_disk_types_default :
    ∀ n ∈ ["UserecRaw", "Userec2Raw", "BoardHeaderRaw", "FileHeaderRaw", "PostLog"], ((cfgDefault.ty n).map wellPadded) = some true := by decide +kernel

theorem packed_eq_aligned_UserecRaw_default : PackedEqAligned cfgDefault "UserecRaw" :=
  .of_wellPadded (wellPadded_disk_types_default _ (by simp))
theorem packed_eq_aligned_Userec2Raw_default : PackedEqAligned cfgDefault "Userec2Raw" :=
  .of_wellPadded (wellPadded_disk_types_default _ (by simp))
theorem packed_eq_aligned_BoardHeaderRaw_default : PackedEqAligned cfgDefault "BoardHeaderRaw" :=
  .of_wellPadded (wellPadded_disk_types_default _ (by simp))
theorem packed_eq_aligned_FileHeaderRaw_default : PackedEqAligned cfgDefault "FileHeaderRaw" :=
  .of_wellPadded (wellPadded_disk_types_default _ (by simp))
theorem packed_eq_aligned_PostLog_default : PackedEqAligned cfgDefault "PostLog" :=
  .of_wellPadded (wellPadded_disk_types_default _ (by simp))

theorem fav_entry_FavBoard_default : FavEntryOK siteDefault "FavBoard" "SIZE_OF_FAV_BOARD" := by decide +kernel
theorem fav_entry_FavLine_default : FavEntryOK siteDefault "FavLine" "SIZE_OF_FAV_LINE" := by decide +kernel
theorem fav_entry_Fav4Board_default : FavEntryOK siteDefault "Fav4Board" "SIZE_OF_FAV4_BOARD" := by decide +kernel

/-- the alignment rule of the model = the compiler's (go/types gc/amd64 Sizeof, Alignof, Offsetsof), all types. -/
theorem aligned_eq_compiler_default : compilerAgrees cfgDefault = true := by decide +kernel
theorem consts_eq_model_default : constsAgree cfgDefault = true := by decide +kernel

-- the number is the position of the type in `cfgDefault.types` (and in `Frozen.byGoName`)
theorem matches_frozen_UserecRaw_default : MatchesFrozen siteDefault "UserecRaw" :=
  tablesAgree_default.matchesFrozen_at 0 rfl
theorem matches_frozen_Userec2Raw_default : MatchesFrozen siteDefault "Userec2Raw" :=
  tablesAgree_default.matchesFrozen_at 1 rfl
theorem matches_frozen_BoardHeaderRaw_default : MatchesFrozen siteDefault "BoardHeaderRaw" :=
  tablesAgree_default.matchesFrozen_at 2 rfl
theorem matches_frozen_FileHeaderRaw_default : MatchesFrozen siteDefault "FileHeaderRaw" :=
  tablesAgree_default.matchesFrozen_at 3 rfl
theorem matches_frozen_PostLog_default : MatchesFrozen siteDefault "PostLog" :=
  tablesAgree_default.matchesFrozen_at 4 rfl
theorem matches_frozen_FavBoard_default : MatchesFrozen siteDefault "FavBoard" :=
  tablesAgree_default.matchesFrozen_at 5 rfl
theorem matches_frozen_FavLine_default : MatchesFrozen siteDefault "FavLine" :=
  tablesAgree_default.matchesFrozen_at 6 rfl
theorem matches_frozen_Fav4Board_default : MatchesFrozen siteDefault "Fav4Board" :=
  tablesAgree_default.matchesFrozen_at 7 rfl
theorem matches_frozen_MsgQueueRaw_default : MatchesFrozen siteDefault "MsgQueueRaw" :=
  tablesAgree_default.matchesFrozen_at 8 rfl
theorem matches_frozen_UserInfoRaw_default : MatchesFrozen siteDefault "UserInfoRaw" :=
  tablesAgree_default.matchesFrozen_at 9 rfl
theorem matches_frozen_shmGV2_default : MatchesFrozen siteDefault "shmGV2" :=
  tablesAgree_default.matchesFrozen_at 10 rfl
theorem matches_frozen_SHMRaw_default : MatchesFrozen siteDefault "SHMRaw" :=
  tablesAgree_default.matchesFrozen_at 11 rfl

/-- "files written by either implementation are read back field for field by the other": for every record type
that is serialised whole, the image `encoding/binary` reads and writes has exactly the frozen pttbbs members
(names, offsets, sizes) and the frozen total size. -/
theorem disk_images_interchangeable_default :
    ∀ n ∈ ["UserecRaw", "Userec2Raw", "BoardHeaderRaw", "FileHeaderRaw", "PostLog"],
      (cfgDefault.ty n).isSome = true ∧ (cfgDefault.ty n).map Ty.packed = (frozenOf kDefault n).map Frozen.fields ∧
      (cfgDefault.ty n).map sizeP = (frozenOf kDefault n).map Frozen.sizeOf := by
  intro n hn
  have hp := PackedEqAligned.of_wellPadded (wellPadded_disk_types_default n hn)
  have hm := tablesAgree_default.matchesFrozen n
  exact ⟨hp.1, hp.2.1.trans hm.1, hp.2.2.trans hm.2⟩

/-- every package-level constant defined as `unsafe.Offsetof(X.Field)` (the `BOARD_HEADER_*_OFFSET` and
`USER_INFO_*_OFFSET` used for direct shared-memory access) has the frozen pttbbs offset of that member. -/
theorem offset_consts_frozen_default :
    ∀ e ∈ cfgDefault.offsetConsts, (frozenField kDefault e.2.1 e.2.2.1).map (·.1) = some e.2.2.2 := by decide +kernel

/-- the value the Go type checker computes for every `unsafe.Offsetof` expression in the bodies of the partial
accessors is the model's aligned offset of that field. -/
theorem offsetof_values_default :
    ∀ u ∈ cfgDefault.updates, ∀ o ∈ u.2.2, (cfgDefault.offsetof o.1 o.2.1).map (·.1) = some o.2.2 := by decide +kernel

/-- the documented record sizes. -/
theorem disk_sizes_default :
    ["UserecRaw", "Userec2Raw", "BoardHeaderRaw", "FileHeaderRaw", "PostLog", "FavBoard"].map (fun n => (cfgDefault.ty n).map sizeA) =
      [some 512, some 128, some 256, some 128, some 100, some 12] := by decide +kernel
theorem msgQueue_size_default : (cfgDefault.ty "MsgQueueRaw").map sizeA = some 100 := by decide +kernel

/-! ### configuration `docker` -/

/-- every disk record type of this configuration satisfies the hypothesis of the universal theorem. -/
theorem wellPadded_disk_types_docker :
    ∀ n ∈ ["UserecRaw", "Userec2Raw", "BoardHeaderRaw", "FileHeaderRaw", "PostLog"], ((cfgDocker.ty n).map wellPadded) = some true := by decide +kernel

theorem packed_eq_aligned_UserecRaw_docker : PackedEqAligned cfgDocker "UserecRaw" :=
  .of_wellPadded (wellPadded_disk_types_docker _ (by simp))
theorem packed_eq_aligned_Userec2Raw_docker : PackedEqAligned cfgDocker "Userec2Raw" :=
  .of_wellPadded (wellPadded_disk_types_docker _ (by simp))
theorem packed_eq_aligned_BoardHeaderRaw_docker : PackedEqAligned cfgDocker "BoardHeaderRaw" :=
  .of_wellPadded (wellPadded_disk_types_docker _ (by simp))
theorem packed_eq_aligned_FileHeaderRaw_docker : PackedEqAligned cfgDocker "FileHeaderRaw" :=
  .of_wellPadded (wellPadded_disk_types_docker _ (by simp))
theorem packed_eq_aligned_PostLog_docker : PackedEqAligned cfgDocker "PostLog" :=
  .of_wellPadded (wellPadded_disk_types_docker _ (by simp))

theorem fav_entry_FavBoard_docker : FavEntryOK siteDocker "FavBoard" "SIZE_OF_FAV_BOARD" := by decide +kernel
theorem fav_entry_FavLine_docker : FavEntryOK siteDocker "FavLine" "SIZE_OF_FAV_LINE" := by decide +kernel
theorem fav_entry_Fav4Board_docker : FavEntryOK siteDocker "Fav4Board" "SIZE_OF_FAV4_BOARD" := by decide +kernel

/-- the alignment rule of the model = the compiler's (go/types gc/amd64 Sizeof, Alignof, Offsetsof), all types. -/
theorem aligned_eq_compiler_docker : compilerAgrees cfgDocker = true := by decide +kernel
theorem consts_eq_model_docker : constsAgree cfgDocker = true := by decide +kernel

theorem matches_frozen_UserecRaw_docker : MatchesFrozen siteDocker "UserecRaw" :=
  tablesAgree_docker.matchesFrozen_at 0 rfl
theorem matches_frozen_Userec2Raw_docker : MatchesFrozen siteDocker "Userec2Raw" :=
  tablesAgree_docker.matchesFrozen_at 1 rfl
theorem matches_frozen_BoardHeaderRaw_docker : MatchesFrozen siteDocker "BoardHeaderRaw" :=
  tablesAgree_docker.matchesFrozen_at 2 rfl
theorem matches_frozen_FileHeaderRaw_docker : MatchesFrozen siteDocker "FileHeaderRaw" :=
  tablesAgree_docker.matchesFrozen_at 3 rfl
theorem matches_frozen_PostLog_docker : MatchesFrozen siteDocker "PostLog" :=
  tablesAgree_docker.matchesFrozen_at 4 rfl
theorem matches_frozen_FavBoard_docker : MatchesFrozen siteDocker "FavBoard" :=
  tablesAgree_docker.matchesFrozen_at 5 rfl
theorem matches_frozen_FavLine_docker : MatchesFrozen siteDocker "FavLine" :=
  tablesAgree_docker.matchesFrozen_at 6 rfl
theorem matches_frozen_Fav4Board_docker : MatchesFrozen siteDocker "Fav4Board" :=
  tablesAgree_docker.matchesFrozen_at 7 rfl
theorem matches_frozen_MsgQueueRaw_docker : MatchesFrozen siteDocker "MsgQueueRaw" :=
  tablesAgree_docker.matchesFrozen_at 8 rfl
theorem matches_frozen_UserInfoRaw_docker : MatchesFrozen siteDocker "UserInfoRaw" :=
  tablesAgree_docker.matchesFrozen_at 9 rfl
theorem matches_frozen_shmGV2_docker : MatchesFrozen siteDocker "shmGV2" :=
  tablesAgree_docker.matchesFrozen_at 10 rfl
theorem matches_frozen_SHMRaw_docker : MatchesFrozen siteDocker "SHMRaw" :=
  tablesAgree_docker.matchesFrozen_at 11 rfl

/-- "files written by either implementation are read back field for field by the other": for every record type
that is serialised whole, the image `encoding/binary` reads and writes has exactly the frozen pttbbs members
(names, offsets, sizes) and the frozen total size. -/
theorem disk_images_interchangeable_docker :
    ∀ n ∈ ["UserecRaw", "Userec2Raw", "BoardHeaderRaw", "FileHeaderRaw", "PostLog"],
      (cfgDocker.ty n).isSome = true ∧ (cfgDocker.ty n).map Ty.packed = (frozenOf kDocker n).map Frozen.fields ∧
      (cfgDocker.ty n).map sizeP = (frozenOf kDocker n).map Frozen.sizeOf := by
  intro n hn
  have hp := PackedEqAligned.of_wellPadded (wellPadded_disk_types_docker n hn)
  have hm := tablesAgree_docker.matchesFrozen n
  exact ⟨hp.1, hp.2.1.trans hm.1, hp.2.2.trans hm.2⟩

/-- every package-level constant defined as `unsafe.Offsetof(X.Field)` (the `BOARD_HEADER_*_OFFSET` and
`USER_INFO_*_OFFSET` used for direct shared-memory access) has the frozen pttbbs offset of that member. -/
theorem offset_consts_frozen_docker :
    ∀ e ∈ cfgDocker.offsetConsts, (frozenField kDocker e.2.1 e.2.2.1).map (·.1) = some e.2.2.2 := by decide +kernel

/-- the value the Go type checker computes for every `unsafe.Offsetof` expression in the bodies of the partial
accessors is the model's aligned offset of that field. -/
theorem offsetof_values_docker :
    ∀ u ∈ cfgDocker.updates, ∀ o ∈ u.2.2, (cfgDocker.offsetof o.1 o.2.1).map (·.1) = some o.2.2 := by decide +kernel

/-- the documented record sizes. -/
theorem disk_sizes_docker :
    ["UserecRaw", "Userec2Raw", "BoardHeaderRaw", "FileHeaderRaw", "PostLog", "FavBoard"].map (fun n => (cfgDocker.ty n).map sizeA) =
      [some 512, some 128, some 256, some 128, some 100, some 12] := by decide +kernel
theorem msgQueue_size_docker : (cfgDocker.ty "MsgQueueRaw").map sizeA = some 100 := by decide +kernel

/-- under the production constants a shared-memory user slot is 3484 bytes. -/
theorem userInfo_size_docker : (cfgDocker.ty "UserInfoRaw").map sizeA = some 3484 := by decide +kernel

/-- … and those constants are the ones pttbbs production runs with. -/
theorem docker_userinfo_constants :
    [cfgDocker.const "MAX_FRIEND", cfgDocker.const "MAX_REJECT", cfgDocker.const "MAX_MSGS"] =
      [some 256, some 32, some 10] := by decide +kernel

/-- `MsgQueueRaw`/`UserInfoRaw` are NOT padding-free (97 vs 100 bytes; 2203 vs 2236 under the default constants):
they are only ever overlaid on shared memory, never serialised, so only `matches_frozen_*` is claimed for them. -/
example : (cfgDefault.ty "MsgQueueRaw").map sizeP = some 97 := by decide +kernel

/-! ### single-field updates -/

/-- UNIVERSAL over files, strides, slots, field positions and values: seeking to
`sz*(u-1) + off` in a file that holds slot `u` and writing `b` (which fits inside the record)
keeps the length, changes nothing outside `[pos, pos+|b|)`, leaves every other record as it was, and inside
record `u` puts `b` at `off` and keeps every byte range disjoint from the field. -/
theorem update_field_frame (f : List Nat) (sz u off : Nat) (b : List Nat)
    (hu : 1 ≤ u) (hfit : off + b.length ≤ sz) (hin : u * sz ≤ f.length) :
    (writeAt f (seekPos sz u off) b).length = f.length ∧
    (∀ i, (i < seekPos sz u off ∨ seekPos sz u off + b.length ≤ i) →
        (writeAt f (seekPos sz u off) b)[i]? = f[i]?) ∧
    (∀ j, j < b.length → (writeAt f (seekPos sz u off) b)[seekPos sz u off + j]? = b[j]?) ∧
    (∀ v, v ≠ u - 1 → slot (writeAt f (seekPos sz u off) b) sz v = slot f sz v) ∧
    fieldBytes (slot (writeAt f (seekPos sz u off) b) sz (u - 1)) off b.length = b ∧
    (∀ o n, (o + n ≤ off ∨ off + b.length ≤ o) →
        fieldBytes (slot (writeAt f (seekPos sz u off) b) sz (u - 1)) o n = fieldBytes (slot f sz (u - 1)) o n) := by
  obtain ⟨w, rfl⟩ : ∃ w, u = w + 1 := ⟨u - 1, (Nat.sub_add_cancel hu).symm⟩
  rw [seekPos, Nat.add_sub_cancel, Nat.mul_comm]
  have hle : w * sz + off + b.length ≤ f.length := by rw [Nat.succ_mul] at hin; omega
  -- the file seen through windows: another record is a disjoint window, a range of record `w` a nested one
  have hr := fieldBytes_writeAt hle
  refine ⟨writeAt_length_of_le hle, writeAt_outside hle, writeAt_inside f _ b,
    fun v hv => hr.2 _ _ (other_slot_disjoint hv hfit), ?_, fun o n hd => ?_⟩
  · rw [slot_eq_fieldBytes, fieldBytes_fieldBytes, Nat.min_eq_left (by omega)]
    exact hr.1
  · rw [slot_eq_fieldBytes, slot_eq_fieldBytes, fieldBytes_fieldBytes, fieldBytes_fieldBytes]
    exact hr.2 _ _ (by omega)

/-- non-vacuity of `update_field_frame`: slot 2 of a three-record file of stride 8. -/
example : writeAt (List.replicate 24 7) (seekPos 8 2 3) [1, 2] =
    [7,7,7,7,7,7,7,7, 7,7,7,1,2,7,7,7, 7,7,7,7,7,7,7,7] := by decide

/-- every partial update of the tree seeks with the stride and to the field(s) it is meant to
(`Frozen.intended`), as read from the function bodies by the translator; offsets and strides are the frozen
C ones.  (The projections of an entry `e` are read out at `SeeksAsIntended`.) -/
theorem seek_matches_intended_default :
    ∀ e ∈ Frozen.intended,
      cfgDefault.seek e.1 = some ⟨e.2.2.1.bind cfgDefault.const, e.2.2.2.filterMap (frozenField kDefault e.2.1)⟩ ∧
      (e.2.2.2.filterMap (frozenField kDefault e.2.1)).length = e.2.2.2.length ∧
      (∀ s ∈ e.2.2.1, cfgDefault.const s = (frozenOf kDefault e.2.1).map Frozen.sizeOf) :=
  seeksAsIntended_default

/-- every partial update of the tree seeks with the stride and to the field(s) it is meant to
(`Frozen.intended`), as read from the function bodies by the translator; offsets and strides are the frozen
C ones. -/
theorem seek_matches_intended_docker :
    ∀ e ∈ Frozen.intended,
      cfgDocker.seek e.1 = some ⟨e.2.2.1.bind cfgDocker.const, e.2.2.2.filterMap (frozenField kDocker e.2.1)⟩ ∧
      (e.2.2.2.filterMap (frozenField kDocker e.2.1)).length = e.2.2.2.length ∧
      (∀ s ∈ e.2.2.1, cfgDocker.const s = (frozenOf kDocker e.2.1).map Frozen.sizeOf) :=
  seeksAsIntended_docker

/-- cmbbs.PasswdUpdatePasswd / PasswdUpdateEmail / cache.passwdUpdateMoney: whenever the call succeeds the
uid was valid, and (if the file holds that user's record) the file keeps its length, every other user's record
is unchanged, the target field — at its frozen pttbbs offset — holds the new value and every byte range of that
user's record outside the field is unchanged.  All files, all uids, all values.
(`s` and `fld` occur in `hs` only: they say which frozen field `(off, n)` is.) -/
theorem passwd_update_frame (s : Site) (fn fld : String) (sz off n : Nat)
    (hs : SeekIsFrozen s fn "UserecRaw" fld sz off n)
    (f : List Nat) (uid : Int) (b f' : List Nat)
    (h : passwdWrite s.cfg fn f uid b = some f') :
    ∃ u : Nat, uid = (u : Int) ∧ 1 ≤ u ∧ b.length = n ∧
      (u * sz ≤ f.length →
        f'.length = f.length ∧
        (∀ v, v ≠ u - 1 → slot f' sz v = slot f sz v) ∧
        fieldBytes (slot f' sz (u - 1)) off n = b ∧
        ∀ o m, (o + m ≤ off ∨ off + n ≤ o) →
          fieldBytes (slot f' sz (u - 1)) o m = fieldBytes (slot f sz (u - 1)) o m) := by
  obtain ⟨hseek, _, _, hfit⟩ := hs
  obtain ⟨u, hu, hb, rfl⟩ := passwdWrite_some hseek h
  obtain ⟨h1, h2, _⟩ := validUid_some hu
  refine ⟨u, h1, h2, hb, fun hin => ?_⟩
  subst hb
  obtain ⟨a1, _, _, a4, a5, a6⟩ := update_field_frame f sz u off b h2 hfit hin
  exact ⟨a1, a4, a5, a6⟩

/-- an invalid uid never touches the file. -/
theorem passwd_update_invalid (c : Config) (fn : String) (f : List Nat) (uid : Int) (b : List Nat)
    (h : validUid c uid = none) : passwdWrite c fn f uid b = none := by
  simp [passwdWrite, h]

/-- `uid.IsValid()`: exactly the uids `1 … MAX_USERS`. -/
theorem validUid_iff (c : Config) (m : Nat) (hm : c.const "MAX_USERS" = some m) (uid : Int) (u : Nat) :
    validUid c uid = some u ↔ uid = (u : Int) ∧ 1 ≤ u ∧ u ≤ m := by
  constructor
  · intro h
    obtain ⟨h1, h2, m', hm', h3⟩ := validUid_some h
    cases hm.symm.trans hm'
    exact ⟨h1, h2, h3⟩
  · rintro ⟨rfl, h2, h3⟩
    show validUid c (Int.ofNat u) = some u
    simp [validUid, hm, h2, h3]

/-- cmbbs.PasswdQueryPasswd / PasswdQueryUserLevel return exactly the field — at its frozen pttbbs offset — of
the record the whole-record reader cmbbs.PasswdQuery returns: the partial and the whole reader agree. -/
theorem passwd_query_field (s : Site) (fn fld : String) (sz off n : Nat) (t : Ty)
    (hs : SeekIsFrozen s fn "UserecRaw" fld sz off n)
    (hq : s.cfg.seek "cmbbs.PasswdQuery" = some ⟨some sz, []⟩) (ht : s.cfg.ty "UserecRaw" = some t)
    (hsz : sizeP t = sz)
    (f : List Nat) (uid : Int) (r : List Nat) (h : passwdQuery s.cfg f uid = some r) :
    passwdRead s.cfg fn f uid = some (fieldBytes r off n) := by
  obtain ⟨hseek, _, _, hfit⟩ := hs
  cases hu : validUid s.cfg uid with
  | none => simp [passwdQuery, hu] at h
  | some u =>
    rw [passwdQuery_eq f hq ht hu, hsz] at h
    rw [passwdRead_eq f hseek hu]
    exact readAt_field hfit h

/-! instances for configuration `default`: stride and field are the ones the translator read out of the source
(the number is the position of the function in `Frozen.intended`) -/

theorem passwdUpdatePasswd_seek_default : SeekIsFrozen siteDefault "cmbbs.PasswdUpdatePasswd" "UserecRaw" "PasswdHash" 512 61 14 :=
  passwdFacts_default.seek_field 4 rfl (by decide +kernel) (by decide)
theorem passwdUpdatePasswd_frame_default (f : List Nat) (uid : Int) (b f' : List Nat)
    (h : passwdWrite cfgDefault "cmbbs.PasswdUpdatePasswd" f uid b = some f') :
    ∃ u : Nat, uid = (u : Int) ∧ 1 ≤ u ∧ b.length = 14 ∧
      (u * 512 ≤ f.length →
        f'.length = f.length ∧
        (∀ v, v ≠ u - 1 → slot f' 512 v = slot f 512 v) ∧
        fieldBytes (slot f' 512 (u - 1)) 61 14 = b ∧
        ∀ o m, (o + m ≤ 61 ∨ 61 + 14 ≤ o) →
          fieldBytes (slot f' 512 (u - 1)) o m = fieldBytes (slot f 512 (u - 1)) o m) :=
  passwd_update_frame siteDefault _ _ 512 61 14 passwdUpdatePasswd_seek_default f uid b f' h

theorem passwdUpdateEmail_seek_default : SeekIsFrozen siteDefault "cmbbs.PasswdUpdateEmail" "UserecRaw" "Email" 512 128 50 :=
  passwdFacts_default.seek_field 5 rfl (by decide +kernel) (by decide)
theorem passwdUpdateEmail_frame_default (f : List Nat) (uid : Int) (b f' : List Nat)
    (h : passwdWrite cfgDefault "cmbbs.PasswdUpdateEmail" f uid b = some f') :
    ∃ u : Nat, uid = (u : Int) ∧ 1 ≤ u ∧ b.length = 50 ∧
      (u * 512 ≤ f.length →
        f'.length = f.length ∧
        (∀ v, v ≠ u - 1 → slot f' 512 v = slot f 512 v) ∧
        fieldBytes (slot f' 512 (u - 1)) 128 50 = b ∧
        ∀ o m, (o + m ≤ 128 ∨ 128 + 50 ≤ o) →
          fieldBytes (slot f' 512 (u - 1)) o m = fieldBytes (slot f 512 (u - 1)) o m) :=
  passwd_update_frame siteDefault _ _ 512 128 50 passwdUpdateEmail_seek_default f uid b f' h

theorem passwdUpdateMoney_seek_default : SeekIsFrozen siteDefault "cache.passwdUpdateMoney" "UserecRaw" "Money" 512 120 4 :=
  passwdFacts_default.seek_field 6 rfl (by decide +kernel) (by decide)
theorem passwdUpdateMoney_frame_default (f : List Nat) (uid : Int) (b f' : List Nat)
    (h : passwdWrite cfgDefault "cache.passwdUpdateMoney" f uid b = some f') :
    ∃ u : Nat, uid = (u : Int) ∧ 1 ≤ u ∧ b.length = 4 ∧
      (u * 512 ≤ f.length →
        f'.length = f.length ∧
        (∀ v, v ≠ u - 1 → slot f' 512 v = slot f 512 v) ∧
        fieldBytes (slot f' 512 (u - 1)) 120 4 = b ∧
        ∀ o m, (o + m ≤ 120 ∨ 120 + 4 ≤ o) →
          fieldBytes (slot f' 512 (u - 1)) o m = fieldBytes (slot f 512 (u - 1)) o m) :=
  passwd_update_frame siteDefault _ _ 512 120 4 passwdUpdateMoney_seek_default f uid b f' h

theorem passwdQueryPasswd_seek_default : SeekIsFrozen siteDefault "cmbbs.PasswdQueryPasswd" "UserecRaw" "PasswdHash" 512 61 14 :=
  passwdFacts_default.seek_field 2 rfl (by decide +kernel) (by decide)
theorem passwdQueryPasswd_field_default (f : List Nat) (uid : Int) (r : List Nat) (h : passwdQuery cfgDefault f uid = some r) :
    passwdRead cfgDefault "cmbbs.PasswdQueryPasswd" f uid = some (fieldBytes r 61 14) := by
  obtain ⟨t, ht, hsz⟩ := Option.map_eq_some_iff.mp passwdFacts_default.imageSize
  exact passwd_query_field siteDefault _ _ 512 61 14 t passwdQueryPasswd_seek_default (passwdFacts_default.seek 0 rfl) ht hsz f uid r h

theorem passwdQueryUserLevel_seek_default : SeekIsFrozen siteDefault "cmbbs.PasswdQueryUserLevel" "UserecRaw" "UserLevel" 512 84 4 :=
  passwdFacts_default.seek_field 3 rfl (by decide +kernel) (by decide)
theorem passwdQueryUserLevel_field_default (f : List Nat) (uid : Int) (r : List Nat) (h : passwdQuery cfgDefault f uid = some r) :
    passwdRead cfgDefault "cmbbs.PasswdQueryUserLevel" f uid = some (fieldBytes r 84 4) := by
  obtain ⟨t, ht, hsz⟩ := Option.map_eq_some_iff.mp passwdFacts_default.imageSize
  exact passwd_query_field siteDefault _ _ 512 84 4 t passwdQueryUserLevel_seek_default (passwdFacts_default.seek 0 rfl) ht hsz f uid r h

/-! instances for configuration `docker`: stride and field are the ones the translator read out of the source -/

theorem passwdUpdatePasswd_seek_docker : SeekIsFrozen siteDocker "cmbbs.PasswdUpdatePasswd" "UserecRaw" "PasswdHash" 512 61 14 :=
  passwdFacts_docker.seek_field 4 rfl (by decide +kernel) (by decide)
theorem passwdUpdatePasswd_frame_docker (f : List Nat) (uid : Int) (b f' : List Nat)
    (h : passwdWrite cfgDocker "cmbbs.PasswdUpdatePasswd" f uid b = some f') :
    ∃ u : Nat, uid = (u : Int) ∧ 1 ≤ u ∧ b.length = 14 ∧
      (u * 512 ≤ f.length →
        f'.length = f.length ∧
        (∀ v, v ≠ u - 1 → slot f' 512 v = slot f 512 v) ∧
        fieldBytes (slot f' 512 (u - 1)) 61 14 = b ∧
        ∀ o m, (o + m ≤ 61 ∨ 61 + 14 ≤ o) →
          fieldBytes (slot f' 512 (u - 1)) o m = fieldBytes (slot f 512 (u - 1)) o m) :=
  passwd_update_frame siteDocker _ _ 512 61 14 passwdUpdatePasswd_seek_docker f uid b f' h

theorem passwdUpdateEmail_seek_docker : SeekIsFrozen siteDocker "cmbbs.PasswdUpdateEmail" "UserecRaw" "Email" 512 128 50 :=
  passwdFacts_docker.seek_field 5 rfl (by decide +kernel) (by decide)
theorem passwdUpdateEmail_frame_docker (f : List Nat) (uid : Int) (b f' : List Nat)
    (h : passwdWrite cfgDocker "cmbbs.PasswdUpdateEmail" f uid b = some f') :
    ∃ u : Nat, uid = (u : Int) ∧ 1 ≤ u ∧ b.length = 50 ∧
      (u * 512 ≤ f.length →
        f'.length = f.length ∧
        (∀ v, v ≠ u - 1 → slot f' 512 v = slot f 512 v) ∧
        fieldBytes (slot f' 512 (u - 1)) 128 50 = b ∧
        ∀ o m, (o + m ≤ 128 ∨ 128 + 50 ≤ o) →
          fieldBytes (slot f' 512 (u - 1)) o m = fieldBytes (slot f 512 (u - 1)) o m) :=
  passwd_update_frame siteDocker _ _ 512 128 50 passwdUpdateEmail_seek_docker f uid b f' h

theorem passwdUpdateMoney_seek_docker : SeekIsFrozen siteDocker "cache.passwdUpdateMoney" "UserecRaw" "Money" 512 120 4 :=
  passwdFacts_docker.seek_field 6 rfl (by decide +kernel) (by decide)
theorem passwdUpdateMoney_frame_docker (f : List Nat) (uid : Int) (b f' : List Nat)
    (h : passwdWrite cfgDocker "cache.passwdUpdateMoney" f uid b = some f') :
    ∃ u : Nat, uid = (u : Int) ∧ 1 ≤ u ∧ b.length = 4 ∧
      (u * 512 ≤ f.length →
        f'.length = f.length ∧
        (∀ v, v ≠ u - 1 → slot f' 512 v = slot f 512 v) ∧
        fieldBytes (slot f' 512 (u - 1)) 120 4 = b ∧
        ∀ o m, (o + m ≤ 120 ∨ 120 + 4 ≤ o) →
          fieldBytes (slot f' 512 (u - 1)) o m = fieldBytes (slot f 512 (u - 1)) o m) :=
  passwd_update_frame siteDocker _ _ 512 120 4 passwdUpdateMoney_seek_docker f uid b f' h

theorem passwdQueryPasswd_seek_docker : SeekIsFrozen siteDocker "cmbbs.PasswdQueryPasswd" "UserecRaw" "PasswdHash" 512 61 14 :=
  passwdFacts_docker.seek_field 2 rfl (by decide +kernel) (by decide)
theorem passwdQueryPasswd_field_docker (f : List Nat) (uid : Int) (r : List Nat) (h : passwdQuery cfgDocker f uid = some r) :
    passwdRead cfgDocker "cmbbs.PasswdQueryPasswd" f uid = some (fieldBytes r 61 14) := by
  obtain ⟨t, ht, hsz⟩ := Option.map_eq_some_iff.mp passwdFacts_docker.imageSize
  exact passwd_query_field siteDocker _ _ 512 61 14 t passwdQueryPasswd_seek_docker (passwdFacts_docker.seek 0 rfl) ht hsz f uid r h

theorem passwdQueryUserLevel_seek_docker : SeekIsFrozen siteDocker "cmbbs.PasswdQueryUserLevel" "UserecRaw" "UserLevel" 512 84 4 :=
  passwdFacts_docker.seek_field 3 rfl (by decide +kernel) (by decide)
theorem passwdQueryUserLevel_field_docker (f : List Nat) (uid : Int) (r : List Nat) (h : passwdQuery cfgDocker f uid = some r) :
    passwdRead cfgDocker "cmbbs.PasswdQueryUserLevel" f uid = some (fieldBytes r 84 4) := by
  obtain ⟨t, ht, hsz⟩ := Option.map_eq_some_iff.mp passwdFacts_docker.imageSize
  exact passwd_query_field siteDocker _ _ 512 84 4 t passwdQueryUserLevel_seek_docker (passwdFacts_docker.seek 0 rfl) ht hsz f uid r h

/-- non-vacuity: the update succeeds on a two-record file, and the query pair returns a value. -/
example : (passwdWrite cfgDefault "cmbbs.PasswdUpdatePasswd" (List.replicate 1024 7) 2 (List.replicate 14 1)).isSome = true ∧
    (passwdQuery cfgDocker (List.replicate 1024 7) 2).isSome = true := by decide +kernel

/-! ### whole records -/

/-- cmbbs.PasswdUpdate (whole-record writer): a successful call rewrites exactly that user's record. -/
theorem passwd_record_update_frame (c : Config) (sz : Nat) (t : Ty)
    (hs : c.seek "cmbbs.PasswdUpdate" = some ⟨some sz, []⟩) (ht : c.ty "UserecRaw" = some t) (hsz : sizeP t = sz)
    (f : List Nat) (uid : Int) (r f' : List Nat) (h : passwdUpdate c f uid r = some f') :
    ∃ u : Nat, uid = (u : Int) ∧ 1 ≤ u ∧ r.length = sz ∧
      (u * sz ≤ f.length →
        f'.length = f.length ∧ (∀ v, v ≠ u - 1 → slot f' sz v = slot f sz v) ∧ slot f' sz (u - 1) = r) := by
  obtain ⟨u, hu, hr, rfl⟩ := passwdUpdate_some hs ht h
  obtain ⟨h1, h2, _⟩ := validUid_some hu
  rw [hsz] at hr
  refine ⟨u, h1, h2, hr, fun hin => ?_⟩
  subst hr
  obtain ⟨a1, _, _, a4, a5, _⟩ := update_field_frame f r.length u 0 r h2 (by omega) hin
  exact ⟨a1, a4, fieldBytes_slot.symm.trans a5⟩

theorem passwdUpdate_frame_default (f : List Nat) (uid : Int) (r f' : List Nat)
    (h : passwdUpdate cfgDefault f uid r = some f') :
    ∃ u : Nat, uid = (u : Int) ∧ 1 ≤ u ∧ r.length = 512 ∧
      (u * 512 ≤ f.length →
        f'.length = f.length ∧ (∀ v, v ≠ u - 1 → slot f' 512 v = slot f 512 v) ∧ slot f' 512 (u - 1) = r) := by
  obtain ⟨t, ht, hsz⟩ := Option.map_eq_some_iff.mp passwdFacts_default.imageSize
  exact passwd_record_update_frame cfgDefault 512 t (passwdFacts_default.seek 1 rfl) ht hsz f uid r f' h

theorem passwdUpdate_frame_docker (f : List Nat) (uid : Int) (r f' : List Nat)
    (h : passwdUpdate cfgDocker f uid r = some f') :
    ∃ u : Nat, uid = (u : Int) ∧ 1 ≤ u ∧ r.length = 512 ∧
      (u * 512 ≤ f.length →
        f'.length = f.length ∧ (∀ v, v ≠ u - 1 → slot f' 512 v = slot f 512 v) ∧ slot f' 512 (u - 1) = r) := by
  obtain ⟨t, ht, hsz⟩ := Option.map_eq_some_iff.mp passwdFacts_docker.imageSize
  exact passwd_record_update_frame cfgDocker 512 t (passwdFacts_docker.seek 1 rfl) ht hsz f uid r f' h

/-! ### fixed-size entries (`types.BinWrite`) -/

/-- UNIVERSAL (all layout trees, fields, values, sizes): the image `types.BinWrite` produces for a zero struct
with one field set has the requested total length, carries the value at the field's packed offset and is
zero everywhere else — so a reader that slices the same (offset, size) gets the value back, which by
`disk_images_interchangeable_*` / `fav_entry_*` is what pttbbs does. -/
theorem binWrite_image (t : Ty) (i : Nat) (val : List Nat) (total : Nat) (img : List Nat)
    (name : String) (off n : Nat) (hf : t.packed[i]? = some (name, off, n))
    (h : writeFieldPacked t i val total = some img) :
    img.length = total ∧ fieldBytes img off n = val ∧
    ∀ j, (j < off ∨ off + n ≤ j) → j < total → img[j]? = some 0 := by
  have hb : off + n ≤ sizeP t := packed_field_bound hf
  obtain ⟨rfl, ht, rfl⟩ := writeFieldPacked_some hf h
  have hle : off + val.length ≤ (List.replicate (sizeP t) 0).length := by rwa [List.length_replicate]
  have hw : (writeAt (List.replicate (sizeP t) 0) off val).length = sizeP t := by
    rw [writeAt_length_of_le hle, List.length_replicate]
  refine ⟨by rw [List.length_append, hw, List.length_replicate, Nat.add_sub_cancel' ht], ?_, ?_⟩
  · rw [fieldBytes, List.drop_append_of_le_length (by omega), List.take_append_of_le_length]
    · exact (fieldBytes_writeAt hle).1
    · rw [List.length_drop]; omega
  · intro j hj hjt
    rw [List.getElem?_append, hw]
    split
    · rename_i hjs
      rw [writeAt_outside hle j hj, List.getElem?_replicate, if_pos hjs]
    · rw [List.getElem?_replicate, if_pos (by omega)]

/-- non-vacuity: the 12-byte `.fav` board entry with `Attr` set. -/
example : writeFieldPacked Gen.LayoutDefault.tFavBoard 2 [1] 12 = some [0,0,0,0, 0,0,0,0, 1, 0,0,0] := by
  decide +kernel

/-- `types.BinWrite` image of a whole record: exactly `total` bytes. -/
theorem recordImage_length (fs : Fields) (vals : List (List Nat)) (total : Nat) (img : List Nat)
    (h : recordImage (.struct fs) vals total = some img) : img.length = total := by
  unfold recordImage at h
  split at h
  · rename_i hc
    cases h
    rw [List.length_append, List.length_replicate, List.length_flatten, hc.1]
    simp only [Ty.packed, Ty.fields, sizeP, fieldsP_sizes_sum] at hc ⊢
    exact Nat.add_sub_cancel' hc.2
  · cases h

/-! ### `.passwd2` (level-2 permissions) -/

/-- cmbbs.PasswdUpdateUserLevel2: the file is first brought to exactly one 128-byte record (`f1`: created, or
zero-extended; a longer file is refused); the call then rewrites exactly bytes [4,8) (the level: old bits with
`perm` set or cleared) and [8,12) (the update time stamp) of it and nothing else. -/
theorem userLevel2_frame (c : Config) (ver : Nat) (f : Option (List Nat)) (perm : Nat) (isSet : Bool) (ts : Nat)
    (f' : List Nat)
    (hs : c.seek "cmbbs.PasswdUpdateUserLevel2" = some ⟨none, [(4, 4), (4, 4), (8, 4)]⟩)
    (hsz : c.const "USEREC2_RAW_SZ" = some 128) (ht : (c.ty "Userec2Raw").map sizeP = some 128)
    (h : updateUserLevel2 c ver f perm isSet ts = some f') :
    ∃ f1, checkPasswd2 c ver f = some f1 ∧ f1.length = 128 ∧ f'.length = 128 ∧
      (∀ bytes, f = some bytes → f1 = bytes ++ List.replicate (128 - bytes.length) 0) ∧
      (∀ i, (i < 4 ∨ 12 ≤ i) → f'[i]? = f1[i]?) ∧
      fieldBytes f' 8 4 = le32 ts ∧
      fieldBytes f' 4 4 = le32 (if isSet then unLe32 (fieldBytes f1 4 4) ||| perm
                                else unLe32 (fieldBytes f1 4 4) &&& (4294967295 - perm)) := by
  unfold updateUserLevel2 at h
  cases h1 : checkPasswd2 c ver f with
  | none => rw [h1] at h; cases h
  | some f1 =>
    obtain ⟨hlen, hext⟩ := checkPasswd2_some hsz ht (by decide) h1
    simp only [h1, hs, Option.bind_eq_bind, Option.bind_some, Option.pure_def, Option.some.injEq,
      readAt_eq_some_iff.mpr ⟨hlen ▸ (by decide : 4 + 4 ≤ 128), rfl⟩] at h
    obtain ⟨k1, k2, k3, k4⟩ := double_write_frame h (Nat.le_refl 8) (hlen ▸ (by decide : 12 ≤ 128))
    exact ⟨f1, rfl, hlen, k1.trans hlen, hext, k2, k3, k4⟩

theorem userLevel2_frame_default (ver : Nat) (f : Option (List Nat)) (perm : Nat) (isSet : Bool) (ts : Nat) (f' : List Nat)
    (h : updateUserLevel2 cfgDefault ver f perm isSet ts = some f') :
    ∃ f1, checkPasswd2 cfgDefault ver f = some f1 ∧ f1.length = 128 ∧ f'.length = 128 ∧
      (∀ bytes, f = some bytes → f1 = bytes ++ List.replicate (128 - bytes.length) 0) ∧
      (∀ i, (i < 4 ∨ 12 ≤ i) → f'[i]? = f1[i]?) ∧
      fieldBytes f' 8 4 = le32 ts ∧
      fieldBytes f' 4 4 = le32 (if isSet then unLe32 (fieldBytes f1 4 4) ||| perm
                                else unLe32 (fieldBytes f1 4 4) &&& (4294967295 - perm)) :=
  userLevel2_frame cfgDefault ver f perm isSet ts f'
    ((seeksAsIntended_default.seek_noStride 8 rfl).trans (by decide +kernel))
    (by decide +kernel) (by decide +kernel) h

theorem userLevel2_frame_docker (ver : Nat) (f : Option (List Nat)) (perm : Nat) (isSet : Bool) (ts : Nat) (f' : List Nat)
    (h : updateUserLevel2 cfgDocker ver f perm isSet ts = some f') :
    ∃ f1, checkPasswd2 cfgDocker ver f = some f1 ∧ f1.length = 128 ∧ f'.length = 128 ∧
      (∀ bytes, f = some bytes → f1 = bytes ++ List.replicate (128 - bytes.length) 0) ∧
      (∀ i, (i < 4 ∨ 12 ≤ i) → f'[i]? = f1[i]?) ∧
      fieldBytes f' 8 4 = le32 ts ∧
      fieldBytes f' 4 4 = le32 (if isSet then unLe32 (fieldBytes f1 4 4) ||| perm
                                else unLe32 (fieldBytes f1 4 4) &&& (4294967295 - perm)) :=
  userLevel2_frame cfgDocker ver f perm isSet ts f'
    ((seeksAsIntended_docker.seek_noStride 8 rfl).trans (by decide +kernel))
    (by decide +kernel) (by decide +kernel) h

example : (updateUserLevel2 cfgDefault 2 none 5 true 99).isSome = true := by decide +kernel


/-! ### histories with failed writes; concurrent entry writers -/

/-- a write that fails (ENOSPC, EFBIG, EBADF, encoding error) leaves no trace: the files after any history are
the files after the same history with the failed writes removed. -/
theorem failed_writes_leave_no_trace (c : Config) (s : HFiles) (h : List HStep) :
    (runHist c s h).2 = (runHist c s (h.filter (fun st => !st.isFail))).2 := by
  induction h generalizing s with
  | nil => rfl
  | cons st r ih =>
    cases st with
    | fail =>
      simp only [List.filter, HStep.isFail, Bool.not_true]
      rw [runHist_snd_cons]
      exact ih s
    | _ =>
      simp only [List.filter, HStep.isFail, Bool.not_false]
      rw [runHist_snd_cons, runHist_snd_cons]
      exact ih _

/-- a single-field update issued after ANY history (failed writes, other updates, whole-record writes, log
appends, in any order) rewrites exactly its field of exactly that user's record of the `.PASSWDS` that history
left behind, and does not touch the `.post` log.  (`passwd_update_frame` at the `.PASSWDS` the history left.) -/
theorem update_after_any_history_frame (s : Site) (fn fld : String) (sz off n : Nat)
    (hs : SeekIsFrozen s fn "UserecRaw" fld sz off n)
    (s0 : HFiles) (pre : List HStep) (uid : Int) (b : List Nat)
    (hok : (hstep s.cfg (runHist s.cfg s0 pre).2 (.upd fn uid b)).1 = true) :
    let before := (runHist s.cfg s0 pre).2
    let after := (runHist s.cfg s0 (pre ++ [.upd fn uid b])).2
    after.post = before.post ∧
    ∃ u : Nat, uid = (u : Int) ∧ 1 ≤ u ∧ b.length = n ∧
      (u * sz ≤ before.passwd.length →
        after.passwd.length = before.passwd.length ∧
        (∀ v, v ≠ u - 1 → slot after.passwd sz v = slot before.passwd sz v) ∧
        fieldBytes (slot after.passwd sz (u - 1)) off n = b ∧
        ∀ o m, (o + m ≤ off ∨ off + n ≤ o) →
          fieldBytes (slot after.passwd sz (u - 1)) o m = fieldBytes (slot before.passwd sz (u - 1)) o m) := by
  intro before after
  have ha : after = (hstep s.cfg before (.upd fn uid b)).2 := runHist_append_one s.cfg pre s0 _
  change (hstep s.cfg before (.upd fn uid b)).1 = true at hok
  simp only [hstep] at ha hok
  cases hw : passwdWrite s.cfg fn before.passwd uid b with
  | none => simp [hw] at hok
  | some f' =>
    simp only [hw] at ha
    rw [ha]
    exact ⟨rfl, passwd_update_frame s fn fld sz off n hs before.passwd uid b f' hw⟩

/-- non-vacuity: a failed write, then a password update of user 2, on a two-record file. -/
example : (runHist cfgDefault ⟨List.replicate 1024 7, []⟩ [.fail, .upd "cmbbs.PasswdUpdatePasswd" 2 (List.replicate 14 1)]).1
    = [false, true] := by decide +kernel

/-- CONCURRENCY, all schedules: when every `types.BinWrite` call encodes into storage of its own, then under
every interleaving of the encode and write steps of any number of writers, every file consists of whole copies of
the image of ITS OWN record (never a foreign or mixed entry). -/
theorem concurrent_entries_own_image (img : Nat → List Nat) (sched : List WStep) (i : Nat) :
    ∃ k, (wrun img winit sched).files i = (List.replicate k (img i)).flatten :=
  (wrun_inv img sched i).2

/-- witness for the broken rule: with ONE scratch area shared by all writers the schedule
encode 0, encode 1, write 0 puts writer 1's entry into writer 0's file. -/
theorem shared_scratch_breaks :
    (srun (fun i => if i = 0 then [1, 0, 0, 0] else [2, 0, 0, 0]) ⟨[], fun _ => []⟩ [.enc 0, .enc 1, .wr 0]).files 0
      = [2, 0, 0, 0] := by decide

/-- the `.fav` image of one board entry: 6 header bytes, type, attribute, the 12-byte entry. -/
example : favFile cfgDefault 3363 1 16843009 5 =
    some [0x23, 0x0d, 1, 0, 0, 0, 1, 1, 1, 0, 0, 0, 1, 1, 1, 1, 5, 0, 0, 0] := by decide +kernel


/-! ### `.BRD`: a new board re-using a vacated slot -/

/-- ptt.addBoardRecord, vacated-slot branch, all files / slots / headers: the 256-byte header lands at record
`bid-1` — the file keeps its length, that record (which was vacated) becomes the new header and EVERY other
board header is unchanged. -/
theorem brd_new_frame (c : Config) (sz : Nat) (t : Ty)
    (hc : c.const "BOARD_HEADER_RAW_SZ" = some sz) (ht : c.ty "BoardHeaderRaw" = some t) (hsz : sizeP t = sz)
    (before : List Nat) (bid : Nat) (r after : List Nat) (h : brdNew c before bid r = some after)
    (hin : bid ≤ before.length / sz) :
    1 ≤ bid ∧ r.length = sz ∧ vacated before sz (bid - 1) = true ∧ after.length = before.length ∧
    (∀ v, v ≠ bid - 1 → slot after sz v = slot before sz v) ∧ slot after sz (bid - 1) = r := by
  unfold brdNew at h
  simp only [hc, ht, Option.bind_eq_bind, Option.bind_some, hsz, Option.ite_none_left_eq_some, if_pos hin,
    Option.ite_none_right_eq_some, Option.some.injEq] at h
  obtain ⟨hcond, hv, rfl⟩ := h
  obtain ⟨hr, hb⟩ : r.length = sz ∧ 1 ≤ bid := by omega
  subst hr
  obtain ⟨a1, _, _, a4, a5, _⟩ := update_field_frame before r.length bid 0 r hb (by omega)
    (Nat.mul_le_of_le_div _ _ _ hin)
  exact ⟨hb, rfl, hv, a1, a4, fieldBytes_slot.symm.trans a5⟩

/-- witness for the broken rule (1-based bid used as the 0-based record index): the header written for bid 1
lands on the record of bid 2. -/
theorem brd_index_off_by_one_breaks :
    slot (writeAt (List.replicate 8 0 ++ List.replicate 8 7) (seekPos 8 (1 + 1) 0) (List.replicate 8 1)) 8 1
      = List.replicate 8 1 ∧
    slot (writeAt (List.replicate 8 0 ++ List.replicate 8 7) (seekPos 8 (1 + 1) 0) (List.replicate 8 1)) 8 0
      = List.replicate 8 0 := by decide


/-! ### the `multi` union: the value the setters store is the value pttbbs reads there -/

theorem unLe32_le32 (n : Nat) (h : n < 4294967296) : unLe32 (le32 n) = n := by
  -- the four digits as successive quotients by 256: `omega` is much quicker on the chain
  have e2 : n / 65536 = n / 256 / 256 := by rw [Nat.div_div_eq_div_mul]
  have e3 : n / 16777216 = n / 256 / 256 / 256 := by rw [Nat.div_div_eq_div_mul, Nat.div_div_eq_div_mul]
  simp only [le32, unLe32, e2, e3]
  omega

theorem toI32_toU32 (v : Int) (lo : -2147483648 ≤ v) (hi : v < 2147483648) : toI32 (toU32 v) = v := by
  unfold toI32 toU32
  split
  · simp only [Int.ofNat_eq_natCast]; omega
  · simp only [Int.negSucc_eq]; omega

/-- for every 32-bit value and every earlier content of the union: the getter returns what the setter stored, the
four bytes are the little-endian two's-complement image of exactly that value (of `v`, not of `v - 1`), and the
length stays 4. -/
theorem multi_set_get (pre : List Nat) (v : Int) (hp : pre.length = 4) (lo : -2147483648 ≤ v) (hi : v < 2147483648) :
    getMulti (setMulti pre v) = v ∧ (setMulti pre v).take 4 = le32 (toU32 v) ∧ (setMulti pre v).length = 4 := by
  have ht : (setMulti pre v).take 4 = le32 (toU32 v) := List.take_left' (le32_length _)
  refine ⟨?_, ht, by simp [setMulti, le32_length, hp]⟩
  unfold getMulti; rw [ht, unLe32_le32 _ (by unfold toU32; omega), toI32_toU32 v lo hi]

example : setMulti [9, 9, 9, 9] 5 = [5, 0, 0, 0] ∧ getMulti [5, 0, 0, 0] = 5 ∧ setMulti [0, 0, 0, 0] (-2) = [254, 255, 255, 255] := by decide

end PttVerif.C01.Props
