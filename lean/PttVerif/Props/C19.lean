import PttVerif.Proofs.C19Api
import PttVerif.Proofs.C19Total
import PttVerif.Proofs.C19Atomic
/-
C19 — Favourites survive save/load unchanged; a crash never leaves a torn file.
Property theorems only: the model of the Go code is Model/C19.lean, the definitions (`wfFav`, `serFav`, `renumFav`,
`keepValid`, `canon`, `ApiInv`, `CInv`) and helper lemmas are in Proofs/C19*.lean.

Vocabulary.  `wfFav f`: at every level the three stored counters equal the numbers of board / line / folder
entries, these fit the header fields (`< 128` lines, `< 128` folders, `< 32768` entries), board ids and
last-visit stamps fit 32 bits, titles have `TITLE_LEN` (pttbbs `BTLEN+1` = 49) bytes.  `serFav f`: the `.fav`
grammar below the version word (header, entries, then each folder's record depth first).  `renumFav`: lines and
folders numbered 1..k per level.  `keepValid`: the entries carrying the FAV bit, in order, counters recounted.
`canon = renumFav ∘ keepValidFav`.
-/
namespace PttVerif.C19.Props
open PttVerif PttVerif.C19

/-! #### the data regenerated from the source (kernel-checked on every run) -/

/-- version word, type codes and the FAV bit are the pttbbs values the model's format is written for. -/
theorem format_constants :
    Gen.Fav.FAV_VERSION = 3363 ∧ Gen.Fav.FAVT_BOARD = 1 ∧ Gen.Fav.FAVT_FOLDER = 2 ∧ Gen.Fav.FAVT_LINE = 3
      ∧ Gen.Fav.FAVH_FAV = 1 := by decide

/-- a board payload is `int32, int32, int8` (9 bytes) inside a 12-byte C struct, a line payload one byte, of a
folder `Fid` and the 49-byte title are transferred; the header is `int16, int8, int8`. -/
theorem entry_layout :
    Gen.Fav.favBoardFields = [4, 4, 1] ∧ Gen.Fav.SIZE_OF_FAV_BOARD = 12
      ∧ Gen.Fav.favBoardFields.sum ≤ Gen.Fav.SIZE_OF_FAV_BOARD
      ∧ Gen.Fav.favLineFields = [1] ∧ Gen.Fav.SIZE_OF_FAV_LINE = 1
      ∧ Gen.Fav.favFolderFields = [1, 49] ∧ Gen.Fav.headerFieldWidths = [2, 1, 1] := by decide

/-- `WriteFavrec` and `ReadFavrec` transfer the three counters in the same order, the order of the format. -/
theorem header_order :
    Gen.Fav.writeHeader = ["NBoards", "NLines", "NFolders"] ∧ Gen.Fav.readHeader = Gen.Fav.writeHeader := by
  decide

/-- the API limits keep every level inside the header fields. -/
theorem limits_fit_header :
    Gen.Fav.MAX_LINE < 128 ∧ Gen.Fav.MAX_FOLDER < 128 ∧ Gen.Fav.MAX_FAV < 32768
      ∧ Gen.Fav.MAX_BOARD < 4294967296 := by decide

/-- both savers write the file they later rename over `.fav`, and its name is built with a call of the
random-suffix function `types.GetRandom` (read off the source of `ptt.WriteFavorites` and `FavRaw.Save`):
the hypothesis "temporary names pairwise distinct" of `concurrent_saves_atomic`, up to the collision
probability of a random 128-bit suffix. -/
theorem tmp_names_random :
    Gen.Fav.writeFavoritesTmpRandom = true ∧ Gen.Fav.writeFavoritesWritesTmp = true
      ∧ Gen.Fav.saveTmpRandom = true ∧ Gen.Fav.saveWritesTmp = true := by decide

/-! #### (ii) the bytes follow the `.fav` grammar -/

/-- `WriteFavrec` of a well-formed tree is the grammar: header, the entries, the folders' records depth first. -/
theorem write_is_grammar (f : Fav) (h : wfFav f = true) : writeFavrec f = .ok (serFav f) :=
  writeFavrec_eq f h

/-- the file `Save` produces: version word 3363 (little endian), then the grammar of the cleaned tree. -/
theorem serialize_grammar (f : Fav) (h : wfFav f = true) :
    ∃ g, cleanup f = .ok g ∧ wfFav g = true ∧ saveBytes f = .ok ([35, 13] ++ serFav g) := by
  obtain ⟨g, hc, hg, _, hs⟩ := save_spec f h
  exact ⟨g, hc, hg, by simpa [le16] using hs⟩

/-- the shape of a level: 4 header bytes (`int16` boards, `int8` lines, `int8` folders), the entries, the
sub-folders. -/
theorem grammar_level (f : Fav) :
    serFav f = [f.nB % 256, f.nB / 256 % 256, f.nL, f.nF] ++ encEntries f.items ++ serSubs f.items := by
  simp [serFav, hdr, le16]

/-- sub-folders are written depth first: a folder's whole record precedes the record of the next folder. -/
theorem grammar_depth_first (a fid : Nat) (t : List Nat) (nB nL nF : Nat) (sub rest : List Item) :
    serSubs (.folder a fid t nB nL nF sub :: rest) = serFav ⟨nB, nL, nF, sub⟩ ++ serSubs rest :=
  serSubs_folder a fid t nB nL nF sub rest

/-- entry sizes: type byte + attr byte + payload; a board payload is padded to 12 bytes (14 in all), a line is
3 bytes, a folder 2 + 1 + 49. -/
theorem entry_sizes (it : Item) (h : rtOK it = true) :
    (encEntry it).length = if it.isBoard then 14 else if it.isLine then 3 else 52 :=
  encEntry_length it h

/-- a board entry, byte for byte: type 1, attr, bid and last visit little endian, board attr, three pad bytes. -/
theorem board_entry (a bid lv ba : Nat) :
    encEntry (.board a bid lv ba) =
      [1, a, bid % 256, bid / 256 % 256, bid / 65536 % 256, bid / 16777216 % 256,
       lv % 256, lv / 256 % 256, lv / 65536 % 256, lv / 16777216 % 256, ba, 0, 0, 0] := by
  simp [encEntry, le32, List.replicate]

/-- total size of the serialisation: 4 bytes per level, 14 per board, 3 per line, 52 per folder. -/
theorem serialize_length (f : Fav) (h : wfFav f = true) :
    (serFav f).length = 4 * (1 + deepF f.items) + 14 * deepB f.items + 3 * deepL f.items + 52 * deepF f.items :=
  serFav_length f h

/-- every element of the serialisation is a byte. -/
theorem serialize_bytes (f : Fav) (h : wfFav f = true) (hb : bytesOK f.items = true) :
    ∀ b ∈ serFav f, b < 256 :=
  serFav_bytes_of f h hb (serSubs_bytes _ hb (wfItems_of_wfFav h))

/-! #### (i) save then load -/

/-- loading what `WriteFavrec` wrote returns the same entries in the same order with the same counters;
lines and folders are renumbered 1..k. (All trees whose counts fit the header fields; any attr bytes.) -/
theorem parse_serialize (f : Fav) (h : wfFav f = true) :
    ∃ b, writeFavrec f = .ok b ∧ load (le16 VERSION ++ b) = .ok (some (renumFav f)) := by
  refine ⟨serFav f, writeFavrec_eq f h, ?_⟩
  simpa [le16] using load_ser f (VERSION % 256) (VERSION / 256 % 256) h

/-- `Save` (cleanup, write) then `Load`: exactly the entries carrying the FAV bit, in order, renumbered, with
recounted counters. -/
theorem save_then_load (f : Fav) (h : wfFav f = true) :
    ∃ bytes, saveBytes f = .ok bytes ∧ load bytes = .ok (some (canon f)) :=
  save_load f h

/-- when every entry carries the FAV bit nothing is dropped: the loaded tree is the saved one, renumbered. -/
theorem save_then_load_all_valid (f : Fav) (h : wfFav f = true) (hv : allValid f.items = true) :
    ∃ bytes, saveBytes f = .ok bytes ∧ load bytes = .ok (some (renumFav f)) := by
  rw [← canon_of_allValid f h hv]
  exact save_load f h

/-- the counters of the loaded tree are consistent at every level and fit their fields. -/
theorem counters_consistent (f : Fav) (h : wfFav f = true) :
    wfFav (canon f) = true
      ∧ (canon f).nB = cntB (canon f).items ∧ (canon f).nL = cntL (canon f).items
      ∧ (canon f).nF = cntF (canon f).items := by
  have hw := wfFav_canon f h
  obtain ⟨hB, hL, hF, _⟩ := wfFav_iff.mp hw
  exact ⟨hw, hB, hL, hF⟩

/-- `FavNum` as `ReadFavrec` computes it is the number of entries of the subtree. -/
theorem favNum_consistent (items : List Item) (h : totalCount items < 65536) : favNum items = totalCount items := by
  have := favSum_eq items h
  simp [favNum, this]
  omega

/-! #### (iii) arbitrary bytes -/

/-- for ALL byte strings `Load` returns a tree or an error: no panic, no unbounded recursion. -/
theorem parse_total (bs : List Nat) : ∃ r, load bs = .ok r := load_total bs

/-- the guard of fix 1e8ac82: a negative count (here `NLines = -1`) is an error, not a `make` panic. -/
example : load [35, 13, 0, 0, 255, 0] = .ok none := by
  simp [load, readFavrec, dec16, total16, sext8, neg16, neg8, bind, Except.bind, pure, Except.pure]

/-! #### (iv) a crash during a save -/

/-- after ANY prefix of `create tmp; write tmp c₁; …; write tmp cₙ; rename tmp .fav` the file `.fav` holds the
old content or the complete new content — for all old directory states, all contents, all chunkings. -/
theorem save_atomic (fs : FS) (tmp : String) (hne : tmp ≠ FAVFILE) (chunks : List (List Nat)) (k : Nat) :
    run fs ((atomicSteps tmp chunks).take k) FAVFILE = fs FAVFILE
      ∨ run fs ((atomicSteps tmp chunks).take k) FAVFILE = some chunks.flatten :=
  atomic_prefix fs tmp hne chunks k

/-- the uninterrupted sequence installs the new content. -/
theorem save_complete (fs : FS) (tmp : String) (hne : tmp ≠ FAVFILE) (chunks : List (List Nat)) :
    run fs (atomicSteps tmp chunks) FAVFILE = some chunks.flatten :=
  run_atomic fs tmp hne chunks

/-- `FavRaw.Save`: whatever the tree, however the content is cut into `write` calls. -/
theorem favSave_atomic (f : Fav) (bytes : List Nat) (_ : saveBytes f = .ok bytes) (chunks : List (List Nat))
    (hc : chunks.flatten = bytes) (fs : FS) (tmp : String) (hne : tmp ≠ FAVFILE) (k : Nat) :
    run fs ((atomicSteps tmp chunks).take k) FAVFILE = fs FAVFILE
      ∨ run fs ((atomicSteps tmp chunks).take k) FAVFILE = some bytes := by
  rw [← hc]; exact atomic_prefix fs tmp hne chunks k

/-- `ptt.WriteFavorites` (after fix 6502117): one `write` of the content. -/
theorem writeFavorites_atomic (content : List Nat) (fs : FS) (tmp : String) (hne : tmp ≠ FAVFILE) (k : Nat) :
    run fs ((atomicSteps tmp [content]).take k) FAVFILE = fs FAVFILE
      ∨ run fs ((atomicSteps tmp [content]).take k) FAVFILE = some content := by
  simpa using atomic_prefix fs tmp hne [content] k

/-- writing `.fav` in place (`os.WriteFile`, what `WriteFavorites` did before the fix) is NOT atomic: killed
after the truncating open, the file is empty. -/
theorem direct_overwrite_not_atomic :
    ∃ (fs : FS) (chunks : List (List Nat)) (k : Nat),
      run fs ((directSteps chunks).take k) FAVFILE ≠ fs FAVFILE
        ∧ run fs ((directSteps chunks).take k) FAVFILE ≠ some chunks.flatten := by
  refine ⟨fun n => if n = FAVFILE then some [1] else none, [[2, 3]], 1, ?_, ?_⟩ <;>
    simp [directSteps, run, applyStep, FS.set]

/-- nothing is written unless the file is absent or older than the tree in memory. -/
theorem save_writes_iff (m : Option Nat) (t : Nat) :
    checkIsToSave m t = .write ↔ (m = none ∨ ∃ x, m = some x ∧ x < t) := by
  cases m with
  | none => simp [checkIsToSave]
  | some x =>
    simp only [checkIsToSave]
    by_cases h1 : x < t
    · simp [h1]
    · by_cases h2 : x = t <;> simp [h1, h2]

/-! #### overlapping saves -/

/-- a directory in which `.fav` and the temporary names are not hard links of one another, and in which every
inode they name is below `next` (so that a file created later gets an inode no name refers to yet). -/
def WorldOK (tmp : Nat → String) (w : World) : Prop :=
  (∀ a b x, InS tmp a → InS tmp b → w.names a = some x → w.names b = some x → a = b)
    ∧ (∀ a x, InS tmp a → w.names a = some x → x < w.next)

/-- any number of savers, each running `open(tmp i, O_CREAT|O_TRUNC); write…; rename(tmp i, .fav)` on inodes
and descriptors, interleaved in ANY order (`sched`, so every prefix of every interleaving is covered): if the
temporary names are pairwise distinct and differ from `.fav`, then `.fav` always holds the old content or the
complete content of one saver; once any saver has finished, it holds the complete content of one of them. -/
theorem concurrent_saves_atomic (tmp : Nat → String) (chunks : Nat → List (List Nat))
    (htmp : ∀ i j, tmp i = tmp j → i = j) (hne : ∀ i, tmp i ≠ FAVFILE)
    (w0 : World) (hw : WorldOK tmp w0) (sched : List Nat) :
    ((concRun tmp chunks (concInit w0) sched).w.read FAVFILE = w0.read FAVFILE
        ∨ ∃ i, (concRun tmp chunks (concInit w0) sched).w.read FAVFILE = some (chunks i).flatten)
      ∧ ((∃ i, (concRun tmp chunks (concInit w0) sched).st i = .done) →
          ∃ j, (concRun tmp chunks (concInit w0) sched).w.read FAVFILE = some (chunks j).flatten) := by
  have h0 : CInv tmp chunks (w0.read FAVFILE) (concInit w0) :=
    ⟨hw.1, hw.2, fun _ => trivial, Or.inl rfl, by intro ⟨i, h⟩; simp [concInit] at h⟩
  have h := concRun_inv tmp chunks (w0.read FAVFILE) htmp hne sched _ h0
  exact ⟨h.fav, h.fin⟩

def sharedTmp : Nat → String := fun _ => ".fav.tmp"
def tearChunks : Nat → List (List Nat) := fun i => if i = 0 then [[1, 2, 3]] else [[9]]
def tearWorld : World := ⟨fun n => if n = FAVFILE then some 0 else none, fun _ => [7], 1⟩
/-- A opens, B opens (truncating the same inode), A writes, A renames, B writes — into the live `.fav` —, B's
rename finds nothing. -/
def tearSched : List Nat := [0, 1, 0, 0, 1, 1]

/-- with ONE temporary name shared by the savers (everything else as above) there is an interleaving after
which both savers have finished and `.fav` is a mixture: the head of B's image over the tail of A's. -/
theorem shared_tmp_name_tears :
    (∀ i, sharedTmp i ≠ FAVFILE) ∧ WorldOK sharedTmp tearWorld
      ∧ (concRun sharedTmp tearChunks (concInit tearWorld) tearSched).w.read FAVFILE = some [9, 2, 3]
      ∧ some [9, 2, 3] ≠ tearWorld.read FAVFILE
      ∧ (∀ i, some [9, 2, 3] ≠ some (tearChunks i).flatten)
      ∧ (concRun sharedTmp tearChunks (concInit tearWorld) tearSched).st 0 = .done
      ∧ (concRun sharedTmp tearChunks (concInit tearWorld) tearSched).st 1 = .done := by
  refine ⟨fun i => by show ".fav.tmp" ≠ ".fav"; decide,
    single_name sharedTmp tearWorld FAVFILE 0 (fun _ => rfl) (by decide), ?_, by decide, ?_, by decide, by decide⟩
  · decide
  · intro i
    by_cases h : i = 0 <;> simp [tearChunks, h]

def tmpX (i : Nat) : String := ".fav.tmp." ++ String.ofList (List.replicate i 'x')

theorem tmpX_len (i : Nat) : (tmpX i).length = 9 + i := by
  simp [tmpX, String.length_append]
  decide

/-- the hypotheses of `concurrent_saves_atomic` can be met: distinct temporary names exist, and so do
directories satisfying `WorldOK` with a `.fav` in them. -/
example : (∀ i j, tmpX i = tmpX j → i = j) ∧ (∀ i, tmpX i ≠ FAVFILE) ∧ WorldOK tmpX tearWorld
    ∧ tearWorld.read FAVFILE = some [7] := by
  have hne : ∀ i, tmpX i ≠ FAVFILE := by
    intro i h
    have := congrArg String.length h
    have e : FAVFILE.length = 4 := by decide
    rw [tmpX_len, e] at this
    omega
  refine ⟨?_, hne, single_name tmpX tearWorld FAVFILE 0 (fun _ => rfl) (by decide), by decide⟩
  intro i j h
  have := congrArg String.length h
  simp [tmpX_len] at this; exact this


/-! #### a write error in the middle of a save -/

/-- `types.BinaryWrite` hands the error of `binary.Write` to its caller (read off the source). -/
theorem binary_write_reports_errors : Gen.Fav.binaryWriteReturnsError = true := by decide

/-- whatever write fails, after however many bytes, and wherever the process is killed afterwards: `.fav`
keeps the old content (the faulted save touches only its temporary file and never renames). -/
theorem save_write_error_keeps_old (fs : FS) (tmp : String) (hne : tmp ≠ FAVFILE) (chunks : List (List Nat))
    (i p k : Nat) : run fs ((faultedSteps tmp chunks i p).take k) FAVFILE = fs FAVFILE := by
  rw [faultedSteps_eq]
  exact run_tmpSteps_take fs tmp hne _ k

/-- the save reports an error iff the new version did not land: a faulted save returns an error and leaves
the old file, an unfaulted one returns success and leaves the complete new file. -/
theorem save_error_iff_not_landed (fs : FS) (tmp : String) (hne : tmp ≠ FAVFILE) (chunks : List (List Nat))
    (fault : Option (Nat × Nat)) :
    ((saveUnderFault tmp chunks fault).2 = .err ∧ run fs (saveUnderFault tmp chunks fault).1 FAVFILE = fs FAVFILE)
      ∨ ((saveUnderFault tmp chunks fault).2 = .ok
          ∧ run fs (saveUnderFault tmp chunks fault).1 FAVFILE = some chunks.flatten) := by
  cases fault with
  | none => exact Or.inr ⟨rfl, save_complete fs tmp hne chunks⟩
  | some ip =>
    obtain ⟨i, p⟩ := ip
    have := save_write_error_keeps_old fs tmp hne chunks i p (faultedSteps tmp chunks i p).length
    rw [List.take_length] at this
    exact Or.inl ⟨rfl, this⟩

/-- a saver that does not notice the failed write renames a torn file over `.fav`: neither old nor new. -/
theorem swallowed_write_error_tears :
    ∃ (fs : FS) (tmp : String) (chunks : List (List Nat)) (i p : Nat), tmp ≠ FAVFILE
      ∧ run fs (swallowingSteps tmp chunks i p) FAVFILE ≠ fs FAVFILE
      ∧ run fs (swallowingSteps tmp chunks i p) FAVFILE ≠ some chunks.flatten := by
  refine ⟨fun n => if n = FAVFILE then some [7] else none, ".fav.tmp", [[1, 2], [3, 4]], 1, 1, by decide, ?_, ?_⟩ <;>
    simp [swallowingSteps, faultedSteps, run, applyStep, FS.set, FAVFILE]

/-! #### the byte-level pair WriteFavorites / GetFavorites -/

/-- no legal tree (well-formed, at most `MAX_FAV` entries in all) serialises to more than
`2 + 4 + MAX_FAV·(52+4) = 57350` bytes … -/
theorem max_fav_file_size (f : Fav) (h : wfFav f = true) (ht : totalCount f.items ≤ MAX_FAV) :
    (le16 VERSION ++ serFav f).length ≤ MAX_FILE := by
  have h1 := serFav_length f h
  have h2 := deep_total f.items
  simp [MAX_FAV_eq] at ht
  simp [le16, h1, MAX_FILE_eq]
  omega

/-- … and that size is reached (1024 nested folders): a reader limited to fewer bytes loses data. -/
theorem max_fav_file_size_attained :
    wfFav (chainFav 1024) = true ∧ totalCount (chainFav 1024).items = MAX_FAV
      ∧ (le16 VERSION ++ serFav (chainFav 1024)).length = MAX_FILE := by
  refine ⟨chainFav_wf 1024, ?_, ?_⟩
  · simp [chainFav_total]
  · simp [le16, chainFav_length, MAX_FILE_eq]

/-- the reader of `GetFavorites` as it is in the source reads at least a largest legal file. -/
theorem read_limit_covers_format : limitOK = true := by decide

/-- `GetFavorites` hands back exactly what is stored — for every content up to the largest legal file —
whenever the caller's copy is older than the file. -/
theorem get_returns_stored (c : List Nat) (hc : c.length ≤ MAX_FILE) (m ts : Nat) (hm : ts < m) :
    getFavorites (some (c, m)) ts = (some c, m) := by
  have h0 : m ≠ 0 := by omega
  have h1 : ¬ m ≤ ts := by omega
  simp [getFavorites, h0, h1, readAllLimited_id c read_limit_covers_format hc]

/-- `WriteFavorites` then `GetFavorites`: after the complete step sequence the stored bytes come back. -/
theorem write_then_get (fs : FS) (tmp : String) (hne : tmp ≠ FAVFILE) (c : List Nat) (hc : c.length ≤ MAX_FILE)
    (m ts : Nat) (hm : ts < m) :
    ∃ stored, run fs (atomicSteps tmp [c]) FAVFILE = some stored
      ∧ getFavorites (some (stored, m)) ts = (some c, m) := by
  refine ⟨c, by simpa using save_complete fs tmp hne [c], get_returns_stored c hc m ts hm⟩

/-- not modified since `retrieveTS`: no content, the file's mtime; no file: `(nil, 0)`. -/
theorem get_not_modified (c : List Nat) (m ts : Nat) (h0 : m ≠ 0) (hm : m ≤ ts) :
    getFavorites (some (c, m)) ts = (none, m) ∧ getFavorites none ts = (none, 0) := by
  simp [getFavorites, h0, hm]

/-- save through the tree API, fetch through `GetFavorites`, load: the saved entries — for EVERY tree within
the API limits, up to the largest. -/
theorem save_get_load (f : Fav) (h : wfFav f = true) (ht : totalCount f.items ≤ MAX_FAV) (m ts : Nat) (hm : ts < m) :
    ∃ bytes, saveBytes f = .ok bytes ∧ getFavorites (some (bytes, m)) ts = (some bytes, m)
      ∧ load bytes = .ok (some (canon f)) := by
  obtain ⟨g, _, hg, hr, hs⟩ := save_spec f h
  refine ⟨_, hs, get_returns_stored _ ?_ m ts hm, by rw [← hr]; exact load_ser g _ _ hg⟩
  -- the cleaned tree has the entries of `canon f`, no more than the original
  have hcnt : totalCount g.items = totalCount (canon f).items := by
    rw [← hr]; exact (totalCount_renum g.items 0 0).symm
  have := totalCount_canon f
  exact max_fav_file_size g hg (by omega)

/-- a reader capped at "every entry is a 14-byte board" (`2 + 4 + MAX_FAV·14 = 14342` bytes) truncates a
legal file. -/
theorem board_only_cap_truncates :
    ∃ f, wfFav f = true ∧ totalCount f.items ≤ MAX_FAV
      ∧ readAllLimited (some (2 + 4 + MAX_FAV * 14)) (le16 VERSION ++ serFav f) ≠ le16 VERSION ++ serFav f := by
  refine ⟨chainFav 1024, chainFav_wf 1024, by simp [chainFav_total], ?_⟩
  intro h
  have := congrArg List.length h
  simp [readAllLimited, le16, chainFav_length] at this


/-! #### every tree the API can build is covered -/

/-- the trees reachable from `NewFavRaw(nil)` by `AddBoard`/`AddLine`/`AddFolder` on any folder of the tree. -/
inductive Reachable : Fav → Prop
  | empty : Reachable emptyFav
  | add {f g : Fav} (k : AddKind) (path : List Nat) : Reachable f → apiAdd k path f = .added g → Reachable g

theorem reachable_inv {f : Fav} (h : Reachable f) : ApiInv f ∧ totalCount f.items ≤ MAX_FAV := by
  induction h with
  | empty => exact ⟨apiInv_empty, by simp [emptyFav, totalCount]⟩
  | @add f g k path _ hadd ih =>
    by_cases hfull : MAX_FAV ≤ totalCount f.items
    · -- a full tree refuses every add
      simp only [apiAdd, hfull, decide_true] at hadd
      exact (addAt_full k path f g hadd).elim
    · simp only [apiAdd, hfull, decide_false] at hadd
      have := addAt_inv false k path f g ih.1 (by intro _; omega) hadd
      exact ⟨this.1, by rw [this.2]; omega⟩

/-- every API-built tree satisfies the count-fit predicate of the round-trip theorems. -/
theorem reachable_fits {f : Fav} (h : Reachable f) : wfFav f = true := (reachable_inv h).1.1

/-- … and respects the limits of the API. -/
theorem reachable_limits {f : Fav} (h : Reachable f) :
    totalCount f.items ≤ MAX_FAV ∧ cntL f.items < 128 ∧ cntF f.items < 128 := by
  obtain ⟨⟨hw, _, _⟩, ht⟩ := reachable_inv h
  obtain ⟨nB, nL, nF, items⟩ := f
  obtain ⟨_, kl, kf, _⟩ := fits_bounds (wfFav_iff.mp hw).2.2.2.1
  exact ⟨ht, kl, kf⟩

/-- save then load is the identity on every tree built through the API. -/
theorem api_roundtrip {f : Fav} (h : Reachable f) :
    ∃ bytes, saveBytes f = .ok bytes ∧ load bytes = .ok (some f) := by
  obtain ⟨hinv, _⟩ := reachable_inv h
  obtain ⟨bytes, hs, hl⟩ := save_load f hinv.1
  rw [canon_of_apiInv f hinv] at hl
  exact ⟨bytes, hs, hl⟩

/-- the per-folder quotas keep EVERY counter of EVERY folder (at any depth) of every API-built tree inside
its header field: the stored counters are the counts, lines and folders stay below 128 (`int8`), entries
below 32768 (`int16`). -/
theorem reachable_every_folder_within_int8 {f : Fav} (h : Reachable f) (path : List Nat) (g : Fav)
    (hg : levelAt path f = some g) :
    g.nB = cntB g.items ∧ g.nL = cntL g.items ∧ g.nF = cntF g.items
      ∧ g.nL < 128 ∧ g.nF < 128 ∧ g.nB < 32768 := by
  have hw := wf_levelAt path f g (reachable_fits h) hg
  obtain ⟨nB, nL, nF, items⟩ := g
  obtain ⟨rfl, rfl, rfl, hfit, _⟩ := wfFav_iff.mp hw
  obtain ⟨kb, kl, kf, _⟩ := fits_bounds hfit
  exact ⟨rfl, rfl, rfl, kl, kf, kb⟩

/-- the quota is the RECEIVING folder's: with 64 lines in a nested folder the add is refused there even
though the root has none, and a root with 64 lines does not stop a nested folder from taking one. -/
example :
    (∀ g, addAt false .line [0] ⟨0, 0, 1, [.folder 1 1 [] 0 64 0 []]⟩ ≠ .added g)
      ∧ (∃ g, addAt false .line [0] ⟨0, 64, 1, [.folder 1 1 [] 0 0 0 []]⟩ = .added g) := by
  constructor
  · intro g hadd
    simp [addAt, addHere, neg8] at hadd
  · exact ⟨_, by simp [addAt, addHere, neg8]; rfl⟩


/-! #### non-vacuity -/

/-- a three-level tree with an entry lacking the FAV bit. -/
def sample : Fav :=
  ⟨1, 1, 1, [.board 1 7 0 0, .line 0 9,
    .folder 3 5 (List.replicate 49 65) 1 0 1 [.board 1 8 99 2, .folder 1 1 (List.replicate 49 0) 0 1 0 [.line 1 1]]]⟩

example : wfFav sample = true := by
  simp [sample, wfFav, wfItems, rtOK, fitsLevel, Item.isBoard, Item.isLine, Item.isFolder]
example : needRebuild sample.items = true := by
  simp [sample, needRebuild, Item.attr, isValidAttr]
example : (canon sample).items.length = 2 := by
  simp [sample, canon, renumFav, keepValidFav, keepValid, renumFrom_length, isValidAttr]

/-- three adds through the API: a folder, a board inside it, a line beside it. -/
example : ∃ f, Reachable f ∧ totalCount f.items = 3 := by
  refine ⟨⟨0, 1, 1, [.folder 1 1 (List.replicate 49 0) 1 0 0 [.board 1 5 0 0], .line 1 1]⟩, ?_, by simp [totalCount]⟩
  have h1 : Reachable ⟨0, 0, 1, [.folder 1 1 (List.replicate 49 0) 0 0 0 []]⟩ :=
    .add .folder [] .empty (by simp [apiAdd, addAt, addHere, emptyFav, totalCount, neg8])
  have h2 : Reachable ⟨0, 0, 1, [.folder 1 1 (List.replicate 49 0) 1 0 0 [.board 1 5 0 0]]⟩ :=
    .add (.board 5) [0] h1 (by
      have : (5 : Nat) ≤ MAX_BOARD := by decide
      simp [apiAdd, addAt, addHere, totalCount, hasBoard, this])
  exact .add .line [] h2 (by simp [apiAdd, addAt, addHere, totalCount, neg8])

end PttVerif.C19.Props
