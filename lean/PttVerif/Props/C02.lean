import PttVerif.Proofs.C02
import PttVerif.Proofs.C02Pw
import PttVerif.Proofs.C02Final
import PttVerif.Proofs.C02Login
import PttVerif.Gen.LoginSave
/-
C02 — Password hashes are crypt(3) DES and verify only the right password.
Property theorems only (helper lemmas live in Proofs/C02.lean and Proofs/C02Login.lean, the proof of clause (a) in
Proofs/C02Lin.lean … Proofs/C02Final.lean; the model in Model/C02.lean and Model/C02Login.lean; the hand-written
FIPS-46 / crypt(3) specification in Model/C02Spec.lean).

What is proved, against the clauses of the property
 (a) "the hash equals traditional DES crypt(3)": PROVED IN FULL —
       `fcrypt_eq_crypt3`: for every password (any bytes, any length) and every salt whose first two characters are
       7-bit (in particular every two-character salt of the crypt alphabet, `fcrypt_eq_crypt3_alphabet`),
       `Fcrypt p s = .ok (Spec.crypt3 p c0 c1)`, where `Spec.crypt3` (Model/C02Spec.lean) is the hand-written
       textbook definition: FIPS-46 IP/FP/E/P/PC-1/PC-2/S1–S8/shift schedule, the crypt(3) salt perturbation of E,
       25 encryptions of the zero block, base-64 packing.  (`Spec.crypt3` itself is tied to libc crypt(3) only by
       the oracle: it is run next to the implementation and libc on every generated pair.)
       How: every step of DES except the S-box lookup is GF(2)-linear; Proofs/C02Lin.lean is a reflective checker
       for such word circuits (two checked circuits that agree on the unit vectors agree on every input), so the
       bit-swap networks (PC-1, FP), the rotations, the `skb` key-schedule lookups, the E-expansion-by-rotation and
       the salt swap network (bilinear in data and salt: all 4096 salts) reduce to `decide +kernel` on closed
       terms; the S-boxes enter through table exactness (`sptrans_eq_P_S`) and the or of the eight entries is an
       xor because their supports are disjoint; then inductions over 16 rounds and 25 passes, and the 66-bit
       output reader against the arithmetic base-64 packing.
       Also kept as separate statements: table exactness (`sptrans_eq_P_S`, `skb_eq_pc2`, `con_salt_eq`,
       `cov_2char_eq`, `shifts2_eq`), the format (`fcrypt_format`), totality (`fcrypt_total_on_alphabet`), the key
       schedule (`key_schedule_eq_textbook`), one half-round (`half_round_eq_textbook`), `final_perm_eq_FP`.
 (b) a fresh hash verifies: `check_gen`, for every value of the random source.
 (c) only the low seven bits of the first eight bytes up to a NUL matter: `fcrypt_effective_key`,
     `fcrypt_effective_key8`, `checkPasswd_same_key`.
 (d) "rejected for any password whose effective key differs" — NOT a theorem and almost certainly false as a
     universal statement (2^56 keys into 2^64 results of a fixed-plaintext cipher collide somewhere):

           reject_other_keys : effKey8 p ≠ effKey8 p' → Fcrypt p s = .ok h → CheckPasswd h p' = .ok false

     It stays unproved; the oracle samples it (all 56 single-bit flips of sampled keys must be rejected).

The stage theorems of (a) are stated with the word layout of the implementation (namespace `Lin`, defined in
Proofs/C02Lin.lean … Proofs/C02Round.lean):
  `bytesBE K`        the eight bytes of a 64-bit key block, first byte most significant;
  `kw0 K`, `kw1 K`   the two schedule words of a 48-bit round key `K` = B1…B8 (6-bit blocks): `kw0` holds B1, B3, B5, B7
                     in its four bytes, `kw1` holds B2, B4, B6, B8 and is rotated left by 4; inside a byte the first bit
                     of the block is least significant;
  `ksWords Ks`       `kw0 K`, `kw1 K` for each round key of the list in turn: the 32 words `desSetKey` fills;
  `rho x`            a FIPS 32-bit half as `body` holds it during the rounds: FIPS bit j at word bit j-1, then rotated
                     left by one;
  `outVal (l, r)`    the eight bytes `l2c l ++ l2c r` read as one number, first byte most significant;
  `keyIdx K b`, `dataIdx R b`  the 6-bit index that the extraction of `dEncrypt` for `SPtrans[b]`
                     (`(w >> 8*(b/2)) & 0x3f`, on `u` for even `b`, on the rotated `t` for odd `b`) yields from the
                     schedule words of `K` alone, resp. from `rho R` alone: that `dEncrypt` itself computes with these
                     two is part of `half_round_eq_textbook`.
-/
namespace PttVerif.C02.Props
open PttVerif PttVerif.C02 PttVerif.Gen.CryptTables

/-! #### (a) table exactness — whole tables, kernel evaluation over the regenerated data -/

/-- every one of the 8×64 entries of `SPtrans` is the permutation P applied to the output of the FIPS S-box,
in the bit order and rotation the round function uses. -/
theorem sptrans_eq_P_S (b x : Nat) (hb : b < 8) (hx : x < 64) : tbl SPtrans b x = Spec.spEntry b x := by
  rw [SPtrans_table]; exact tbl_map_range _ b x hb hx

/-- every one of the 8×64 entries of `skb` is PC-2 applied to the six C/D bits its index stands for. -/
theorem skb_eq_pc2 (b x : Nat) (hb : b < 8) (hx : x < 64) : tbl skb b x = Spec.skbEntry b x := by
  rw [skb_table]; exact tbl_map_range _ b x hb hx

/-- all 128 entries of `con_salt` are the crypt(3) value of the salt character. -/
theorem con_salt_eq (c : Nat) (hc : c < 128) : con_salt[c]? = some (Spec.saltValue c) :=
  (con_salt_getElem? c _).mpr ⟨hc, rfl⟩

/-- the output alphabet is `./0-9A-Za-z`, in this order. -/
theorem cov_2char_eq : cov_2char = Spec.alphabet64 := by decide +kernel

theorem alphabet64_eq :
    Spec.alphabet64 = "./0123456789ABCDEFGHIJKLMNOPQRSTUVWXYZabcdefghijklmnopqrstuvwxyz".toList.map Char.toNat := by
  decide +kernel

/-- the two-bit-shift flags are the FIPS shift schedule (1 1 2 2 2 2 2 2 1 2 2 2 2 2 2 1) minus one. -/
theorem shifts2_eq : shifts2 = Spec.shifts.map (· - 1) := by decide +kernel

/-- the tables have the shapes the code's masked indices assume (no lookup of the model falls outside). -/
theorem table_shapes :
    (SPtrans.length = 8 ∧ ∀ row ∈ SPtrans, row.length = 64) ∧ (skb.length = 8 ∧ ∀ row ∈ skb, row.length = 64) ∧
      con_salt.length = 128 ∧ cov_2char.length = 64 ∧ shifts2.length = 16 ∧ ITERATIONS = 16 ∧
      PASSLEN = 14 ∧ ptttypePASSLEN = 14 := by
  decide +kernel

/-! #### (a) output format and totality -/

/-- when `Fcrypt` returns, the result is 14 bytes: the two salt characters (a NUL salt byte reads as 'A'),
eleven characters of the crypt alphabet, and a NUL. -/
theorem fcrypt_format (p s h : List Nat) (hh : Fcrypt p s = .ok h) :
    h.length = 14 ∧ h[13]? = some 0 ∧
      (∃ s0 s1, s[0]? = some s0 ∧ s[1]? = some s1 ∧ h[0]? = some (saltChar s0) ∧ h[1]? = some (saltChar s1)) ∧
      ∀ i, 2 ≤ i → i < 13 → ∃ c, h[i]? = some c ∧ c ∈ Spec.alphabet64 := by
  obtain ⟨s0, s1, h0, h1, _, _, rfl⟩ := (cFcrypt_ok_iff p s h).mp hh
  obtain ⟨l, hl, hm, he⟩ := hashOf_shape p (saltChar s0) (saltChar s1) _ _
  rw [he]
  refine ⟨by simp [hl], by simp [hl], ⟨s0, s1, h0, h1, rfl, rfl⟩, ?_⟩
  intro i h2 h13
  obtain ⟨j, rfl⟩ : ∃ j, i = j + 2 := ⟨i - 2, by omega⟩
  have hj : j < l.length := by omega
  refine ⟨l[j], ?_, cov_2char_eq ▸ hm _ (List.getElem_mem hj)⟩
  rw [List.getElem?_cons_succ, List.getElem?_cons_succ, List.getElem?_append_left hj, List.getElem?_eq_getElem]

/-- `Fcrypt` panics exactly when the salt is shorter than two bytes or one of its two characters is ≥ 128
(outside `con_salt`); it never diverges.  In particular it is total on two-character alphabet salts. -/
theorem fcrypt_panics_iff (p s : List Nat) :
    (∃ e, Fcrypt p s = .error e) ↔ ¬ ∃ s0 s1, s[0]? = some s0 ∧ s[1]? = some s1 ∧ saltChar s0 < 128 ∧ saltChar s1 < 128 := by
  constructor
  · rintro ⟨e, he⟩ ⟨s0, s1, h0, h1, l0, l1⟩
    rw [Fcrypt, (cFcrypt_ok_iff p s _).mpr ⟨s0, s1, h0, h1, l0, l1, rfl⟩] at he
    cases he
  · intro hn
    cases hr : Fcrypt p s with
    | error e => exact ⟨e, rfl⟩
    | ok h =>
      obtain ⟨s0, s1, h0, h1, l0, l1, _⟩ := (cFcrypt_ok_iff p s h).mp hr
      exact absurd ⟨s0, s1, h0, h1, l0, l1⟩ hn

/-- the only failure of `Fcrypt` is a panic: it never diverges. -/
theorem fcrypt_error_is_panic (p s : List Nat) (e : Fault) (h : Fcrypt p s = .error e) : e = .panic :=
  cFcrypt_error_panic p s e h

/-- clause (a), in full: for every password and every salt whose two characters index `con_salt` (7-bit; a NUL reads
as 'A'), the result of `Fcrypt` is the textbook traditional DES crypt(3) of the password under those two salt
characters. -/
theorem fcrypt_eq_crypt3 (p s : List Nat) (s0 s1 : Nat) (h0 : s[0]? = some s0) (h1 : s[1]? = some s1)
    (l0 : saltChar s0 < 128) (l1 : saltChar s1 < 128) :
    Fcrypt p s = .ok (Spec.crypt3 p (saltChar s0) (saltChar s1)) :=
  (cFcrypt_ok_iff p s _).mpr ⟨s0, s1, h0, h1, l0, l1, (Lin.hashOf_eq_crypt3 p (saltChar s0) (saltChar s1)).symm⟩

/-- … in particular for every salt of the crypt alphabet (any length ≥ 2: only the first two characters count). -/
theorem fcrypt_eq_crypt3_alphabet (p s : List Nat) (c0 c1 : Nat) (h0 : s[0]? = some c0) (h1 : s[1]? = some c1)
    (a0 : c0 ∈ Spec.alphabet64) (a1 : c1 ∈ Spec.alphabet64) : Fcrypt p s = .ok (Spec.crypt3 p c0 c1) := by
  have k0 := saltChar_alphabet c0 a0
  have k1 := saltChar_alphabet c1 a1
  have := fcrypt_eq_crypt3 p s c0 c1 h0 h1 k0.2 k1.2
  rw [k0.1, k1.1] at this
  exact this

/-- … so on such a salt `Fcrypt` returns, for every password. -/
theorem fcrypt_total_on_alphabet (p s : List Nat) (c0 c1 : Nat) (h0 : s[0]? = some c0) (h1 : s[1]? = some c1)
    (a0 : c0 ∈ Spec.alphabet64) (a1 : c1 ∈ Spec.alphabet64) : ∃ h, Fcrypt p s = .ok h :=
  ⟨_, fcrypt_eq_crypt3_alphabet p s c0 c1 h0 h1 a0 a1⟩

example : ∃ p s c0 c1, s[0]? = some c0 ∧ s[1]? = some c1 ∧ c0 ∈ Spec.alphabet64 ∧ c1 ∈ Spec.alphabet64 ∧
    Fcrypt p s = .ok (Spec.crypt3 p c0 c1) :=
  ⟨[48, 49, 50, 51, 52, 53, 54, 55, 56, 57, 48, 49], [65, 65], 65, 65, rfl, rfl, by decide, by decide,
    fcrypt_eq_crypt3_alphabet _ _ 65 65 rfl rfl (by decide) (by decide)⟩


/-! #### (a) the main stages of the proof of `fcrypt_eq_crypt3`, each for all inputs -/

/-- for every password, the 32 schedule words `desSetKey` computes from the key block `cFcrypt` builds are the
sixteen textbook round keys (PC-1, left rotations by the FIPS shift schedule, PC-2) of the crypt(3) key of that
password, laid out as `kw0`/`kw1`. -/
theorem key_schedule_eq_textbook (p : List Nat) :
    desSetKey (mkKey (if p.length > 8 then p.take 8 else p)) =
      Lin.ksWords (Spec.keySchedule (Spec.keyOfBytes (Spec.cstr8 p))) := by
  rw [Lin.mkKey_eq_crypt3_key, Lin.desSetKey_eq_keySchedule _ (Lin.keyOfBytes_lt p)]

/-- the same for an arbitrary 64-bit key block. -/
theorem desSetKey_eq_keySchedule (K : Nat) (hK : K < 2 ^ 64) :
    desSetKey (Lin.bytesBE K) = Lin.ksWords (Spec.keySchedule K) := Lin.desSetKey_eq_keySchedule K hK

example : ∃ p, Spec.keySchedule (Spec.keyOfBytes (Spec.cstr8 p)) ≠ List.replicate 16 0 := ⟨[65], by decide +kernel⟩

/-- the layout is the one `dEncrypt` reads: the six key bits it xors into the index of `SPtrans[b]` are block
`B_{b+1}` (bits 6b+1 … 6b+6) of the round key, first bit least significant. -/
theorem round_key_reaches_sbox (K b : Nat) (hK : K < 2 ^ 48) (hb : b < 8) :
    Lin.keyIdx K b = Spec.revBits 6 ((K >>> (6 * (7 - b))) &&& 63) := Lin.keyIdx_eq_block K b hK hb

/-- the six data bits `dEncrypt` feeds to `SPtrans[b]` (salt 0) are block `b+1` of the textbook expansion `E(R)`. -/
theorem expansion_eq_E (R b : Nat) (hR : R < 2 ^ 32) (hb : b < 8) :
    Lin.dataIdx R b = Spec.revBits 6 ((Spec.permF Spec.E 32 R >>> (6 * (7 - b))) &&& 63) := Lin.dataIdx_eq_Eblock R b hR hb

/-- the tail of `body` is the textbook final permutation: the eight output bytes, read big-endian, are `FP(A‖B)` for
the pre-output halves held in the implementation's representation `rho`. -/
theorem final_perm_eq_FP (A B : Nat) (hA : A < 2 ^ 32) (hB : B < 2 ^ 32) :
    Lin.outVal (finalPerm (Lin.rho A, Lin.rho B)) = Spec.permF Spec.FP 64 (A * 4294967296 + B) :=
  Lin.finalPerm_eq_FP A B hA hB

/-- one call of `dEncrypt` with the two schedule words of round key `K` is one textbook half-round
`L ⊕ f(R, K)` (salted E, S-boxes, P) on halves held as `rho`, for every half, round key and salt `σ = v0 + 64·v1`. -/
theorem half_round_eq_textbook (L R K σ S : Nat) (s : List Nat) (hR : R < 2 ^ 32) (hK : K < 2 ^ 48) (hσ : σ < 2 ^ 12)
    (h0 : s.getD S 0 = Lin.kw0 K) (h1 : s.getD (S + 1) 0 = Lin.kw1 K) :
    dEncrypt L (Lin.rho R) S (σ &&& 63) (shl (σ >>> 6) 4) s =
      L ^^^ Lin.rho (Spec.f (Spec.saltMaskOf (σ &&& 63) (σ >>> 6)) R K) :=
  Lin.dEncrypt_spec L R K σ S s hR hK hσ h0 h1

/-- IP and FP cancel, so chaining 25 encryptions without re-permuting (as `body` does) is sound. -/
theorem ip_fp_cancel (x : Nat) (hx : x < 2 ^ 64) : Spec.permF Spec.IP 64 (Spec.permF Spec.FP 64 x) = x :=
  Lin.ip_fp_cancel x hx

/-! #### (c) the effective key -/

/-- two passwords with the same effective key (first eight bytes, up to the first NUL, low seven bits each) hash
alike under every salt — bytes after the eighth, bytes after a NUL and the high bits are ignored. -/
theorem fcrypt_effective_key8 (p p' s : List Nat) (h : effKey8 p = effKey8 p') : Fcrypt p s = Fcrypt p' s := by
  unfold Fcrypt cFcrypt
  dsimp only
  rw [mkKey_eq, mkKey_eq, h]

/-- the same with the unpadded `effKey`. -/
theorem fcrypt_effective_key (p p' s : List Nat) (h : effKey p = effKey p') : Fcrypt p s = Fcrypt p' s :=
  fcrypt_effective_key8 p p' s (by simp [effKey8, h])

/-- so a stored hash judges two passwords with the same effective key alike. -/
theorem checkPasswd_same_key (e p p' : List Nat) (h : effKey8 p = effKey8 p') : CheckPasswd e p = CheckPasswd e p' := by
  unfold CheckPasswd; rw [fcrypt_effective_key8 p p' e h]

example : effKey [0x41, 0xC2, 0, 9, 9] = effKey [0xC1, 0x42] ∧ [0x41, 0xC2, 0, 9, 9] ≠ [0xC1, 0x42] := by decide
example : effKey [1, 2, 3, 4, 5, 6, 7, 8, 9, 10] = effKey [1, 2, 3, 4, 5, 6, 7, 8] := by decide

/-! #### (b) generate, then verify -/

/-- feeding a hash back as the salt reproduces it (only its first two bytes are read, and they are non-NUL). -/
theorem fcrypt_salt_idem (p s h : List Nat) (hh : Fcrypt p s = .ok h) : Fcrypt p h = .ok h :=
  cFcrypt_ok_of_prefix hh rfl rfl

/-- `CheckPasswd` accepts exactly when re-hashing with the stored hash as salt gives the stored hash back. -/
theorem checkPasswd_iff (e p : List Nat) : CheckPasswd e p = .ok true ↔ Fcrypt p e = .ok e := by
  unfold CheckPasswd
  cases h : Fcrypt p e with
  | error x => simp [bind, Except.bind]
  | ok r => simp [bind, Except.bind, pure, Except.pure]

/-- `GenPasswd` never panics (since repo fix cf9020f also not on the empty slice); an empty password or a leading
NUL gives the all-zero hash, otherwise the result is the `Fcrypt` hash under the salt drawn from `r`. -/
theorem genPasswd_ok (r : Nat) (p : List Nat) :
    ∃ h, GenPasswdWith r p = .ok h ∧ h.length = 14 ∧
      (p ≠ [] → p[0]? ≠ some 0 → Fcrypt p [r &&& 0x7f, (r >>> 8) &&& 0x7f] = .ok h) ∧
      ((p = [] ∨ p[0]? = some 0) → h = List.replicate 14 0) := by
  cases p with
  | nil => exact ⟨List.replicate 14 0, rfl, rfl, fun h => absurd rfl h, fun _ => rfl⟩
  | cons p0 ps =>
  by_cases hz : p0 = 0
  · subst hz
    exact ⟨List.replicate 14 0, rfl, rfl, fun _ h => absurd rfl h, fun _ => rfl⟩
  · have lt : ∀ x : Nat, saltChar (x &&& 0x7f) < 128 := fun x =>
      (saltChar_lt_iff _).mpr (Nat.and_lt_two_pow x (by decide : 0x7f < 2 ^ 7))
    have hf := (cFcrypt_ok_iff (p0 :: ps) [r &&& 0x7f, (r >>> 8) &&& 0x7f] _).mpr
      ⟨_, _, rfl, rfl, lt r, lt (r >>> 8), rfl⟩
    have hl := (fcrypt_format _ _ _ hf).1
    refine ⟨_, ?_, hl, fun _ _ => hf, by simp [hz]⟩
    simp only [GenPasswdWith, List.length_cons, Nat.succ_ne_zero, if_false, idx, List.getElem?_cons_zero, bind,
      Except.bind, hz, Fcrypt, hf, pure, Except.pure]
    -- the hash already has the length it is copied into
    rw [passlen_eq, copyInto_of_le _ _ (Nat.le_of_eq hl), hl, Nat.sub_self, List.replicate_zero, List.append_nil]

/-- the guard before repo fix cf9020f (`if passwd[0] == 0`): `GenPasswd` panicked on the empty slice. -/
def GenPasswdWithPreFix (num : Nat) (passwd : List Nat) : M (List Nat) := do
  let p0 ← idx passwd 0
  if p0 = 0 then pure (List.replicate ptttypePASSLEN 0) else
  let result ← Fcrypt passwd [num &&& 0x7f, (num >>> 8) &&& 0x7f]
  pure (copyInto ptttypePASSLEN result)

/-- the before-fix witness: every value of the random source, empty password. -/
theorem genPasswd_prefix_panics (r : Nat) : GenPasswdWithPreFix r [] = .error .panic := rfl

/-- `GenPasswd` is total: no password and no value of the random source makes it panic or diverge. -/
theorem genPasswd_total (r : Nat) (p : List Nat) : ∃ h, GenPasswdWith r p = .ok h :=
  let ⟨h, hh, _⟩ := genPasswd_ok r p; ⟨h, hh⟩

/-- clause (b): for every value `r` of the random source, the hash generated for a password whose first byte is
not NUL verifies against that password. -/
theorem check_gen (r : Nat) (p : List Nat) (hp : p ≠ []) (h0 : p[0]? ≠ some 0) :
    ∃ h, GenPasswdWith r p = .ok h ∧ CheckPasswd h p = .ok true := by
  obtain ⟨h, hg, _, hf, _⟩ := genPasswd_ok r p
  exact ⟨h, hg, (checkPasswd_iff h p).mpr (fcrypt_salt_idem _ _ _ (hf hp h0))⟩

example : ∃ r p, p ≠ [] ∧ p[0]? ≠ some 0 ∧ GenPasswdWith r p = .ok [44, 1, 107, 53, 103, 79, 105, 107, 47, 85, 114, 89, 54, 0] :=
  have ⟨h, hg, _, hf, _⟩ := genPasswd_ok 300 [0x41, 0x42]
  ⟨300, [0x41, 0x42], by decide, by decide, hg.trans ((hf (by decide) (by decide)).symm.trans fcrypt_vectors.2.2)⟩

/-- the empty password and a password whose first byte is NUL get the all-zero hash, which no password verifies
against (the re-hash starts with the salt characters "AA"). -/
theorem empty_hash_never_verifies (r : Nat) (p p' : List Nat) (hp : p = [] ∨ p[0]? = some 0) :
    GenPasswdWith r p = .ok (List.replicate 14 0) ∧ CheckPasswd (List.replicate 14 0) p' = .ok false := by
  constructor
  · obtain ⟨h, hg, _, _, hz⟩ := genPasswd_ok r p
    rw [hg, hz hp]
  · rw [checkPasswd_of_fcrypt ((cFcrypt_ok_iff p' (List.replicate 14 0) _).mpr
      ⟨0, 0, rfl, rfl, by decide, by decide, rfl⟩)]
    rfl

/-- only a 14-byte stored hash of the crypt(3) shape can ever be accepted. -/
theorem checkPasswd_accepts_only_wellformed (e p : List Nat) (h : CheckPasswd e p = .ok true) :
    e.length = 14 ∧ e[13]? = some 0 ∧ ∀ i, 2 ≤ i → i < 13 → ∃ c, e[i]? = some c ∧ c ∈ Spec.alphabet64 := by
  have := fcrypt_format p e e ((checkPasswd_iff e p).mp h)
  exact ⟨this.1, this.2.1, this.2.2.2⟩

/-! #### "verify only the right password" at the callers of CheckPasswd, over histories

`Model/C02Login.lean`: the store user ↦ hash is the only state; ops are logins (ptt.LoginQuery / Login / CheckPasswd),
ChangePasswd and outside writes of the stored hash. -/

open Login in
/-- a login is accepted exactly when re-hashing the password under the hash stored NOW gives that hash. -/
theorem login_iff_current_hash (st : Store) (u pw : List Nat) :
    loginQuery st u pw = .ok true ↔ ∃ h, lookup st u = some h ∧ Fcrypt pw h = .ok h := by
  unfold loginQuery
  cases hl : lookup st u with
  | none => simp [pure, Except.pure]
  | some h => simp [checkPasswd_iff]

open Login in
/-- … i.e. (clause (a)) exactly when the textbook crypt(3) of the password, under the two salt characters of the
stored hash, IS the stored hash — for every stored hash whose salt characters are 7-bit and not NUL. -/
theorem login_iff_crypt3_of_current_hash (st : Store) (u pw h : List Nat) (c0 c1 : Nat) (hl : lookup st u = some h)
    (h0 : h[0]? = some c0) (h1 : h[1]? = some c1) (n0 : c0 ≠ 0) (n1 : c1 ≠ 0) (l0 : c0 < 128) (l1 : c1 < 128) :
    loginQuery st u pw = .ok true ↔ Spec.crypt3 pw c0 c1 = h := by
  have e0 : saltChar c0 = c0 := if_pos n0
  have e1 : saltChar c1 = c1 := if_pos n1
  have := fcrypt_eq_crypt3 pw h c0 c1 h0 h1 (by rwa [e0]) (by rwa [e1])
  rw [e0, e1] at this
  rw [loginQuery_of_lookup hl, checkPasswd_iff, this, Except.ok.injEq]

open Login in
/-- at every point of every history the answer to a login is decided by the store as it is at that point: whatever
the earlier operations `pre` were (successful logins with other passwords included), it is `CheckPasswd` of the hash
stored after them. -/
theorem history_login_decided_by_current_hash (st : Store) (pre : List Op) (u pw : List Nat) :
    run st (pre ++ [Op.login u pw]) =
      ((run st pre).1, (run st pre).2 ++ [ofBool (loginQuery (run st pre).1 u pw)]) := by
  rw [run_append, run_single]; rfl

open Login in
/-- once the stored hash of `u` has been replaced (an outside write), every login of `u` is judged against the new
hash only — in particular a password that logged in before is refused unless it also verifies against the new hash. -/
theorem login_after_sethash (st : Store) (u h' pw : List Nat) (hu : lookup st u ≠ none) :
    (step (step st (Op.sethash u h')).1 (Op.login u pw)).2 = ofBool (CheckPasswd h' pw) := by
  cases hl : lookup st u with
  | none => exact absurd hl hu
  | some h => simp [step, hl, loginQuery, lookup_set_self]

open Login in
/-- … and the other users' logins are not affected by it. -/
theorem login_other_user_unaffected (st : Store) (u v h' pw : List Nat) (hne : v ≠ u) :
    (step (step st (Op.sethash u h')).1 (Op.login v pw)).2 = (step st (Op.login v pw)).2 := by
  cases hl : lookup st u with
  | none => simp [step, hl]
  | some h => simp [step, hl, loginQuery, lookup_set_other _ _ _ _ hne]

open Login in
/-- a successful ChangePasswd to a password whose first byte is not NUL: afterwards the new password logs in, for
every value of the random source, and any password is judged against the new hash only. -/
theorem login_after_changePasswd (st st' : Store) (u old new : List Nat) (num : Nat) (hn : new ≠ []) (h0 : new[0]? ≠ some 0)
    (hc : changePasswd st u old new num = .ok (st', true)) :
    loginQuery st' u new = .ok true ∧
      ∃ g, GenPasswdWith num new = .ok g ∧ ∀ pw, loginQuery st' u pw = CheckPasswd g pw := by
  obtain ⟨_, g, _, _, hg, rfl⟩ := changePasswd_ok hc
  obtain ⟨g', hg', hchk⟩ := check_gen num new hn h0
  cases hg.symm.trans hg'
  exact ⟨(loginQuery_set st u g new).trans hchk, g, hg, loginQuery_set st u g⟩

open Login in
/-- the broken rule, as a witness: a LoginQuery that remembers the last accepted password per user accepts the old
password after the stored hash has been replaced, although the store refuses it. -/
theorem remembering_login_accepts_stale :
    ∃ (u A hA hB : List Nat),
      let st := [(u, hA)]
      let r1 := loginRemembering [] st u A
      let st' := set st u hB
      r1.2 = Out.ok ∧ (loginRemembering r1.1 st' u A).2 = Out.ok ∧ ofBool (loginQuery st' u A) = Out.refused :=
  have ⟨h1, h2⟩ := loginRemembering_stale [] [([97, 98], hashA)] _ [97, 98] [65]
    ((loginQuery_of_lookup rfl _).trans checkPasswd_vectors.1)
  ⟨[97, 98], [65], hashA, hashB, h1, h2, by rw [loginQuery_set, checkPasswd_vectors.2.2]; rfl⟩

open Login in
/-- whatever the stored hash is (any bytes: salt positions ≥ 0x80, non-alphabet, damaged), a login / password check
answers `ok` only if re-hashing the candidate under the stored hash gives the stored hash; a panic of the check
(`fault`) is never an acceptance. -/
theorem login_accept_only_if_verifies (st : Store) (u pw : List Nat)
    (h : (step st (Op.login u pw)).2 = Out.ok) : ∃ g, lookup st u = some g ∧ Fcrypt pw g = .ok g :=
  (login_iff_current_hash st u pw).mp (ofBool_eq_ok.mp h)

open Login in
/-- a stored hash with a byte ≥ 0x80 in a salt position verifies nothing: every check of it panics. -/
theorem unverifiable_hash_never_accepts (st : Store) (u pw g : List Nat) (c0 c1 : Nat) (hl : lookup st u = some g)
    (h0 : g[0]? = some c0) (h1 : g[1]? = some c1) (hi : 128 ≤ c0 ∨ 128 ≤ c1) :
    (step st (Op.login u pw)).2 = Out.fault := by
  simp [step, loginQuery, hl, checkPasswd_panics h0 h1 hi, ofBool]

open Login in
/-- ChangePasswd that does not succeed — wrong old password, or a check that panics — leaves the store unchanged. -/
theorem changePasswd_unauthorised_leaves_store (st : Store) (u old new : List Nat) (num : Nat)
    (h : (step st (Op.chpw u old new num)).2 ≠ Out.ok) : (step st (Op.chpw u old new num)).1 = st := by
  simp only [step] at h ⊢
  cases hc : changePasswd st u old new num with
  | error e => rfl
  | ok r =>
    obtain ⟨st', b⟩ := r
    rw [hc] at h
    cases b with
    | false => exact changePasswd_ok hc
    | true => exact absurd rfl h

/-- the broken rule, as a witness: a check that recovers from the panic of `Fcrypt` and falls through to "no error"
accepts every candidate for a stored hash with a salt byte ≥ 0x80. -/
theorem recovering_check_accepts_anything (pw : List Nat) :
    let g := [200, 65, 65, 65, 65, 65, 65, 65, 65, 65, 65, 65, 65, 0]
    CheckPasswd g pw = .error .panic ∧
      (match CheckPasswd g pw with | .ok b => b | .error _ => true) = true := by
  intro g
  have := checkPasswd_panics (g := g) (c0 := 200) (c1 := 65) rfl rfl (.inl (by decide)) pw
  exact ⟨this, by rw [this]⟩

/-! #### a login in flight never undoes a password change that completed meanwhile

`ptt.Login` = `LoginQuery` … `userLogin` (→ `pwcuLoginSave` → `pwcuEnd`, a write of the whole record).  Which record is
written back is read from the source on every run (`Gen/LoginSave.lean`). -/

/-- source facts (regenerated): `ptt.Login` is `LoginQuery` then `userLogin`; `pwcuLoginSave` writes back a record it
read itself (`pwcuStart`), not the one its caller loaded for the password check. -/
theorem loginSave_rereads :
    Gen.LoginSave.loginSaveRereads = true ∧ Gen.LoginSave.loginCalls = ["LoginQuery", "userLogin"] := by decide

/-- source fact (regenerated): every pwcu setter of package ptt writes back a record it read itself. -/
theorem pwcu_setters_reread : ∀ r ∈ Gen.LoginSave.writeBackSources, r.2 = "reread" := by decide

open Login in
/-- with the write-back rule of the source, a login in flight equals the sequential history: its decision is that of
`LoginQuery` on the store at its start, the operations completing between its halves act as if the login were not
there, and the login itself leaves the store alone — for every store, user, password and operation list. -/
theorem login_in_flight_eq_sequential (st : Store) (u pw : List Nat) (mid : List Op) :
    loginInFlight Gen.LoginSave.loginSaveRereads st u pw mid
      = ((run st mid).1, (step st (.login u pw)).2, (run st mid).2) := by
  have h : Gen.LoginSave.loginSaveRereads = true := loginSave_rereads.1
  rw [h]
  unfold loginInFlight loginBegin loginEnd
  simp only [step]
  cases ofBool (loginQuery st u pw) <;> simp

open Login in
/-- clause (b) under that schedule: a `ChangePasswd` that succeeds while a login of the same user is in flight decides
every later login, exactly as if it had run alone. -/
theorem change_during_login_survives (st st' : Store) (u A old new : List Nat) (num : Nat)
    (hc : changePasswd st u old new num = .ok (st', true)) :
    (loginInFlight Gen.LoginSave.loginSaveRereads st u A [.chpw u old new num]).1 = st'
    ∧ (loginInFlight Gen.LoginSave.loginSaveRereads st u A [.chpw u old new num]).2.2 = [Out.ok] := by
  rw [login_in_flight_eq_sequential, run_single]
  simp [step, hc]

open Login in
/-- the broken rule, as a witness: a login that writes back the record its first half loaded restores the old hash
over a `ChangePasswd` that reported success meanwhile — afterwards the old password logs in and the new one does not. -/
theorem carried_record_undoes_change :
    ∃ (u A B hA : List Nat),
      let st := [(u, hA)]
      let r := loginInFlight false st u A [.chpw u A B 0]
      r.2.1 = Out.ok ∧ r.2.2 = [Out.ok] ∧ r.1 = st
      ∧ ofBool (loginQuery r.1 u A) = Out.ok ∧ ofBool (loginQuery r.1 u B) = Out.refused
      ∧ ofBool (loginQuery (run st [.chpw u A B 0]).1 u B) = Out.ok :=
  have ⟨g, hg, hgB⟩ := check_gen 0 [66] (by decide) (by decide)
  have ⟨hs, hr⟩ := loginInFlight_carried [([97, 98], hashA)] [97, 98] [65] [66] hashA g 0 rfl checkPasswd_vectors.1 hg
  ⟨[97, 98], [65], [66], hashA, by
    dsimp only
    rw [hr, hs, loginQuery_set, loginQuery_set, loginQuery_set, checkPasswd_vectors.1, checkPasswd_vectors.2.1, hgB]
    exact ⟨rfl, rfl, rfl, rfl, rfl, rfl⟩⟩

end PttVerif.C02.Props
