import PttVerif.Proofs.C18
import PttVerif.Proofs.C18Ansi
import PttVerif.Proofs.C18Misc
import PttVerif.Proofs.C18Alias
import PttVerif.Proofs.C18Move
/-
C18 — Byte-string primitives agree with their C counterparts and never crash.
Property theorems only (helper lemmas live in Proofs/C18*.lean).  All statements are over arbitrary
`List Nat` byte strings, no length bound; `cstr` is the NUL-terminated prefix (Common.lean).
-/
namespace PttVerif.C18.Props
open PttVerif PttVerif.C18

/-! ## Group 1 — types/cstr.go -/

/-- `Cstrlen` is C `strlen` of the NUL-terminated prefix (slice end counts as terminator). -/
theorem Cstrlen_eq (s : List Nat) : cstrlen s = (cstr s).length := cstrlen_eq' s

/-- `CstrToBytes` never faults and returns exactly the bytes before the first NUL. -/
theorem CstrToBytes_eq (s : List Nat) : cstrToBytes s = .ok (cstr s) := cstrToBytes_eq' s

/-- `Cstrcmp` never faults and returns *the value* glibc's `strcmp` returns on the two C strings
(difference of the first differing unsigned bytes), for arrays with or without a terminating NUL. -/
theorem cstrcmp_eq_strcmp (a b : List Nat) : cstrcmp a b = .ok (strcmp (cstr a) (cstr b)) := cstrcmp_eq' a b

/-- the property's clause: same sign as the lexicographic comparison of unsigned bytes. -/
theorem cstrcmp_sign (a b : List Nat) :
    ∃ v, cstrcmp a b = .ok v ∧ v.sign = ordToInt (lexCmp (cstr a) (cstr b)) :=
  ⟨_, cstrcmp_eq' a b, strcmp_sign _ _ (cstr_nonzero a) (cstr_nonzero b)⟩

/-- `lexCmp` is not an ad-hoc order: it is the standard-library order on `List Nat`. -/
theorem lexCmp_is_list_order (a b : List Nat) :
    (lexCmp a b = .lt ↔ a < b) ∧ (lexCmp a b = .eq ↔ a = b) ∧ (lexCmp a b = .gt ↔ b < a) :=
  lexCmp_order a b

/-- `Cstrcasecmp` never faults, equals C-locale `strcasecmp` on the C strings; only ASCII letters fold. -/
theorem cstrcasecmp_sign (a b : List Nat) :
    ∃ v, cstrcasecmp a b = .ok v ∧ v = strcasecmp (cstr a) (cstr b) ∧
      v.sign = ordToInt (lexCmp ((cstr a).map ccharTolower) ((cstr b).map ccharTolower)) := by
  refine ⟨_, ?_, rfl, ?_⟩
  · unfold cstrcasecmp
    rw [cstrcmp_eq', cstr_map_lower, cstr_map_lower]; rfl
  · exact strcmp_sign _ _ (map_lower_nonzero _ (cstr_nonzero a)) (map_lower_nonzero _ (cstr_nonzero b))

/-- the folding helper touches `'A'..'Z'` only: every other byte (in particular every byte ≥ 0x80, i.e. every
Big5 lead/trail byte) is left alone. -/
theorem tolower_ascii_only (c : Nat) :
    ccharTolower c = (if 65 ≤ c ∧ c ≤ 90 then c + 32 else c) ∧ (128 ≤ c → ccharTolower c = c) := by
  refine ⟨?_, fun h => lower_of_not_upper c (by omega)⟩
  by_cases h : 65 ≤ c ∧ c ≤ 90
  · rw [if_pos h, lower_of_upper c h]
  · rw [if_neg h, lower_of_not_upper c h]

theorem toupper_ascii_only (c : Nat) :
    ccharToupper c = (if 97 ≤ c ∧ c ≤ 122 then c - 32 else c) ∧ (128 ≤ c → ccharToupper c = c) :=
  ⟨rfl, fun h => upper_of_not_lower c (by omega)⟩

/-! ### consequences used by the sorted-index properties (C04, C11) -/

/-- `Cstrcmp` returns 0 exactly when the two C strings are equal. -/
theorem cmp_eq_zero_iff (a b : List Nat) : cstrcmp a b = .ok 0 ↔ cstr a = cstr b := by
  rw [cstrcmp_eq', Except.ok.injEq, strcmp_zero_iff _ _ (cstr_nonzero a) (cstr_nonzero b)]

theorem cmp_refl (a : List Nat) : cstrcmp a a = .ok 0 := (cmp_eq_zero_iff a a).mpr rfl

/-- swapping the arguments flips the sign. -/
theorem cmp_antisym (a b : List Nat) :
    ∃ v w, cstrcmp a b = .ok v ∧ cstrcmp b a = .ok w ∧ w.sign = - v.sign := by
  refine ⟨_, _, cstrcmp_eq' a b, cstrcmp_eq' b a, ?_⟩
  rw [strcmp_sign _ _ (cstr_nonzero b) (cstr_nonzero a), strcmp_sign _ _ (cstr_nonzero a) (cstr_nonzero b),
    lexCmp_swap (cstr a) (cstr b)]
  cases lexCmp (cstr a) (cstr b) <;> simp [Ordering.swap, ordToInt]

/-- `<` is transitive. -/
theorem cmp_trans (a b c : List Nat) (u v : Int) (h1 : cstrcmp a b = .ok u) (h2 : cstrcmp b c = .ok v)
    (hu : u < 0) (hv : v < 0) : ∃ w, cstrcmp a c = .ok w ∧ w < 0 := by
  cases (cstrcmp_eq' a b).symm.trans h1
  cases (cstrcmp_eq' b c).symm.trans h2
  refine ⟨_, cstrcmp_eq' a c, ?_⟩
  rw [strcmp_neg_iff _ _ (cstr_nonzero _) (cstr_nonzero _)] at hu hv ⊢
  exact lexCmp_lt_trans _ _ _ hu hv

/-- `≤` is transitive (with `cmp_refl`, `cmp_antisym`: a total preorder whose kernel is `cstr a = cstr b`). -/
theorem cmp_trans_le (a b c : List Nat) (u v : Int) (h1 : cstrcmp a b = .ok u) (h2 : cstrcmp b c = .ok v)
    (hu : u ≤ 0) (hv : v ≤ 0) : ∃ w, cstrcmp a c = .ok w ∧ w ≤ 0 := by
  cases (cstrcmp_eq' a b).symm.trans h1
  cases (cstrcmp_eq' b c).symm.trans h2
  refine ⟨_, cstrcmp_eq' a c, ?_⟩
  rw [strcmp_nonpos_iff _ _ (cstr_nonzero _) (cstr_nonzero _)] at hu hv ⊢
  exact lexCmp_le_trans _ _ _ hu hv

/-- `Cstrcasecmp` returns 0 exactly when the C strings are equal up to ASCII case. -/
theorem casecmp_eq_zero_iff (a b : List Nat) :
    cstrcasecmp a b = .ok 0 ↔ (cstr a).map ccharTolower = (cstr b).map ccharTolower := by
  unfold cstrcasecmp
  rw [cmp_eq_zero_iff, cstr_map_lower, cstr_map_lower]

theorem casecmp_trans_le (a b c : List Nat) (u v : Int) (h1 : cstrcasecmp a b = .ok u)
    (h2 : cstrcasecmp b c = .ok v) (hu : u ≤ 0) (hv : v ≤ 0) : ∃ w, cstrcasecmp a c = .ok w ∧ w ≤ 0 :=
  cmp_trans_le _ _ _ u v h1 h2 hu hv

/-! ### search -/

/-- the model of `bytes.Index` is "first occurrence". -/
theorem index_is_first (h n : List Nat) :
    (∀ i, index h n = some i ↔ IsFirstOcc h n i) ∧ (index h n = none ↔ NoOcc h n) :=
  ⟨fun i => ⟨(index_spec h n).1 i, index_of_firstOcc h n i⟩, ⟨(index_spec h n).2, index_of_noOcc h n⟩⟩

/-- `Cstrstr` = C `strstr` on the C string of the haystack, for a non-empty NUL-free needle:
the position of the first occurrence … -/
theorem cstrstr_eq (h n : List Nat) (hn : n ≠ []) (h0 : ∀ x ∈ n, x ≠ 0) (i : Nat)
    (hi : IsFirstOcc (cstr h) n i) : cstrstr h n = Int.ofNat i := by
  rw [cstrstr_eq' h n hn h0, index_of_firstOcc _ _ _ hi]; rfl

/-- … and −1 exactly when there is none (a hit behind or across the haystack's NUL does not count). -/
theorem cstrstr_absent (h n : List Nat) (hn : n ≠ []) (h0 : ∀ x ∈ n, x ≠ 0)
    (hno : NoOcc (cstr h) n) : cstrstr h n = -1 := by
  rw [cstrstr_eq' h n hn h0, index_of_noOcc _ _ hno]; rfl

/-- `cstrstr_eq` and `cstrstr_absent` are exhaustive: the result is always one of them. -/
theorem cstrstr_cases (h n : List Nat) (hn : n ≠ []) (h0 : ∀ x ∈ n, x ≠ 0) :
    (cstrstr h n = -1 ∧ NoOcc (cstr h) n) ∨ (∃ i, cstrstr h n = Int.ofNat i ∧ IsFirstOcc (cstr h) n i) := by
  rw [cstrstr_eq' h n hn h0]
  cases hk : index (cstr h) n with
  | none => exact .inl ⟨rfl, (index_spec _ _).2 hk⟩
  | some k => exact .inr ⟨k, rfl, (index_spec _ _).1 k hk⟩

/-- observation O6 (not judged): for the empty needle C returns 0 always; Go returns −1 on an empty haystack. -/
theorem cstrstr_empty_needle (h : List Nat) : cstrstr h [] = if cstr h = [] then -1 else 0 := cstrstr_empty' h

/-! ### tokenizer -/

/-- `CstrTokenR` never faults (empty slice, separator in the last position, no separator at all included) and
cuts at the first NUL or the first separator byte, whichever comes first: `first` is everything before the cut,
`theRest` everything behind the byte at the cut. -/
theorem cstrTokenR_eq (s sep : List Nat) :
    cstrTokenR s sep = .ok (s.take (stopLen s sep), s.drop (stopLen s sep + 1)) ∧
    stopLen s sep = min (cstr s).length (s.takeWhile (fun x => !(sep.contains x))).length :=
  ⟨cstrTokenR_eq' s sep, rfl⟩

/-! ### non-vacuity -/
example : cstrTokenR [97, 98, 32, 99, 0, 100] [32, 44] = .ok ([97, 98], [99, 0, 100]) := by rfl
example : cstrTokenR [] [32] = .ok ([], []) := by rfl
example : IsFirstOcc (cstr [97, 98, 99, 98, 99, 0, 98]) [98, 99] 1 := by
  refine ⟨by decide, by decide, ?_⟩
  intro j hj
  have : j = 0 := by omega
  subst this; decide
example : cstrstr [97, 98, 99, 98, 99, 0, 98] [98, 99] = 1 := by decide
example : cstrstr [97, 0, 98, 99] [98, 99] = -1 := by decide
example : cstrcmp [97, 98] [97, 98, 0, 7] = .ok 0 := by rfl
example : cstrcmp [97, 200] [97, 98, 99] = .ok 102 := by rfl

/-! ## Group 2 — cmsys.StripAnsi

`Bytes s` says every element is below 256 (what a Go `[]byte` holds); the model indexes the regenerated
256-entry table with `idx`, so a shorter table would make these theorems fail rather than hold vacuously. -/

/-- the two byte classes of pttbbs `common/sys/string.c`, written out by hand; `escape_flag_classes` compares the
regenerated table with them. -/
def paramChars : List Nat := [48, 49, 50, 51, 52, 53, 54, 55, 56, 57, 59, 61]                      -- 0-9 ; =
def cmdChars : List Nat := [65, 66, 67, 68, 72, 73, 74, 75, 102, 104, 108, 109, 115, 117]         -- ABCDHIJKfhlmsu

/-- the table regenerated from cmsys/const.go is the C one (pttbbs `common/sys/string.c`): 256 entries,
`0-9;=` are parameter bytes (1), `ABCDHIJKfhlmsu` are the known commands (2), everything else 0.
Kernel evaluation over the whole table: one flipped entry breaks this theorem. -/
theorem escape_flag_classes :
    escapeFlag.length = 256 ∧
    ∀ x, x < 256 → flagOf x = (if x ∈ paramChars then 1 else if x ∈ cmdChars then 2 else 0) := by
  -- the classes are tested with `Nat.beq`, which the kernel evaluates directly: deciding `x ∈ l` goes through
  -- `Nat.decEq` and is slow to check
  have htab : escapeFlag = (List.range 256).map (fun x =>
      bif paramChars.any (Nat.beq x) then 1 else bif cmdChars.any (Nat.beq x) then 2 else 0) := by
    decide +kernel
  constructor
  · rw [htab, List.length_map, List.length_range]
  · intro x hx
    unfold flagOf
    rw [htab, ite_mem_eq_any_beq, ite_mem_eq_any_beq]
    exact getD_map_range _ 256 x 0 hx

/-- the constants the model's branches test. -/
theorem strip_constants :
    ESC = 27 ∧ STRIP_ANSI_ALL = 0 ∧ STRIP_ANSI_ONLY_COLOR = 1 ∧ STRIP_ANSI_NO_RELOAD = 2 :=
  ⟨ESC_eq, modes_eq⟩

/-- totality: no index, slice or table access faults and the fuel suffices — on every input and every flag
value, including sequences cut off after `ESC`, after `ESC [` and inside the parameters. -/
theorem strip_total (src : List Nat) (flag : Nat) (hb : Bytes src) : ∃ out, stripAnsi src flag = .ok out :=
  ⟨_, stripAnsi_eq_run src flag hb⟩

/-- a NUL ends the text: only the C string is looked at. -/
theorem strip_cstr (src : List Nat) (flag : Nat) (hb : Bytes src) :
    stripAnsi src flag = stripAnsi (cstr src) flag := by
  have hb' : Bytes (cstr src) := fun b h => hb b (mem_of_mem_cstr h)
  rw [stripAnsi_eq_run src flag hb, stripAnsi_eq_run _ flag hb', run_cstr]

/-- every byte string has a lexing (plain bytes, `ESC x`, complete CSI sequences, at most one cut-off unit
at the very end), so `strip_eq_lex` speaks about all NUL-free inputs. -/
theorem lex_complete (s : List Nat) : ∃ toks, WF toks ∧ bytesOf toks = s := exists_lexing s

/-- the main statement, all modes: the output is the concatenation, in order, of what the mode keeps of each
lexical unit — plain bytes always; a complete `ESC [ params final` byte-identical iff its final byte is allowed
(`m` under ONLY_COLOR, a byte flagged 2 under NO_RELOAD, none otherwise); every other unit is removed whole. -/
theorem strip_eq_lex (toks : List Tok) (flag : Nat) (hwf : WF toks) (hb : Bytes (bytesOf toks))
    (h0 : ∀ b ∈ bytesOf toks, b ≠ 0) :
    stripAnsi (bytesOf toks) flag = .ok (toks.flatMap (keepTok flag)) := by
  rw [stripAnsi_eq_run _ flag hb, run_toks flag toks hwf h0]

def keepAll : Tok → List Nat
  | .plain b => [b]
  | _ => []

def keepColor : Tok → List Nat
  | .plain b => [b]
  | .csi ps f => if f = 109 then ESC :: 91 :: (ps ++ [f]) else []
  | _ => []

def keepNoReload : Tok → List Nat
  | .plain b => [b]
  | .csi ps f => if f ∈ cmdChars then ESC :: 91 :: (ps ++ [f]) else []
  | _ => []

/-- strip-all: exactly the plain bytes survive. -/
theorem strip_all_eq_lex (toks : List Tok) (hwf : WF toks) (hb : Bytes (bytesOf toks))
    (h0 : ∀ b ∈ bytesOf toks, b ≠ 0) :
    stripAnsi (bytesOf toks) STRIP_ANSI_ALL = .ok (toks.flatMap keepAll) := by
  rw [strip_eq_lex toks _ hwf hb h0]
  congr 2
  funext t
  have h1 : STRIP_ANSI_ALL ≠ STRIP_ANSI_NO_RELOAD := by decide +kernel
  have h2 : STRIP_ANSI_ALL ≠ STRIP_ANSI_ONLY_COLOR := by decide +kernel
  cases t <;> simp [keepTok, keepAll, h1, h2]

/-- only-colour: plain bytes and exactly the `ESC [ … m` sequences survive, byte-identical. -/
theorem strip_color_eq_lex (toks : List Tok) (hwf : WF toks) (hb : Bytes (bytesOf toks))
    (h0 : ∀ b ∈ bytesOf toks, b ≠ 0) :
    stripAnsi (bytesOf toks) STRIP_ANSI_ONLY_COLOR = .ok (toks.flatMap keepColor) := by
  rw [strip_eq_lex toks _ hwf hb h0]
  congr 2
  funext t
  have hne : STRIP_ANSI_ONLY_COLOR ≠ STRIP_ANSI_NO_RELOAD := by decide +kernel
  cases t <;> simp [keepTok, keepColor, hne, Tok.bytes]

/-- no-reload: plain bytes and exactly the CSI sequences whose final byte is one of `ABCDHIJKfhlmsu` survive. -/
theorem strip_noreload_eq_lex (toks : List Tok) (hwf : WF toks) (hb : Bytes (bytesOf toks))
    (h0 : ∀ b ∈ bytesOf toks, b ≠ 0) :
    stripAnsi (bytesOf toks) STRIP_ANSI_NO_RELOAD = .ok (toks.flatMap keepNoReload) := by
  rw [strip_eq_lex toks _ hwf hb h0]
  have hne : STRIP_ANSI_NO_RELOAD ≠ STRIP_ANSI_ONLY_COLOR := by decide +kernel
  have hb' : ∀ t ∈ toks, ∀ b ∈ t.bytes, b < 256 := fun t ht b hbm => hb b (by
    simp only [bytesOf, List.mem_flatMap]; exact ⟨t, ht, hbm⟩)
  apply congrArg
  apply flatMap_congr'
  intro t ht
  cases t with
  | csi ps f =>
    have hf : f < 256 := hb' _ ht f (by simp [Tok.bytes])
    have hcls := escape_flag_classes.2 f hf
    have : isCmdB f = true ↔ f ∈ cmdChars := by
      unfold isCmdB
      rw [hcls]
      by_cases h1 : f ∈ paramChars
      · have : f ∉ cmdChars := (by decide : ∀ x ∈ paramChars, x ∉ cmdChars) f h1
        simp [h1, this]
      · by_cases h2 : f ∈ cmdChars <;> simp [h1, h2]
    simp [keepTok, keepNoReload, hne, Tok.bytes, this]
  | _ => simp [keepTok, keepNoReload]

/-- strip-all: no ESC byte survives (for every flag value that is not one of the two keeping modes). -/
theorem strip_all_no_esc (src : List Nat) (flag : Nat) (hb : Bytes src)
    (h1 : flag ≠ STRIP_ANSI_NO_RELOAD) (h2 : flag ≠ STRIP_ANSI_ONLY_COLOR) (out : List Nat)
    (h : stripAnsi src flag = .ok out) : ESC ∉ out := by
  obtain ⟨toks, hwf, _, hs⟩ := strip_lexed src flag hb
  cases hs.symm.trans h
  intro hm
  obtain ⟨t, ht, hbt⟩ := List.mem_flatMap.mp hm
  -- in these modes only plain bytes are kept, and a plain byte is not ESC
  cases t with
  | plain b => exact hwf.ok_of_mem ht (List.mem_singleton.mp hbt).symm
  | csi ps f => simp [keepTok, h1, h2] at hbt
  | _ => cases hbt

/-- no mode lets a NUL through, and the output is never longer than the C string. -/
theorem strip_no_nul (src : List Nat) (flag : Nat) (hb : Bytes src) (out : List Nat)
    (h : stripAnsi src flag = .ok out) : 0 ∉ out := by
  obtain ⟨toks, _, hbytes, hs⟩ := strip_lexed src flag hb
  cases hs.symm.trans h
  -- what is kept are bytes of the lexed C string
  exact fun hm => cstr_nonzero src 0 (hbytes ▸ keepTok_subset flag toks 0 hm) rfl

/-- stripping twice equals stripping once — in strip-all mode (the property's clause) and in the two keeping
modes as well. -/
theorem strip_idem (src : List Nat) (flag : Nat) (hb : Bytes src) (out : List Nat)
    (h : stripAnsi src flag = .ok out) : stripAnsi out flag = .ok out := by
  obtain ⟨toks, hwf, hbytes, hs⟩ := strip_lexed src flag hb
  cases hs.symm.trans h
  have h0 : ∀ b ∈ bytesOf toks, b ≠ 0 := by rw [hbytes]; exact cstr_nonzero src
  have hbo : Bytes (toks.flatMap (keepTok flag)) := fun b hbm =>
    hb b (mem_of_mem_cstr (hbytes ▸ keepTok_subset flag toks b hbm))
  rw [stripAnsi_eq_run _ flag hbo, run_kept_toks flag toks hwf h0]

theorem strip_all_idem (src : List Nat) (hb : Bytes src) (out : List Nat)
    (h : stripAnsi src STRIP_ANSI_ALL = .ok out) : stripAnsi out STRIP_ANSI_ALL = .ok out :=
  strip_idem src _ hb out h

/-! non-vacuity: a lexing with all five kinds of unit, and the three modes on it (kernel evaluation of the
index/fuel model itself) -/
def sampleToks : List Tok :=
  [.plain 97, .csi [51, 49] 109, .escOther 99, .csi [] 72, .plain 98, .csi [50] 90, .csiTrunc [51, 59]]
example : WF sampleToks := by
  simp only [sampleToks, WF, Tok.ok, Tok.complete]
  decide +kernel
example : stripAnsi (bytesOf sampleToks) 0 = .ok [97, 98] := ok_of_toOption (by decide +kernel)
example : stripAnsi (bytesOf sampleToks) 1 = .ok [97, 27, 91, 51, 49, 109, 98] := ok_of_toOption (by decide +kernel)
example : stripAnsi (bytesOf sampleToks) 2 = .ok [97, 27, 91, 51, 49, 109, 27, 91, 72, 98] := ok_of_toOption (by decide +kernel)
example : stripAnsi [27, 91, 51] 0 = .ok [] ∧ stripAnsi [27, 91] 2 = .ok [] ∧ stripAnsi [27] 1 = .ok [] :=
  ⟨ok_of_toOption (by decide +kernel), ok_of_toOption (by decide +kernel), ok_of_toOption (by decide +kernel)⟩

/-! ## Group 3 — ReadLine, hashes, DBCS helpers, Trim, TrimDBCS -/

/-! ### types.ReadLine (the bufio reader is a byte string; `readLines` iterates `ReadLine` until io.EOF) -/

/-- what "one CR removed" means. -/
theorem stripCR_spec : stripCR [] = [] ∧ ∀ (L : List Nat) (b : Nat), stripCR (L ++ [b]) = if b = 13 then L else L ++ [b] :=
  ⟨stripCR_nil, stripCR_snoc⟩

/-- every line comes back without its terminator — one LF and at most one CR removed —, empty lines included,
a last line without LF included, nothing after a final LF; no fault, the loop ends. -/
theorem readLine_spec (ls : List (List Nat)) (tail : List Nat) (hls : ∀ l ∈ ls, 10 ∉ l) (ht : 10 ∉ tail) :
    readLines (joinLF ls ++ tail) = .ok (ls.map stripCR ++ (if tail = [] then [] else [stripCR tail])) := by
  unfold readLines
  apply readAll_spec ls tail _ hls ht
  have := joinLF_length ls
  by_cases h : tail = []
  · simp [h]; omega
  · have : 0 < tail.length := List.length_pos_iff.mpr h
    simp [h]; omega

/-- `readLine_spec` covers every input: each byte string is LF-terminated lines plus an LF-free rest. -/
theorem readLine_complete (s : List Nat) :
    ∃ ls tail, s = joinLF ls ++ tail ∧ (∀ l ∈ ls, 10 ∉ l) ∧ 10 ∉ tail := lines_complete s

theorem readLine_total (s : List Nat) : ∃ r, readLines s = .ok r := by
  obtain ⟨ls, tail, rfl, h1, h2⟩ := lines_complete s
  exact ⟨_, readLine_spec ls tail h1 h2⟩

example : readLines [97, 10, 10, 98, 13, 10, 13, 10, 99, 13] = .ok [[97], [], [98], [], [99]] := by rfl
example : readLines [10] = .ok [[]] := by rfl

/-! ### cmsys.StringHash / StringHashWithHashBits / fnv1a32StrCase -/

theorem fnv_constants : FNV_32_PRIME = 16777619 ∧ FNV1_32_INIT = 33554467 ∧ HASH_BITS = 16 :=
  ⟨fnv_prime_eq, fnv_init_eq, by decide +kernel⟩

/-- the hash is FNV-1a (32 bit, pttbbs offset basis) over the upper-cased NUL-terminated prefix. -/
theorem strhash_eq_fnv1a (s : List Nat) : stringHash s = fnv1a ((cstr s).map ccharToupper) 33554467 := by
  unfold stringHash
  rw [fnv1a32StrCase_eq, fnv_init_eq]

/-- strings that are equal up to ASCII case (on their C strings) have the same hash. -/
theorem strhash_case_insensitive (a b : List Nat)
    (h : (cstr a).map ccharTolower = (cstr b).map ccharTolower) :
    stringHash a = stringHash b ∧ stringHashWithHashBits a = stringHashWithHashBits b := by
  have : stringHash a = stringHash b := by
    rw [strhash_eq_fnv1a, strhash_eq_fnv1a, map_upper_of_lower_eq _ _ h]
  exact ⟨this, by unfold stringHashWithHashBits; rw [this]⟩

/-- in particular `Cstrcasecmp a b = 0` implies equal hashes (what the user-id index of C04 relies on). -/
theorem strhash_of_casecmp_zero (a b : List Nat) (h : cstrcasecmp a b = .ok 0) : stringHash a = stringHash b :=
  (strhash_case_insensitive a b ((casecmp_eq_zero_iff a b).mp h)).1

theorem hashbits_lt (s : List Nat) : stringHashWithHashBits s < 2 ^ HASH_BITS := by
  unfold stringHashWithHashBits
  rw [Nat.one_shiftLeft]
  exact Nat.mod_lt _ (Nat.two_pow_pos _)

/-! ### cmsys.DBCSNextStatus / DBCSStatus / DBCSSafeTrim -/

/-- for a non-empty string and `pos ≥ 0`: no fault, and the status is the one the left-to-right scan assigns to
the byte at `pos` (the last byte when `pos` is past the end). -/
theorem dbcsStatus_spec (str : List Nat) (p : Nat) (h : str ≠ []) :
    dbcsStatus str (Int.ofNat p) = .ok (dbcsFold (str.take (p + 1))) := dbcsStatus_spec' str p h

theorem dbcsStatus_neg (str : List Nat) (n : Nat) : dbcsStatus str (Int.negSucc n) = .ok DBCS_ASCII := rfl

/-- observation (not judged): on the empty string with `pos ≥ 0` the code indexes `str[0]` and panics;
`DBCSSafeTrim`, the only caller, checks the length first. -/
theorem dbcsStatus_empty_faults (p : Nat) : dbcsStatus [] (Int.ofNat p) = .error .panic := rfl

/-- the scan's meaning: after whole characters (ASCII bytes, lead+any byte) the status is never LEADING;
after whole characters plus one more byte ≥ 0x80 it is LEADING. -/
theorem dbcsFold_units (us : List DUnit) (hok : ∀ u ∈ us, u.ok) :
    dbcsFold (unitsBytes us) ≠ DBCS_LEADING ∧ ∀ l, 128 ≤ l → dbcsFold (unitsBytes us ++ [l]) = DBCS_LEADING :=
  ⟨dbcsFold_whole us hok, dbcsFold_dangling us hok⟩

/-- `DBCSSafeTrim` never splits a double-byte character: whole characters are returned unchanged, a dangling
lead byte at the end is removed and nothing else. -/
theorem dbcsSafeTrim_no_split (us : List DUnit) (hok : ∀ u ∈ us, u.ok) :
    dbcsSafeTrim (unitsBytes us) = .ok (unitsBytes us) ∧
    ∀ l, 128 ≤ l → dbcsSafeTrim (unitsBytes us ++ [l]) = .ok (unitsBytes us) :=
  ⟨by rw [dbcsSafeTrim_eq, if_neg (dbcsFold_whole us hok)],
    fun l hl => by rw [dbcsSafeTrim_eq, if_pos (dbcsFold_dangling us hok l hl), List.dropLast_concat]⟩

/-- the two forms of `dbcsSafeTrim_no_split` are all byte strings. -/
theorem dbcs_units_complete (s : List Nat) :
    ∃ us, (∀ u ∈ us, u.ok) ∧ (s = unitsBytes us ∨ ∃ l, 128 ≤ l ∧ s = unitsBytes us ++ [l]) := units_complete s

/-- totality, empty string included: the result is always a whole number of characters. -/
theorem dbcs_total (s : List Nat) : ∃ us, (∀ u ∈ us, u.ok) ∧ dbcsSafeTrim s = .ok (unitsBytes us) := by
  obtain ⟨us, hok, h | ⟨l, hl, h⟩⟩ := units_complete s
  · exact ⟨us, hok, by rw [h]; exact (dbcsSafeTrim_no_split us hok).1⟩
  · exact ⟨us, hok, by rw [h]; exact (dbcsSafeTrim_no_split us hok).2 l hl⟩

example : dbcsSafeTrim [97, 164, 164, 164] = .ok [97, 164, 164] := by rfl
example : dbcsSafeTrim [] = .ok [] := by rfl

/-! ### cmsys.Trim -/

/-- `Trim` never faults; it returns the C string without its trailing blanks, all of them and only them. -/
theorem trim_spec (s : List Nat) :
    ∃ r k, trim s = .ok r ∧ cstr s = r ++ List.replicate k 32 ∧ (r = [] ∨ ∃ L x, r = L ++ [x] ∧ x ≠ 32) := by
  obtain ⟨k, h1, h2⟩ := trimRightSp_spec (cstr s)
  refine ⟨trimRightSp (cstr s), k, ?_, h1, h2⟩
  unfold trim
  rw [cstrToBytes_eq']; rfl

/-! ### types.TrimDBCS (after fix 279321c) -/

/-- `TrimDBCS` never splits a double-byte character, at full strength: a C string made of whole characters is
returned unchanged (array untouched); one that ends in a dangling lead byte loses exactly that byte (zeroed in
the caller's array). No fault in either case. -/
theorem trimDBCS_no_split (s : List Nat) (us : List DUnit) (hok : ∀ u ∈ us, u.ok) :
    (cstr s = unitsBytes us → trimDBCS s = .ok (unitsBytes us, s)) ∧
    (∀ l, 128 ≤ l → cstr s = unitsBytes us ++ [l] →
      trimDBCS s = .ok (unitsBytes us, s.set (unitsBytes us).length 0)) := by
  obtain ⟨h1, h2⟩ := dbcsFold_units us hok
  constructor
  · intro h
    have := trimDBCS_keep s (by rw [h]; exact h1)
    rw [h] at this; exact this
  · intro l hl h
    exact trimDBCS_cut s _ l h (by rw [h]; exact h2 l hl)

/-- totality, the empty string included (O7 of DESIGN.md section 7, a panic before fix 279321c): the result is always
a whole number of characters and a prefix of the C string. -/
theorem trimDBCS_total (s : List Nat) :
    ∃ us buf, (∀ u ∈ us, u.ok) ∧ trimDBCS s = .ok (unitsBytes us, buf) ∧ unitsBytes us <+: cstr s := by
  obtain ⟨us, hok, h | ⟨l, hl, h⟩⟩ := units_complete (cstr s)
  · exact ⟨us, s, hok, (trimDBCS_no_split s us hok).1 h, by rw [h]; exact List.prefix_refl _⟩
  · exact ⟨us, _, hok, (trimDBCS_no_split s us hok).2 l hl h, by rw [h]; exact List.prefix_append _ _⟩

/-- `TrimDBCS` and `DBCSSafeTrim` agree on the C string. -/
theorem trimDBCS_eq_safeTrim (s : List Nat) :
    ∃ r buf, trimDBCS s = .ok (r, buf) ∧ dbcsSafeTrim (cstr s) = .ok r := by
  obtain ⟨us, hok, h | ⟨l, hl, h⟩⟩ := units_complete (cstr s)
  · exact ⟨_, _, (trimDBCS_no_split s us hok).1 h, by rw [h]; exact (dbcsSafeTrim_no_split us hok).1⟩
  · exact ⟨_, _, (trimDBCS_no_split s us hok).2 l hl h, by rw [h]; exact (dbcsSafeTrim_no_split us hok).2 l hl⟩

/-- before fix 279321c (finding `split:trimdbcs`, recorded as fixed): the body of that time (`trimDBCSOld`) cut the
trail byte of a complete character and faulted on the empty string; the current model does neither on the same
inputs. -/
theorem trimDBCS_before_fix_witness :
    trimDBCSOld [164, 164, 0] = .ok ([164], [164, 0, 0]) ∧ dbcsFold [164] = DBCS_LEADING ∧
    trimDBCSOld [0] = .error .panic ∧
    trimDBCS [164, 164, 0] = .ok ([164, 164], [164, 164, 0]) ∧ trimDBCS [0] = .ok ([], [0]) := by
  refine ⟨by rfl, by decide +kernel, by rfl, by rfl, by rfl⟩

example : trimDBCS [97, 164, 164, 164, 0, 7] = .ok ([97, 164, 164], [97, 164, 164, 0, 0, 7]) := by rfl

/-! ### cmsys.StripNoneBig5 (works in place; the model returns the slice and the array afterwards) -/

/-- totality and exact effect, for every input (no index is read or written outside the slice, the loop ends):
the result is the filter `nb5` of the input, the array holds the result, then — only if there is room — one NUL,
then the untouched rest of the original bytes. -/
theorem stripNoneBig5_total (s : List Nat) :
    stripNoneBig5 s = .ok (nb5 s,
      nb5 s ++ (if (nb5 s).length < s.length then 0 :: s.drop ((nb5 s).length + 1) else [])) :=
  stripNoneBig5_eq s

/-- what survives is well-formed and nothing is invented: printable ASCII bytes and (lead ≥ 0x80, valid Big5
trail byte) pairs — so no double-byte character is ever split, no control byte and no lone lead byte survives —,
in the original order, all taken from before the first NUL. -/
theorem stripNoneBig5_safe (s : List Nat) (hb : Bytes s) : Big5Safe (nb5 s) ∧ (nb5 s).Sublist (cstr s) :=
  ⟨nb5_safe s hb, nb5_sublist s⟩

/-- nothing well-formed is lost: a well-formed string is returned unchanged … -/
theorem stripNoneBig5_keeps_wellformed (s : List Nat) (h : Big5Safe s) : nb5 s = s := nb5_of_safe s h

/-- … hence sanitizing twice equals sanitizing once. -/
theorem stripNoneBig5_idem (s : List Nat) (hb : Bytes s) : nb5 (nb5 s) = nb5 s :=
  nb5_of_safe _ (nb5_safe s hb)

example : stripNoneBig5 [97, 1, 164, 64, 164, 32, 200, 0, 98] = .ok ([97, 164, 64, 32], [97, 164, 64, 32, 0, 32, 200, 0, 98]) := by rfl
example : stripNoneBig5 [164] = .ok ([], [0]) := by rfl
example : Big5Safe [97, 164, 64, 32] := .ascii 97 _ (by omega) (by omega) (.dbcs 164 64 _ (by omega) (by omega) (by decide) (.ascii 32 _ (by omega) (by omega) .nil))

/-! ### cmsys.StrcaseStartsWith / cmbbs.SubjectEx (after fix ff0e11f) -/

/-- the prefix test never faults and is `strncasecmp(str, prefix, len(prefix)) == 0` with ASCII-only folding:
the folded prefix is a prefix of the folded string (bytes ≥ 0x80 are compared as they are). -/
theorem strcaseStartsWith_spec (str pre : List Nat) :
    strcaseStartsWith str pre = .ok (hasPrefix (str.map ccharTolower) (pre.map ccharTolower)) ∧
    strcaseStartsWith str pre = .ok (cstrCaseHasPrefix str pre) :=
  ⟨strcaseStartsWith_eq str pre, strcaseStartsWith_eq str pre⟩

/-- which bytes a matched prefix stands for: three ASCII bytes for `Re:` / `Fw:`, exactly the six bytes
`[` C2 E0 BF FD `]` for the legacy forward tag. -/
theorem subjectEx_prefix_shape (p : List Nat) (n ty : Nat) (h : subjectStep p = .ok (some (n, ty))) :
    n ≤ p.length ∧ 3 ≤ n ∧
    ((∃ x y z r, n = 3 ∧ p = x :: y :: z :: r ∧ x < 128 ∧ y < 128 ∧ z < 128) ∨
     (∃ r, n = 6 ∧ p = 91 :: 0xC2 :: 0xE0 :: 0xBF :: 0xFD :: 93 :: r)) := by
  rw [subjectStep_eq] at h
  injection h with h
  exact subjectStepP_spec p n ty h

/-- totality: no slice or index faults, the loop ends, and the returned title is a suffix of the title's
C string — for every 65-byte array, with or without a NUL. -/
theorem subjectEx_total (title : List Nat) :
    ∃ ty pre r, subjectEx title = .ok (ty, r) ∧ cstr title = pre ++ r := by
  obtain ⟨ty, pre, r, h1, h2, _⟩ := subjectEx_spec title
  exact ⟨ty, pre, r, h1, h2⟩

/-- `SubjectEx` never splits a double-byte character, at full strength (every title): what is cut off in front
ends at a character boundary of the title. -/
theorem subjectEx_no_split (title : List Nat) :
    ∃ ty pre r, subjectEx title = .ok (ty, r) ∧ cstr title = pre ++ r ∧ dbcsFold pre ≠ DBCS_LEADING :=
  subjectEx_spec title

/-- the witnesses of finding `split:subjectex` (fixed by ff0e11f, which folds ASCII letters only): a bracketed tag of
other bytes ≥ 0x80 is not taken for the legacy forward tag, the real tag is. -/
theorem subjectEx_former_witnesses :
    subjectEx [91, 0xEF, 0xBF, 0xBD, 0xA4, 0xA4, 0xA4, 93, 120, 0] =
      .ok (SUBJECT_NORMAL, [91, 0xEF, 0xBF, 0xBD, 0xA4, 0xA4, 0xA4, 93, 120]) ∧
    subjectEx [91, 0xB6, 0xA2, 0xB2, 0xE1, 93, 32, 104, 105, 0] =
      .ok (SUBJECT_NORMAL, [91, 0xB6, 0xA2, 0xB2, 0xE1, 93, 32, 104, 105]) ∧
    subjectEx [91, 0xC2, 0xE0, 0xBF, 0xFD, 93, 32, 104, 105, 0] = .ok (SUBJECT_FORWARD, [104, 105]) :=
  ⟨ok_of_toOption (by decide +kernel), ok_of_toOption (by decide +kernel), ok_of_toOption (by decide +kernel)⟩

example : subjectEx [82, 69, 58, 32, 102, 119, 58, 91, 0xC2, 0xE0, 0xBF, 0xFD, 93, 32, 32, 120, 0] = .ok (SUBJECT_FORWARD, [32, 120]) :=
  ok_of_toOption (by decide +kernel)
example : subjectEx [82, 101, 0] = .ok (SUBJECT_NORMAL, [82, 101]) := by rfl

/-! ## Result ownership — a result stays what it was, whatever is called afterwards

`Model/C18Alias.lean`: slices are (backing array, offset, length) over a heap; a history is a list of calls whose
arguments are literals or earlier results still held by the caller. The driver prints what the caller holds as
read from the heap AFTER the history. -/

/-- for every history `s1 ++ s2` of calls of the slice-returning helpers (StripAnsi in any mode, CstrToBytes,
CstrTolower/Toupper, CstrTokenR, DBCSSafeTrim, Trim, ReadLine, StripNoneBig5, TrimDBCS, SubjectEx): everything the
caller holds after `s1` is still held and reads byte for byte the same after `s2` — no call writes into memory
that an earlier result occupies. -/
theorem hist_stable (s1 s2 : List Step) (h1 hF : Heap) (held1 heldF : List Res)
    (hr1 : histRun [] [] s1 = some (.ok (h1, held1)))
    (hrF : histRun [] [] (s1 ++ s2) = some (.ok (hF, heldF))) :
    held1 <+: heldF ∧ ∀ r ∈ held1, ∀ s ∈ r.sls, hF.rd s = h1.rd s := by
  have hv0 : HeldValid [] [] := by intro r hr; simp at hr
  obtain ⟨_, hv1, _⟩ := histRun_spec s1 [] [] h1 held1 hv0 hr1
  rw [histRun_append s1 s2 [] [] h1 held1 hr1] at hrF
  obtain ⟨⟨extra, rfl⟩, _, hp⟩ := histRun_spec s2 h1 held1 hF heldF hv1 hrF
  exact ⟨hp, fun r hr s hs => rd_append h1 extra s (hv1 r hr s hs)⟩

/-- what a StripAnsi call on a literal hands to its caller is the stripped text of its input. -/
theorem strip_result_value (h : Heap) (held : List Res) (flag : Nat) (b : List Nat) (h' : Heap) (r : Res)
    (hrun : stepRun h held (.strip flag (.lit b)) = some (.ok (h', r))) :
    ∃ out, stripAnsi b flag = .ok out ∧ r.sls.map h'.rd = [out] := by
  have hrd : (h ++ [b]).rd ⟨h.length, 0, b.length⟩ = b := rd_alloc h b
  simp only [stepRun, resolve, alloc, Option.map_some, Option.some.injEq, bind, Except.bind, hrd] at hrun
  cases ho : stripAnsi b flag with
  | error e => simp [ho] at hrun
  | ok out =>
    simp only [ho, pure, Except.pure, Except.ok.injEq, Prod.mk.injEq] at hrun
    obtain ⟨rfl, rfl⟩ := hrun
    refine ⟨out, rfl, ?_⟩
    simp [Heap.rd, List.getD]

/-- the two together, the clause the property needs: a StripAnsi result, read after ANY later history (more
stripping in other modes, of other messages, of this very result), is still the stripped text of its own input
(so in strip-all mode it still holds no ESC byte, and stripping it again still gives the same). -/
theorem strip_held_value (pre s2 : List Step) (flag : Nat) (b : List Nat) (h0 h1 hF : Heap)
    (held0 heldF : List Res) (r : Res)
    (hpre : histRun [] [] pre = some (.ok (h0, held0)))
    (hstep : stepRun h0 held0 (.strip flag (.lit b)) = some (.ok (h1, r)))
    (hall : histRun [] [] ((pre ++ [.strip flag (.lit b)]) ++ s2) = some (.ok (hF, heldF))) :
    ∃ out, stripAnsi b flag = .ok out ∧ r.sls.map hF.rd = [out] ∧ r ∈ heldF := by
  have h1run : histRun [] [] (pre ++ [.strip flag (.lit b)]) = some (.ok (h1, held0 ++ [r])) := by
    rw [histRun_append pre _ [] [] h0 held0 hpre]
    simp [histRun, hstep, pure, Except.pure]
  obtain ⟨hp, hst⟩ := hist_stable _ s2 h1 hF (held0 ++ [r]) heldF h1run hall
  obtain ⟨out, ho, hv⟩ := strip_result_value h0 held0 flag b h1 r hstep
  refine ⟨out, ho, ?_, hp.subset (by simp)⟩
  rw [← hv]
  apply List.map_congr_left
  intro s hs
  exact hst r (by simp) s hs

/-- the broken rule (seed C18-r4-2): with ONE scratch buffer shared by all calls, an earlier result changes under
its holder — the strip-all result `ab` of the first call reads `ESC [` after an only-colour call. -/
theorem stripPooled_witness :
    ∃ h1 s1 h2 s2, stripPooled [] [97, 27, 91, 72, 98] STRIP_ANSI_ALL = .ok (h1, s1) ∧ h1.rd s1 = [97, 98] ∧
      stripPooled h1 [27, 91, 109, 120] STRIP_ANSI_ONLY_COLOR = .ok (h2, s2) ∧ h2.rd s1 = [27, 91] := by
  refine ⟨_, _, _, _, by rfl, by rfl, by rfl, by rfl⟩

/-! non-vacuity: a history that re-reads and re-uses earlier results -/
example : histObserve [.strip 0 (.lit [97, 27, 91, 72, 98]), .strip 1 (.lit [27, 91, 109, 120]), .strip 0 (.ref 0),
    .nb5 [97, 1, 164], .toBytes (.ref 1)] =
    some (.ok [(none, [[97, 98]]), (none, [[27, 91, 109, 120]]), (none, [[97, 98]]), (none, [[97]]),
      (none, [[27, 91, 109, 120]])]) := by rfl

/-! ## ptt.StripANSIMoveCmd (ptt/kaede.go) -/

/-- totality (the loop ends on every line, also when an ESC directly follows an ESC or a cut-off sequence) and the
exact result: the two-state scan; the length never changes. -/
theorem moveCmd_total (l : List Nat) :
    stripANSIMoveCmd l = .ok (mvScan false l) ∧ (mvScan false l).length = l.length :=
  ⟨stripANSIMoveCmd_eq_scan l, mvScan_length false l⟩

/-- the clause: after StripANSIMoveCmd no `ESC code* final` with `code ∈ 0-9;,[` and `final ∈ ABCDfjHJRu` remains
anywhere in the line — none that was there, and none that the rewriting could have formed. -/
theorem moveCmd_no_move (l r : List Nat) (h : stripANSIMoveCmd l = .ok r) :
    ¬ ∃ pre codes c post, r = pre ++ MV_ESC :: (codes ++ c :: post) ∧ (∀ x ∈ codes, mvIsCode x = true) ∧
      mvIsMove c = true := by
  rw [stripANSIMoveCmd_eq_scan] at h
  cases h
  intro hex
  have := (mvHasMove_iff _).mpr hex
  rw [(mvScan_no_move l).1] at this
  cases this

/-- the broken rule (seed C18-r5-1) as a witness: resuming the scan BEHIND the byte just examined swallows an ESC
in that position — `ESC ESC [ 2 J` and `ESC [ 1 ; ESC [ H` keep their commands; the real scan defuses both. -/
theorem moveCmd_skip_witness :
    mvHasMove (mvScanSkip false [27, 27, 91, 50, 74]) = true ∧
    mvHasMove (mvScanSkip false [27, 91, 49, 59, 27, 91, 72]) = true ∧
    stripANSIMoveCmd [27, 27, 91, 50, 74] = .ok [27, 27, 91, 50, 115] ∧
    stripANSIMoveCmd [27, 91, 49, 59, 27, 91, 72] = .ok [27, 91, 49, 59, 27, 91, 115] :=
  ⟨by decide +kernel, by decide +kernel, ok_of_toOption (by decide +kernel), ok_of_toOption (by decide +kernel)⟩

/-! ## cmsys.StrcaseStartsWith on single bytes -/

/-- two single bytes match iff they are equal after folding `A`–`Z` only — in particular bytes that differ just
in bit 5 match only when they are a letter pair. -/
theorem startsWith_byte (a b : Nat) :
    strcaseStartsWith [a] [b] = .ok (decide (ccharTolower a = ccharTolower b)) := by
  rw [strcaseStartsWith_eq]
  by_cases h : ccharTolower a = ccharTolower b <;> simp [hasPrefix, h]

/-- the broken rule as a witness: `[`/`{`, `:`/0x1a and 0xC2/0xE2 differ in bit 5 only and must NOT match. -/
theorem startsWith_bit5_witness :
    (91 ^^^ 123) &&& 223 = 0 ∧ strcaseStartsWith [123] [91] = .ok false ∧
    strcaseStartsWith [26] [58] = .ok false ∧ strcaseStartsWith [0xE2] [0xC2] = .ok false ∧
    strcaseStartsWith [65] [97] = .ok true := by
  refine ⟨by decide, by rfl, by rfl, by rfl, by rfl⟩

/-! ## Call sites: ptt.myWrite (strip-all), ptt.CrossPost (TrimDBCS) -/

/-- regenerated from ptt/talk.go and ptt/bbs.go on every run: `myWrite` passes EVERY message through
`cmsys.StripAnsi(prompt, cmsys.STRIP_ANSI_ALL)` (a statement of the function body itself, the only assignment of
`msg`, which is what `myWriteMsg` gets); `CrossPost` first copies the title into the 65-byte field and then calls
`TrimDBCS` on the field. A fast path around the stripping, or the two title statements in another order or
shape, breaks this theorem. -/
theorem callsite_facts :
    Gen.C18Str.myWriteStripsUnconditionally = true ∧
    Gen.C18Str.crossPostTitleStmts = ["copy(xFileHeader.Title[:], title)", "types.TrimDBCS(xFileHeader.Title[:])"] ∧
    LAST_CALL_IN = 76 :=
  ⟨rfl, rfl, rfl⟩

/-- what the receiver's message queue holds (`LastCallIn`) never contains an ESC byte, whatever the sender's
text — ESC not followed by `[`, a lone ESC at the end, ESC ESC included — and the call never faults. -/
theorem lastCallIn_no_esc (prompt : List Nat) (hb : Bytes prompt) :
    ∃ f, lastCallIn prompt = .ok f ∧ f.length = LAST_CALL_IN ∧ ESC ∉ f := by
  obtain ⟨out, ho⟩ := strip_total prompt STRIP_ANSI_ALL hb
  have hne := strip_all_no_esc prompt STRIP_ANSI_ALL hb (by decide +kernel) (by decide +kernel) out ho
  refine ⟨copyInto LAST_CALL_IN out, by simp [lastCallIn, ho, bind, Except.bind, pure, Except.pure], by simp, ?_⟩
  intro hm
  simp only [copyInto, List.mem_append, List.mem_replicate] at hm
  rcases hm with hm | ⟨_, hm⟩
  · exact hne (List.mem_of_mem_take hm)
  · exact ESC_ne_zero hm

/-- the broken rule (seed C18-r6-1): stripping only texts that contain `ESC [` lets `hi ESC * s` through. -/
theorem lastCallIn_fastpath_witness :
    ∃ f, lastCallInFastPath [104, 105, 27, 42, 115] = .ok f ∧ ESC ∈ f ∧
      lastCallIn [104, 105, 27, 42, 115] = .ok (copyInto LAST_CALL_IN [104, 105, 115]) := by
  refine ⟨_, by rfl, by decide +kernel, by rfl⟩

/-- the Title stored for a cross-posted article never ends in half a character: the call never faults, the
field keeps its 65 bytes, and its C string is a whole number of characters — for every original title, in
particular the 62–64 byte ones whose byte 60 is a lead byte (cut by the copy, repaired by TrimDBCS). -/
theorem crossPostTitle_no_split (title : List Nat) :
    ∃ f r us, crossPostTitle title = .ok f ∧ (∀ u ∈ us, u.ok) ∧
      trimDBCS (copyInto (TTLEN + 1) (STR_FORWARD ++ [32] ++ cstr title)) = .ok (r, f) ∧ r = unitsBytes us := by
  obtain ⟨us, buf, hok, hrun, _⟩ := trimDBCS_total (copyInto (TTLEN + 1) (STR_FORWARD ++ [32] ++ cstr title))
  refine ⟨buf, unitsBytes us, us, ?_, hok, hrun, rfl⟩
  unfold crossPostTitle
  simp only [bind, Except.bind]
  rw [hrun]; rfl

/-- the broken order (seed C18-r6-2) on a 62-byte title whose byte 60 is a lead byte: trimming the temporary and
copying afterwards leaves the lead byte A4 as the 65th byte; the real order zeroes it. -/
theorem crossPostTitle_order_witness :
    (∃ f, crossPostTitleTrimFirst (List.replicate 60 97 ++ [164, 164]) = .ok f ∧ f.getLast? = some 164 ∧
      dbcsFold f = DBCS_LEADING) ∧
    (∃ f, crossPostTitle (List.replicate 60 97 ++ [164, 164]) = .ok f ∧ f.getLast? = some 0) :=
  ⟨⟨STR_FORWARD ++ 32 :: List.replicate 60 97 ++ [164],
      ok_of_toOption (by decide +kernel), by decide +kernel, by decide +kernel⟩,
    ⟨STR_FORWARD ++ 32 :: List.replicate 60 97 ++ [0],
      ok_of_toOption (by decide +kernel), by decide +kernel⟩⟩

end PttVerif.C18.Props
