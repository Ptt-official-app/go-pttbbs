import PttVerif.Proofs.C13
/-
C13 — Article IDs are a bijective encoding of article file names.
The theorems of the property, by layer of the codec, and examples on concrete records; lemmas about the model's
functions on other inputs are in Proofs/C13.lean.
-/
namespace PttVerif.C13.Props
open PttVerif PttVerif.C13

/-- the number a name of the domain encodes to (`pack` of Proofs/C13.lean, written out). -/
def code (isM : Bool) (t p : Nat) : Nat := (if isM then 0 else 1) * 2 ^ 44 + t * 2 ^ 12 + p

/-! #### the regenerated tables -/

/-- every alphabet character decodes to its own position (whole table, kernel evaluation). -/
theorem table_inverts_alphabet (i : Nat) (h : i < 64) :
    decodeTable[alphabet.getD i 0]? = some i := (table_facts' i h).2.2.2

theorem alphabet_nodup : alphabet.Nodup := by
  rw [List.nodup_iff_pairwise_ne, List.pairwise_iff_getElem]
  intro i j hi hj hij e
  rw [← dch_eq_getElem i hi, ← dch_eq_getElem j hj] at e
  exact Nat.ne_of_lt hij (dch_injective i j (alphabet_length ▸ hi) (alphabet_length ▸ hj) e)

/-- no alphabet character is a terminator of the decoder or outside its table. -/
theorem alphabet_in_table (i : Nat) (h : i < 64) :
    alphabet.getD i 0 ≠ 0 ∧ alphabet.getD i 0 ≠ 64 ∧ alphabet.getD i 0 < decodeTable.length := by
  have := table_facts' i h
  rw [table_length]; exact ⟨this.1, this.2.1, this.2.2.1⟩

/-! #### (iii) number ↔ text over the whole 48-bit range -/

/-- `Aidc.ToAidu (Aidu.ToAidc a) = a`. -/
theorem aidu_aidc_inv (a : Nat) (h : a < 2 ^ 48) : aidcToAidu (aiduToAidc a) = .ok a := by
  have := decode_toAidcAux 8 a 0 [] (by decide)
  rwa [Nat.zero_mul, Nat.zero_add, Nat.mod_eq_of_lt h] at this

theorem aiduToAidc_length (a : Nat) : (aiduToAidc a).length = 8 :=
  toAidcAux_length 8 a []

theorem aidc_aidu_inv (cs : List Nat) (hlen : cs.length = 8) (hal : ∀ c ∈ cs, c ∈ alphabet) :
    ∃ a, aidcToAidu cs = .ok a ∧ a < 2 ^ 48 ∧ aiduToAidc a = cs := by
  obtain ⟨a, ha, e⟩ := toAidcAux_surj cs.reverse (fun c hc => hal c (List.mem_reverse.1 hc)) []
  rw [List.length_reverse, hlen] at ha e
  rw [List.reverse_reverse, List.append_nil] at e
  exact ⟨a, e ▸ aidu_aidc_inv a ha, ha, e⟩

/-! #### (i) name → number → name on the domain -/

theorem render_eq (isM : Bool) (t p : Nat) :
    render isM t p = body (if isM then 77 else 71) t p ++ List.replicate 10 0 := by
  rw [render_tail, body_eq_tail]
  rfl

theorem fnToAidu_render (isM : Bool) (t p : Nat) (h : InDomain t p) :
    fnToAidu (render isM t p) = code isM t p := by
  rw [render_tail, fnToAidu_tail _ t p _ h.2.1 h.2.2]
  cases isM <;> rfl

theorem aiduToFN_code (isM : Bool) (t p : Nat) (h : InDomain t p) :
    aiduToFN (code isM t p) = render isM t p := by
  obtain ⟨h1, h2, h3⟩ := h
  have hty : (if isM then 0 else 1) < 16 := by cases isM <;> decide
  show aiduToFN (pack (if isM then 0 else 1) t p) = _
  unfold aiduToFN
  obtain ⟨f1, f2, f3⟩ := pack_fields _ t p hty h2 h3
  rw [f1, f2, f3, intToDec_ofNat t h1 (Nat.lt_trans h2 (by decide))]
  cases isM <;> rfl

theorem code_lt (isM : Bool) (t p : Nat) (h : InDomain t p) : code isM t p < 2 ^ 48 :=
  pack_lt _ t p (by cases isM <;> decide) h.2.1 h.2.2

/-- (i) converting a name of the domain to its number and back yields the same name. -/
theorem fn_roundtrip (isM : Bool) (t p : Nat) (h : InDomain t p) :
    aiduToFN (fnToAidu (render isM t p)) = render isM t p := by
  rw [fnToAidu_render isM t p h, aiduToFN_code isM t p h]

/-! #### (ii) name → number is injective on the domain -/

/-- (ii) distinct names have distinct numbers. -/
theorem toAidu_injective (m m' : Bool) (t p t' p' : Nat) (h : InDomain t p) (h' : InDomain t' p')
    (e : fnToAidu (render m t p) = fnToAidu (render m' t' p')) : m = m' ∧ t = t' ∧ p = p' := by
  rw [fnToAidu_render m t p h, fnToAidu_render m' t' p' h'] at e
  have hb (m : Bool) : (if m then 0 else 1) < 16 := by cases m <;> decide
  change pack _ t p = pack _ t' p' at e
  obtain ⟨a1, a2, a3⟩ := pack_fields _ t p (hb m) h.2.1 h.2.2
  obtain ⟨b1, b2, b3⟩ := pack_fields _ t' p' (hb m') h'.2.1 h'.2.2
  rw [e] at a1 a2 a3
  refine ⟨?_, Int.ofNat.inj (a2.symm.trans b2), a3.symm.trans b3⟩
  have := a1.symm.trans b1
  revert this
  cases m <;> cases m' <;> decide

/-! #### the delete mark, `bbs.ToArticleID` and `ArticleID.ToRaw` -/

theorem idName_render (isM : Bool) (t p : Nat) : idName (render isM t p) = render isM t p := by
  rw [render_tail, idName, isDeleted_dot]
  rfl

/-- the safe-delete mark: the first two bytes of the name become ".d" (cmsys.DeleteRecord). -/
def markDeleted (f : List Nat) : List Nat := [46, 100] ++ f.drop 2

/-- a delete-marked entry is encoded under its original (type M) name, so its id still designates
the index entry with that time and suffix (what the paging cursor relies on). -/
theorem idName_deleted (isM : Bool) (t p : Nat) :
    idName (markDeleted (render isM t p)) = render true t p := by
  have hm (a b : Nat) (l : List Nat) : markDeleted (a :: b :: l) = 46 :: 100 :: l := rfl
  have e : render true t p = 77 :: 46 :: (nameTail t p ++ List.replicate 10 0) := render_tail true t p
  rw [render_tail isM, hm, idName_marked, ← e]
  exact copyInto_eq_self _ _ (copyInto_length _ _)

theorem toArticleID_deleted (isM : Bool) (t p : Nat) :
    toArticleID (markDeleted (render isM t p)) = toArticleID (render true t p) := by
  unfold toArticleID; rw [idName_deleted, idName_render]

/-- the 8-character id shown to clients designates the one article it was produced from. -/
theorem articleId_roundtrip (isM : Bool) (t p : Nat) (h : InDomain t p) :
    articleIDToRaw (toArticleID (render isM t p)) = .ok (render isM t p) := by
  unfold toArticleID articleIDToRaw
  rw [idName_render, fnToAidu_render isM t p h, cstr_aiduToAidc,
    copyInto_eq_self 8 _ (aiduToAidc_length _), aidu_aidc_inv _ (code_lt isM t p h)]
  exact congrArg Except.ok (aiduToFN_code isM t p h)

/-- no alphabet character is NUL, so the C-string reading of the id text cuts nothing off. -/
theorem articleId_length (isM : Bool) (t p : Nat) :
    (toArticleID (render isM t p)).length = 8 := by
  unfold toArticleID
  rw [cstr_aiduToAidc]
  exact aiduToAidc_length _

/-! #### (iv) decoding arbitrary client text never faults -/

theorem aidc_decode_total (cs : List Nat) : ∃ v, aidcToAidu cs = .ok v :=
  aidcToAiduAux_total cs 0

theorem decode_total (a : List Nat) : ∃ f, articleIDToRaw a = .ok f := by
  unfold articleIDToRaw
  obtain ⟨v, hv⟩ := aidc_decode_total (copyInto 8 a)
  exact ⟨aiduToFN v, by rw [hv]; rfl⟩

/-! #### designation: what is shown to a client leads back to the one article it was produced from

`webURL`, `urlLine`, `resolveURL`, `resolveLine`, `listEntry`, `aidcText` are the functions the
`designate` pass of the driver runs against ptt.GetWebURL, the line DoPostArticle stores, the real
decoder and bbs.NewArticleSummaryFromRaw. -/

/-- the 8 characters GetWebURL / the cross-post header print decode (`ArticleID.ToRaw`) to the record's
file name. -/
theorem aidcText_decodes (isM : Bool) (t p : Nat) (h : InDomain t p) :
    articleIDToRaw (aidcText (render isM t p)) = .ok (render isM t p) := by
  have := articleId_roundtrip isM t p h
  unfold toArticleID at this
  rw [idName_render] at this
  exact this

/-- file-name url: `URL_PREFIX/board/name.html` read back gives the board and exactly that record's
file name (no hypothesis on time or suffix is needed for this form). -/
theorem webURL_file_resolves (pfx board : List Nat) (isM : Bool) (t p : Nat) (hb : 47 ∉ cstr board) :
    resolveURL false pfx (webURL false pfx board (render isM t p))
      = .ok (some (cstr board, render isM t p)) := by
  rw [resolveURL_file _ _ _ hb, cstr_render]
  rfl

/-- id url (USE_AID_URL): `URL_PREFIX/board/<aidc>` read back through the real decoder's model gives the
board and exactly that record's file name. -/
theorem webURL_aid_resolves (pfx board : List Nat) (isM : Bool) (t p : Nat) (h : InDomain t p)
    (hb : 47 ∉ cstr board) :
    resolveURL true pfx (webURL true pfx board (render isM t p))
      = .ok (some (cstr board, render isM t p)) :=
  resolveURL_aid _ _ _ _ hb (aidcText_decodes isM t p h)

/-- both url forms. -/
theorem webURL_resolves (useAid : Bool) (pfx board : List Nat) (isM : Bool) (t p : Nat)
    (h : InDomain t p) (hb : 47 ∉ cstr board) :
    resolveURL useAid pfx (webURL useAid pfx board (render isM t p))
      = .ok (some (cstr board, render isM t p)) := by
  cases useAid
  · exact webURL_file_resolves pfx board isM t p hb
  · exact webURL_aid_resolves pfx board isM t p h hb

/-- the line stored in the article (display name, blank, url, newline) leads back to the board and the
file name of the record it was computed from. -/
theorem urlLine_resolves (useAid : Bool) (disp pfx board : List Nat) (isM : Bool) (t p : Nat)
    (h : InDomain t p) (hb : 47 ∉ cstr board) :
    resolveLine useAid disp pfx (urlLine disp (webURL useAid pfx board (render isM t p)))
      = .ok (some (cstr board, render isM t p)) := by
  rw [resolveLine_urlLine]
  exact webURL_resolves useAid pfx board isM t p h hb

/-- two names of the domain are the same name when they render the same. -/
theorem render_injective (m m' : Bool) (t p t' p' : Nat) (h : InDomain t p) (h' : InDomain t' p')
    (e : render m t p = render m' t' p') : m = m' ∧ t = t' ∧ p = p' :=
  toAidu_injective m m' t p t' p' h h' (by rw [e])

/-- two records with different names (or of different boards) never get the same url: a url designates
one board and one file name. -/
theorem webURL_injective (useAid : Bool) (pfx board board' : List Nat) (m m' : Bool) (t p t' p' : Nat)
    (h : InDomain t p) (h' : InDomain t' p') (hb : 47 ∉ cstr board) (hb' : 47 ∉ cstr board')
    (e : webURL useAid pfx board (render m t p) = webURL useAid pfx board' (render m' t' p')) :
    cstr board = cstr board' ∧ m = m' ∧ t = t' ∧ p = p' := by
  have r := webURL_resolves useAid pfx board m t p h hb
  rw [e, webURL_resolves useAid pfx board' m' t' p' h' hb'] at r
  obtain ⟨rb, rn⟩ := Prod.mk.inj (Option.some.inj (Except.ok.inj r))
  exact ⟨rb.symm, render_injective m m' t p t' p' h h' rn.symm⟩

/-- the same for the stored lines. -/
theorem urlLine_injective (useAid : Bool) (disp pfx board board' : List Nat) (m m' : Bool)
    (t p t' p' : Nat) (h : InDomain t p) (h' : InDomain t' p')
    (hb : 47 ∉ cstr board) (hb' : 47 ∉ cstr board')
    (e : urlLine disp (webURL useAid pfx board (render m t p))
       = urlLine disp (webURL useAid pfx board' (render m' t' p'))) :
    cstr board = cstr board' ∧ m = m' ∧ t = t' ∧ p = p' :=
  webURL_injective useAid pfx board board' m m' t p t' p' h h' hb hb'
    (List.append_cancel_left (List.append_cancel_right e))

/-- the id a listing entry (or the answer of CreateArticle) reports decodes to the entry's file name. -/
theorem listEntry_id_decodes (isM : Bool) (t p owner0 : Nat) (h : InDomain t p) :
    articleIDToRaw (listEntry (render isM t p) owner0).id = .ok (render isM t p) :=
  articleId_roundtrip isM t p h

/-- the file name string an entry reports is the record's file name. -/
theorem listEntry_filename (isM : Bool) (t p owner0 : Nat) :
    copyInto FNLEN (listEntry (render isM t p) owner0).filename = render isM t p := by
  show copyInto FNLEN (cstr (render isM t p)) = _
  rw [cstr_render]
  rfl

/-- a delete-marked entry is reported as deleted, and its id decodes to the name the article file still
has in the board directory (`M.` + the rest of the name). -/
theorem listEntry_deleted (isM : Bool) (t p owner0 : Nat) (h : InDomain t p) :
    (listEntry (markDeleted (render isM t p)) owner0).deleted = true ∧
    articleIDToRaw (listEntry (markDeleted (render isM t p)) owner0).id = .ok (render true t p) := by
  refine ⟨rfl, ?_⟩
  show articleIDToRaw (toArticleID (markDeleted (render isM t p))) = _
  rw [toArticleID_deleted]
  exact articleId_roundtrip true t p h

/-- entries with different names report different ids. -/
theorem listEntry_id_injective (m m' : Bool) (t p t' p' o o' : Nat) (h : InDomain t p) (h' : InDomain t' p')
    (e : (listEntry (render m t p) o).id = (listEntry (render m' t' p') o').id) :
    m = m' ∧ t = t' ∧ p = p' := by
  have r := listEntry_id_decodes m t p o h
  rw [e, listEntry_id_decodes m' t' p' o' h'] at r
  injection r with r
  exact render_injective m m' t p t' p' h h' r.symm

/-- the ids of a listing are pairwise distinct when the names in the index are. -/
theorem listing_ids_nodup (es : List (Bool × Nat × Nat)) (hd : ∀ e ∈ es, InDomain e.2.1 e.2.2)
    (hn : es.Nodup) (o : Nat) :
    (es.map (fun e => (listEntry (render e.1 e.2.1 e.2.2) o).id)).Nodup := by
  rw [List.Nodup, List.pairwise_map]
  refine hn.imp_of_mem (fun {a b} ha hb hne e => hne ?_)
  obtain ⟨e1, e2, e3⟩ := listEntry_id_injective a.1 b.1 a.2.1 a.2.2 b.2.1 b.2.2 o o (hd a ha) (hd b hb) e
  exact Prod.ext e1 (Prod.ext e2 e3)

/-! #### lookup: an id addresses the entry whose name it encodes, or nothing

`filenameEq` is `Filename_t.Eq` as the code has it, `confirmWith filenameEq` the last step of
`cmsys.GetRecord`, `resolveId` an entry point that is handed an id; the position the search proposes
(FindRecordStartIdx: exact hit or the nearest entry — C06) is arbitrary here. -/

/-- `Eq` holds between two names of the domain exactly when creation time and suffix agree (the type
letter is not compared). -/
theorem filenameEq_render (m m' : Bool) (t p t' p' : Nat) (h : InDomain t p) (h' : InDomain t' p') :
    filenameEq (render m t p) (render m' t' p') = true ↔ t = t' ∧ p = p' := by
  unfold filenameEq
  rw [cstr_drop2_render, cstr_drop2_render, beq_iff_eq]
  constructor
  · intro e
    have r : render true t p = render true t' p' := by rw [render_tail, render_tail, e]
    exact (render_injective true true t p t' p' h h' r).2
  · rintro ⟨rfl, rfl⟩
    rfl

/-- a delete-marked entry compares like the name it had. -/
theorem filenameEq_deleted (f g : List Nat) : filenameEq f (markDeleted g) = filenameEq f g := by
  simp [filenameEq, markDeleted]

/-- the confirmation returns the proposed position or nothing, and only an entry that `Eq`s the name. -/
theorem confirm_sound (idx : List (List Nat)) (want : List Nat) (pos q : Nat)
    (e : confirmWith filenameEq idx want pos = some q) :
    q = pos ∧ ∃ h, idx[pos]? = some h ∧ filenameEq want h = true := by
  unfold confirmWith at e
  split at e
  · rename_i h hh
    split at e
    next heq => exact ⟨(Option.some.inj e).symm, h, hh, heq⟩
    next => cases e
  · cases e

/-- an index entry: delete-marked or not, type letter, time, suffix. -/
def entryName (e : Bool × Bool × Nat × Nat) : List Nat :=
  if e.1 then markDeleted (render e.2.1 e.2.2.1 e.2.2.2) else render e.2.1 e.2.2.1 e.2.2.2

theorem filenameEq_entry (m : Bool) (t p : Nat) (e : Bool × Bool × Nat × Nat) (h : InDomain t p)
    (he : InDomain e.2.2.1 e.2.2.2) :
    filenameEq (render m t p) (entryName e) = true ↔ t = e.2.2.1 ∧ p = e.2.2.2 := by
  unfold entryName
  split
  · rw [filenameEq_deleted]; exact filenameEq_render m e.2.1 t p e.2.2.1 e.2.2.2 h he
  · exact filenameEq_render m e.2.1 t p e.2.2.1 e.2.2.2 h he

/-- whatever position the search proposes (an exact hit, the nearest older entry, anything): an entry
point handed the id of a name resolves it to an entry with that creation time and suffix — never to a
neighbour. -/
theorem resolveId_designates (es : List (Bool × Bool × Nat × Nat)) (hd : ∀ e ∈ es, InDomain e.2.2.1 e.2.2.2)
    (m : Bool) (t p : Nat) (h : InDomain t p) (propose : List (List Nat) → List Nat → Nat) (pos : Nat)
    (r : resolveId (es.map entryName) (toArticleID (render m t p)) propose = .ok (some pos)) :
    ∃ e, es[pos]? = some e ∧ e.2.2.1 = t ∧ e.2.2.2 = p := by
  simp only [resolveId, articleId_roundtrip m t p h, bind, Except.bind, pure, Except.pure,
    Except.ok.injEq] at r
  obtain ⟨hq, nm, hn, heq⟩ := confirm_sound _ _ _ _ r
  rw [← hq, List.getElem?_map] at hn
  obtain ⟨e, he, rfl⟩ := Option.map_eq_some_iff.1 hn
  have := (filenameEq_entry m t p e h (hd e (List.mem_of_getElem? he))).1 heq
  exact ⟨e, he, this.1.symm, this.2.symm⟩

/-- an id whose name has no entry in the index (article removed, arbitrary client text) resolves to
nothing, wherever the search falls back to. -/
theorem resolveId_absent (es : List (Bool × Bool × Nat × Nat)) (hd : ∀ e ∈ es, InDomain e.2.2.1 e.2.2.2)
    (m : Bool) (t p : Nat) (h : InDomain t p) (propose : List (List Nat) → List Nat → Nat)
    (habs : ∀ e ∈ es, ¬ (e.2.2.1 = t ∧ e.2.2.2 = p)) :
    resolveId (es.map entryName) (toArticleID (render m t p)) propose = .ok none := by
  obtain ⟨o, r⟩ : ∃ o, resolveId (es.map entryName) (toArticleID (render m t p)) propose = .ok o := by
    unfold resolveId
    rw [articleId_roundtrip m t p h]
    exact ⟨_, rfl⟩
  rw [r]
  cases o with
  | none => rfl
  | some pos =>
    obtain ⟨e, he, h1, h2⟩ := resolveId_designates es hd m t p h propose pos r
    exact absurd ⟨h1, h2⟩ (habs e (List.mem_of_getElem? he))

/-- the comparison "suffix only" (the three hex digits, `Filename_t.Postfix`). -/
def suffixEq (f g : List Nat) : Bool := (f.take 18).drop 15 == (g.take 18).drop 15

/-- why the creation time has to be part of `Eq`: with the suffix-only rule the confirmation accepts the
nearest entry for an absent name one second later; with the code's rule it does not. -/
theorem suffix_rule_witness :
    confirmWith suffixEq [render true 1607203395 13] (render true 1607203396 13) 0 = some 0 ∧
    confirmWith filenameEq [render true 1607203395 13] (render true 1607203396 13) 0 = none := by
  decide +kernel

/-! #### non-vacuity: the domain is inhabited and the statements say something on it -/

/-- "WhoAmI" in a 13-byte board-name array. -/
def exBoard : List Nat := [87, 104, 111, 65, 109, 73, 0, 0, 0, 0, 0, 0, 0]
/-- "http://localhost/bbs" -/
def exPrefix : List Nat :=
  [104, 116, 116, 112, 58, 47, 47, 108, 111, 99, 97, 108, 104, 111, 115, 116, 47, 98, 98, 115]

-- the codec: a name of the domain and its number; bytes outside the decode table give the number 0, no fault
example : InDomain 1234567890 0x1AB := by unfold InDomain; omega
example : fnToAidu (render true 1234567890 0x1AB) = 5056790077867 := by decide +kernel
example : aidcToAidu [128, 255, 48, 48, 48, 48, 48, 48] = .ok 0 := by
  simp [aidcToAidu, aidcToAiduAux, table_length]

example : (47 : Nat) ∉ cstr exBoard := by decide
example : InDomain 1234567890 0x1AB ∧ InDomain 1234567890 0x1AC := by unfold InDomain; omega
-- the hypotheses of the designation theorems hold for a concrete record, in both url forms
example : resolveURL true exPrefix (webURL true exPrefix exBoard (render true 1234567890 0x1AB))
    = .ok (some (cstr exBoard, render true 1234567890 0x1AB)) :=
  webURL_resolves true exPrefix exBoard true 1234567890 0x1AB (by unfold InDomain; omega) (by decide)
example : resolveLine false [37] exPrefix (urlLine [37] (webURL false exPrefix exBoard (render true 1234567890 0x1AB)))
    = .ok (some (cstr exBoard, render true 1234567890 0x1AB)) :=
  urlLine_resolves false [37] exPrefix exBoard true 1234567890 0x1AB (by unfold InDomain; omega) (by decide)
-- two records of one board that differ only in the last suffix digit have different urls and ids
example : webURL true exPrefix exBoard (render true 1234567890 0x1AB)
    ≠ webURL true exPrefix exBoard (render true 1234567890 0x1AC) := by
  intro e
  have := webURL_injective true exPrefix exBoard exBoard true true 1234567890 0x1AB 1234567890 0x1AC
    (by unfold InDomain; omega) (by unfold InDomain; omega) (by decide) (by decide) e
  omega
example : (listEntry (render true 1234567890 0x1AB) 83).id ≠ (listEntry (render true 1234567890 0x1AC) 83).id := by
  intro e
  have := listEntry_id_injective true true 1234567890 0x1AB 1234567890 0x1AC 83 83
    (by unfold InDomain; omega) (by unfold InDomain; omega) e
  omega
-- an index as `listing_ids_nodup` takes it (hypothesis `hn`): same time, suffixes and type letters differ
example : ([(true, 1234567890, 0x1AB), (true, 1234567890, 0x1AC), (false, 1234567890, 0x1AB)] :
    List (Bool × Nat × Nat)).Nodup := by decide
-- the file-name url of a concrete record, spelled out
example : webURL false [104] exBoard (render true 1234567890 0x1AB)
    = [104, 47, 87, 104, 111, 65, 109, 73, 47, 77, 46, 49, 50, 51, 52, 53, 54, 55, 56, 57, 48, 46, 65, 46,
       49, 65, 66, 46, 104, 116, 109, 108] := by decide +kernel

-- lookup: the hypotheses `hd`, `habs` of `resolveId_absent` for an index with a present entry, its delete-marked
-- neighbour, and the absent name one second later
example : ∀ e ∈ ([(false, true, 1607203395, 13), (true, true, 1607203395, 14)] : List (Bool × Bool × Nat × Nat)),
    InDomain e.2.2.1 e.2.2.2 ∧ ¬ (e.2.2.1 = 1607203396 ∧ e.2.2.2 = 13) := by
  unfold InDomain
  decide
example : filenameEq (render true 1607203395 13) (render false 1607203395 13) = true :=
  (filenameEq_render true false 1607203395 13 1607203395 13 (by unfold InDomain; omega) (by unfold InDomain; omega)).2 ⟨rfl, rfl⟩

end PttVerif.C13.Props
