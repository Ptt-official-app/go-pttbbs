import PttVerif.Proofs.C03
import PttVerif.Proofs.C03Crypt
/-
C03 — Registration, login and password change follow the account model.
The property theorems (the model and the specification: Model/C03.lean; the notions they are stated in and the lemmas:
Proofs/C03.lean; the instantiation of the hashing interface with the DES model of property C02: Proofs/C03Crypt.lean).

Reading.
* Specification (`specStep`): a table `folded id ↦ Account {id, pw, email}` + the number of free slots + the keys
  that hold a session.  `pw : Option key` is the EFFECTIVE KEY of the current password (first 8 bytes up to a NUL,
  7 bits each — "current password" means equal effective key: that is crypt(3), and inside the property);
  `none` = no password is accepted (GenPasswd stores the all-zero hash for the empty password and for a leading
  NUL).  Result classes: ok / invalidId / reserved / exists / noSlot / badPassword / noSuchUser; `errOf` maps a class
  to the error VALUE the code returns (several classes share ptttype.ErrInvalidUserID).
  A registration judges the id AS SUBMITTED (`WellFormed id`: 2–12 alphanumerics, leading letter); every other
  entry point reads the submitted id as a C string (`cstr id`: what `copy` into `[13]byte` + `UUserID.ToRaw` do), so
  a lookup by "qb\0cd" addresses the account "qb" — recorded (`lookup_reads_c_string`), not judged.
* Implementation model (`step`): .PASSWDS as MAX_USERS records (UserID, PasswdHash, Email, opaque rest), the id
  index as "first slot whose id compares equal with strcasecmp" (property C04), the session table occupancy.
* `R C pws s t`: state `s` represents table `t` — every slot in use holds a valid id that no other slot holds in
  any letter case, its account is `t.acc (folded id)` with that id and e-mail and a hash that verifies exactly the
  passwords (of the universe `pws`) with the account's effective key; nothing else is in `t`; `t.free` counts the
  free slots; `t.sess` are the keys of the uids in the session table.
* Hashing is a parameter `C : Crypto` with the laws `Lawful C` (the three facts C02 proves) and the hypothesis
  `Sep C pws` (C02's unprovable clause (d): hashes of different effective keys do not collide — among the passwords
  `pws` that occur).  `ideal_lawful`/`ideal_sep` and `Proofs/C03Crypt.lean: des_lawful` show the laws are satisfiable.
* Session hypothesis `Room` / `RoomRun`: fewer than USHM_SIZE sessions have been opened since the segment was
  loaded.  Without it the statement is FALSE for the code as it is (known finding, see the last section).
-/
namespace PttVerif.C03.Props
open PttVerif PttVerif.C03

/-! #### what the source says (regenerated data) -/

/-- `UserID_t.IsValid` measures `types.Cstrlen(u[:])`, rejects `theLen < 2 || theLen > 12`, tests the first byte
with `Isalpha` and every byte before `theLen` with `Isalnum`; `Isalpha` is A–Z | a–z, `Isnumber` 0–9; `PasswdQueryPasswd` /
`PasswdUpdatePasswd` address the `PasswdHash` field and `PasswdUpdateEmail` the `Email` field; the three fields lie
inside the record and do not overlap. -/
theorem source_facts :
    Gen.Acct.lenSource = "types.Cstrlen(u[:])" ∧ Gen.Acct.lenGuard = [(0, 2), (2, Gen.Acct.idLen)] ∧
    Gen.Acct.firstCharTest = "Isalpha" ∧ Gen.Acct.loopCharTest = "Isalnum" ∧
    Gen.Acct.alphaRanges = [(65, 90), (97, 122)] ∧ Gen.Acct.numberRanges = [(48, 57)] ∧
    Gen.Acct.queryPasswdField = "PasswdHash" ∧ Gen.Acct.updatePasswdField = "PasswdHash" ∧
    Gen.Acct.updateEmailField = "Email" ∧ Gen.Acct.userIDSize = Gen.Acct.idLen + 1 ∧
    Gen.Acct.userIDOffset + Gen.Acct.userIDSize ≤ Gen.Acct.passwdOffset ∧
    Gen.Acct.passwdOffset + Gen.Acct.passwdSize ≤ Gen.Acct.emailOffset ∧
    Gen.Acct.emailOffset + Gen.Acct.emailSize ≤ Gen.Acct.recSize := by decide +kernel

/-! #### the id validator -/

/-- for ALL byte arrays (in particular all 13-byte ones): `UserID_t.IsValid` = "the C-string reading is 2–12
alphanumerics with a leading letter". -/
theorem validId_spec (u : Bytes) : isValidId u = true ↔ WellFormed (cstr u) := isValidId_iff u

/-- for ALL submitted strings (any length, any bytes) and every reserved list: the three gates of a registration
(the NUL test of `bbs.Register`, `isBadUserID`, `isReservedUserID`, on the 13-byte copy) let through exactly the
ids that are — as submitted — 2–12 alphanumerics with a leading letter and neither "new" nor "guest" in any
letter case nor on the reserved list. -/
theorem register_gate_spec (reserved : List Bytes) (name : Bytes) :
    (name.contains 0 = false ∧ isBadUserID (copyInto IDSZ name) = false ∧
      isReservedUserID reserved (copyInto IDSZ name) = false) ↔ (WellFormed name ∧ ¬ Reserved reserved name) :=
  gate_iff reserved name

/-- the fixed-size copy cannot make an invalid id valid or merge two ids: for every string without a NUL, the copy
is valid only if the string itself is, and then its C-string reading is the string. -/
theorem truncation_is_harmless (name : Bytes) (hz : ∀ c ∈ name, c ≠ 0) (hv : isValidId (copyInto IDSZ name) = true) :
    WellFormed name ∧ cstr (copyInto IDSZ name) = name := by
  have hc : cstr name = name := cstr_of_nonzero name hz
  have hw : WellFormed (cstr name) := (wf_copy_iff name).1 ((isValidId_iff _).1 hv)
  exact ⟨hc ▸ hw, by rw [cstr_copy_of_wf hw, hc]⟩

example : ¬ WellFormed ("abcdefghijklm".toList.map Char.toNat) ∧ ¬ WellFormed ("1abc".toList.map Char.toNat) ∧
    WellFormed ("Ab".toList.map Char.toNat) ∧ WellFormed ("abcdefghijkl".toList.map Char.toNat) ∧
    Reserved [] ("GuEsT".toList.map Char.toNat) ∧ Reserved [[114, 111, 111, 116]] ("Root".toList.map Char.toNat) := by
  decide +kernel

/-- recorded, not judged: the entry points other than `Register` read a submitted id as a C string — "qb\0cd" is
valid after the copy and addresses the account "qb"; `Register` refuses it (it contains a NUL). -/
theorem lookup_reads_c_string :
    isValidId (copyInto IDSZ [113, 98, 0, 99, 100]) = true ∧ foldId (copyInto IDSZ [113, 98, 0, 99, 100]) = [113, 98] ∧
    ¬ WellFormed [113, 98, 0, 99, 100] ∧ ([113, 98, 0, 99, 100] : Bytes).contains 0 = true := by decide

/-! #### the hashing interface is satisfiable -/

theorem ideal_is_lawful : Lawful ideal ∧ ∀ pws, Sep ideal pws := ⟨ideal_lawful, ideal_sep⟩

/-- the DES model of property C02 (cmbbs.GenPasswd / CheckPasswd over crypt.Fcrypt) satisfies the three laws — by
C02's `check_gen`, `checkPasswd_same_key`, `empty_hash_never_verifies` — with C02's effective key, and the model's
`genPasswd` on that instance is C02's model of GenPasswd.  (`Sep des pws` is C02's clause (d): not provable.) -/
theorem des_is_lawful :
    Lawful des ∧ (∀ p, effKey8 p = C02.effKey8 p) ∧ ∀ r p, C02.GenPasswdWith r p = .ok (genPasswd des r p) :=
  ⟨des_lawful, effKey8_eq, genPasswd_des⟩

/-! #### every operation refines the abstract table -/

variable {C : Crypto} {pws : List Bytes} {s : State C} {t : Table}

/-- registration: for ALL submitted ids, passwords (of the universe) and e-mails — the answer is the error value of
the specification's class (invalid / reserved / exists / no slot / ok with the id) and the new state represents the
specification's new table. -/
theorem register_refines (L : Lawful C) (S : Sep C pws) (reserved : List Bytes) (h : R C pws s t) (id pw email : Bytes)
    (salt rest : Nat) (hp : pw ∈ pws) (hroom : Room t (.register id pw email salt rest)) :
    R C pws (register reserved s id pw email salt rest).1 (specStep reserved t (.register id pw email salt rest)).1 ∧
      AnsAgree (.register id pw email salt rest) (register reserved s id pw email salt rest).2
        (specStep reserved t (.register id pw email salt rest)).2 :=
  C03.register_refines L S reserved h id pw email salt rest hp hroom

/-- login: succeeds exactly when the account exists and (it is "guest" or the password has the effective key of the
current one). -/
theorem login_refines (reserved : List Bytes) (h : R C pws s t) (id pw : Bytes) (rest : Nat) (hp : pw ∈ pws)
    (hroom : Room t (.login id pw rest)) :
    R C pws (login s id pw rest).1 (specStep reserved t (.login id pw rest)).1 ∧
      AnsAgree (.login id pw rest) (login s id pw rest).2 (specStep reserved t (.login id pw rest)).2 :=
  C03.login_refines reserved h id pw rest hp hroom

theorem checkPasswd_refines (reserved : List Bytes) (h : R C pws s t) (id pw : Bytes) (hp : pw ∈ pws) :
    R C pws (checkPasswd s id pw).1 (specStep reserved t (.checkPasswd id pw)).1 ∧
      AnsAgree (.checkPasswd id pw) (checkPasswd s id pw).2 (specStep reserved t (.checkPasswd id pw)).2 :=
  C03.checkPasswd_refines reserved h id pw hp

/-- a password change needs the old password (effective key) and replaces it. -/
theorem changePasswd_refines (L : Lawful C) (S : Sep C pws) (reserved : List Bytes) (h : R C pws s t)
    (id old new : Bytes) (salt : Nat) (hp : old ∈ pws) (hn : new ∈ pws) :
    R C pws (changePasswd s id old new salt).1 (specStep reserved t (.changePasswd id old new salt)).1 ∧
      AnsAgree (.changePasswd id old new salt) (changePasswd s id old new salt).2
        (specStep reserved t (.changePasswd id old new salt)).2 :=
  C03.changePasswd_refines L S reserved h id old new salt hp hn

theorem changeEmail_refines (reserved : List Bytes) (h : R C pws s t) (id email : Bytes) :
    R C pws (changeEmail s id email).1 (specStep reserved t (.changeEmail id email)).1 ∧
      AnsAgree (.changeEmail id email) (changeEmail s id email).2 (specStep reserved t (.changeEmail id email)).2 :=
  C03.changeEmail_refines reserved h id email

/-- `CheckExistsUser` and `GetUser` answer from the table (GetUser hands out the stored id and e-mail). -/
theorem lookup_refines (reserved : List Bytes) (h : R C pws s t) (id : Bytes) :
    (R C pws (checkExists s id).1 (specStep reserved t (.exists_ id)).1 ∧
      AnsAgree (.exists_ id) (checkExists s id).2 (specStep reserved t (.exists_ id)).2) ∧
    (R C pws (getUser s id).1 (specStep reserved t (.getUser id)).1 ∧
      AnsAgree (.getUser id) (getUser s id).2 (specStep reserved t (.getUser id)).2) :=
  ⟨exists_refines reserved h id, getUser_refines reserved h id⟩

/-! #### only "guest" is password-less -/

/-- the source tests the STORED id for equality with STR_GUEST (C-string comparison), in LoginQuery and in
InitCurrentUser — not for a prefix, not through a helper. -/
theorem guest_test_source :
    Gen.Acct.loginGuestTest = "types.Cstrcmp(user.UserID[:], []byte(ptttype.STR_GUEST)) == 0" ∧
    Gen.Acct.initGuestTest = "types.Cstrcmp(user.UserID[:], []byte(ptttype.STR_GUEST)) == 0" := ⟨rfl, rfl⟩

/-- ids that merely start or end with "guest" are ordinary ids: well-formed, not reserved (only the id that equals
"guest" in some letter case is), so they can be registered. -/
theorem guest_like_ids_registrable :
    ∀ name ∈ (["guest01", "guestbook", "GuestX", "guests", "myguest", "Aguest", "GUEST9"].map fun (x : String) =>
      x.toList.map Char.toNat), WellFormed name ∧ ¬ Reserved [] name ∧ name ≠ STR_GUEST := by decide +kernel

/-- in ANY represented state, for EVERY account whose id is not exactly "guest" and EVERY password (of the universe)
that does not have the effective key of the current one: the login is refused (ErrInvalidUserID) and the state is
untouched.  With `login_refines` (which lets the stored id "guest" in without a password) this is the clause "login
succeeds exactly with the account's current password (guest needs none)". -/
theorem login_needs_password (reserved : List Bytes) (h : R C pws s t) (id pw : Bytes) (rest : Nat) (hp : pw ∈ pws)
    (hw : WellFormed (cstr id)) (a : Account) (ha : t.acc (foldId id) = some a) (hg : a.id ≠ STR_GUEST)
    (hpw : ¬ pwOk a pw) :
    (specStep reserved t (.login id pw rest)).2 = ⟨.badPassword, [[]]⟩ ∧
      login s id pw rest = (s, ⟨.invalidUserID, [[]]⟩) :=
  C03.login_needs_password reserved h id pw rest hp hw a ha hg hpw

/-- the witness history (ideal hash, empty table): register "guest01" with "p"; a wrong password, the empty password
are refused, the right one accepted; after a change to "q" the OLD password is refused and the new one accepted; a
letter-case variant of the id is the same account. -/
theorem guest01_history :
    (outputs (C := ideal) [] (emptyState ideal)
      [.register [103, 117, 101, 115, 116, 48, 49] [112] [] 0 0, .login [103, 117, 101, 115, 116, 48, 49] [120] 1,
       .login [103, 117, 101, 115, 116, 48, 49] [] 2, .login [103, 117, 101, 115, 116, 48, 49] [112] 3,
       .changePasswd [103, 117, 101, 115, 116, 48, 49] [112] [113] 4, .login [71, 85, 69, 83, 84, 48, 49] [112] 5,
       .login [103, 117, 101, 115, 116, 48, 49] [113] 6]).map (·.err) =
      [.none, .invalidUserID, .invalidUserID, .none, .none, .invalidUserID, .none] := by decide +kernel

/-! #### histories -/

/-- after ANY finite sequence of register / login / check / change-password / change-e-mail / exists / get
operations (ids and e-mails arbitrary byte strings, passwords from the universe `pws`) from a state that
represents a table, under the session hypothesis: the final state represents the table the specification computes,
and every answer along the way is the specification's. -/
theorem history_refines (L : Lawful C) (S : Sep C pws) (reserved : List Bytes) (ops : List Op) (s : State C) (t : Table)
    (h : R C pws s t) (hp : ∀ o ∈ ops, OpPws pws o) (hroom : RoomRun reserved t ops) :
    R C pws (run reserved s ops) (specRun reserved t ops) ∧
      AnsAgreeAll ops (outputs reserved s ops) (specOutputs reserved t ops) :=
  run_refines L S reserved ops s t h hp hroom

/-- a start exists: the all-zero .PASSWDS represents the empty table, for every hash and every universe. -/
theorem empty_represents (C : Crypto) (pws : List Bytes) : R C pws (emptyState C) emptyTable := R_empty C pws

/-! #### frame -/

/-- EVERY operation in EVERY state (no invariant needed): every record except the one of the target uid — the first
free slot for a registration, the slot the index resolves the id to otherwise — is exactly what it was (id, hash,
e-mail and the opaque rest: all 512 bytes). -/
theorem register_frame (reserved : List Bytes) (s : State C) (op : Op) (j : Nat) (h : j + 1 ≠ target s op) :
    (step reserved s op).1.recs[j]? = s.recs[j]? := frame_all reserved s op j h

/-- …and in the target record: a login rewrites only the clock-dependent rest, a password change only the hash, an
e-mail change only the e-mail, a check or a lookup nothing (`Kept`). -/
theorem own_record_fields (reserved : List Bytes) (s : State C) (op : Op) (j : Nat) (r r1 : Rec C)
    (hr : s.recs[j]? = some r) (h1 : (step reserved s op).1.recs[j]? = some r1) : Kept op r r1 :=
  kept_all reserved s op j r r1 hr h1

/-- EVERY operation in EVERY state: an operation that returns an error leaves file and session table untouched —
except file errors (never under the invariant) and a registration answering ErrNewUtmp (the known finding below). -/
theorem refused_is_noop (reserved : List Bytes) (s : State C) (op : Op) (h1 : (step reserved s op).2.err ≠ .none)
    (h2 : (step reserved s op).2.err ≠ .io)
    (h3 : ∀ id pw em sa re, op = .register id pw em sa re → (step reserved s op).2.err ≠ .newUtmp) :
    (step reserved s op).1 = s := refused_noop reserved s op h1 h2 h3

/-! #### concurrent requests

What is PROVED about concurrency is the read-only class: password checks and lookups change nothing, so in EVERY
schedule of such requests (any order, any interleaving of whole requests, also several against one account) each one
gets the answer it gets alone in the state they started from.  The model has no interleaving semantics: a request is
one `step`.  For requests that write (login, password change) the driver runs groups addressing DIFFERENT accounts
one group after the other (`register_frame` / `own_record_fields`: each touches only its own record); that they
commute is not proved as a theorem — it is judged on every run by the `conc` histories (K against the sequential
model, P-hat per account).  The computation of a hash is atomic in the model; an implementation that shares the
result buffer of crypt between goroutines breaks exactly that and is caught there. -/

theorem concurrent_checks_schedule_free (reserved : List Bytes) (s : State C) (ops : List Op) (h : ∀ o ∈ ops, Pure o) :
    run reserved s ops = s ∧ outputs reserved s ops = ops.map (fun o => (step reserved s o).2) :=
  pure_run reserved s ops h

/-! #### known finding: the session table is never vacated

The full statement — `history_refines` WITHOUT the hypothesis `RoomRun` —

    theorem history_refines_full (L : Lawful C) (S : Sep C pws) reserved ops s t (h : R C pws s t)
        (hp : ∀ o ∈ ops, OpPws pws o) :
        R C pws (run reserved s ops) (specRun reserved t ops) ∧
          AnsAgreeAll ops (outputs reserved s ops) (specOutputs reserved t ops)

is false for the code as it is: `history_refines_full_fails` below is its negation with a concrete witness, and
`register_session_full` / `login_session_full` describe the failing class exactly (keys
`register:utmp-full-account-created`, `login:utmp-full` of known_findings.json). -/

/-- in ANY represented state whose session table is full: a registration the specification accepts returns
ErrNewUtmp, yet the account has been written (the id resolves, the file changed). -/
theorem register_session_full (L : Lawful C) (S : Sep C pws) (reserved : List Bytes) (h : R C pws s t)
    (id pw email : Bytes) (salt rest : Nat) (hp : pw ∈ pws) (hw : WellFormed id) (hres : ¬ Reserved reserved id)
    (hnone : t.acc (id.map tolower) = none) (hfree : t.free ≠ 0) (hfull : ¬ t.sess.length < USHM) :
    (specStep reserved t (.register id pw email salt rest)).2 = ⟨.ok, [id]⟩ ∧
    (register reserved s id pw email salt rest).2 = ⟨.newUtmp, [[]]⟩ ∧
    searchUserRaw (register reserved s id pw email salt rest).1 (copyInto IDSZ id) ≠ 0 ∧
    (register reserved s id pw email salt rest).1.recs ≠ s.recs :=
  C03.register_session_full L S reserved h id pw email salt rest hp hw hres hnone hfree hfull

/-- in ANY represented state whose session table is full: the right password of a user without an entry is refused
with ErrNewUtmp (the state stays as it was). -/
theorem login_session_full (reserved : List Bytes) (h : R C pws s t) (id pw : Bytes) (rest : Nat) (hp : pw ∈ pws)
    (hw : WellFormed (cstr id)) (a : Account) (ha : t.acc (foldId id) = some a) (hpw : pwOk a pw)
    (hk : foldId id ∉ t.sess) (hfull : ¬ t.sess.length < USHM) :
    (specStep reserved t (.login id pw rest)).2 = ⟨.ok, [a.id]⟩ ∧ login s id pw rest = (s, ⟨.newUtmp, [[]]⟩) :=
  C03.login_session_full reserved h id pw rest hp hw a ha hpw hk hfull

/-- the witness history: 32 = USHM_SIZE + 1 registrations "s00" … "s31" with password "p" on the empty table (each
registration opens a session; MAX_USERS = 50 leaves room for all of them). -/
def witnessOps : List Op :=
  (List.range 32).map fun i => Op.register [115, 48 + i / 10, 48 + i % 10] [112] [] 0 0

/-- the negation of the full statement, with the witness: from the empty table (which `emptyState` represents), with
the ideal hash (lawful, collision-free), the 32nd registration answers ErrNewUtmp where the specification answers
ok — and the id is registered all the same. -/
theorem history_refines_full_fails :
    Lawful ideal ∧ Sep ideal [[112]] ∧ R ideal [[112]] (emptyState ideal) emptyTable ∧
    (∀ o ∈ witnessOps, OpPws [[112]] o) ∧
    ¬ AnsAgreeAll witnessOps (outputs [] (emptyState ideal) witnessOps) (specOutputs [] emptyTable witnessOps) ∧
    searchUserRaw (run [] (emptyState ideal) witnessOps) (copyInto IDSZ [115, 51, 49]) ≠ 0 := by
  refine ⟨ideal_lawful, ideal_sep _, R_empty _ _, ?_, ?_⟩
  · intro o ho
    unfold witnessOps at ho
    rw [List.mem_map] at ho
    obtain ⟨i, _, rfl⟩ := ho
    simp [OpPws]
  · -- one evaluation for both facts: `outputs` and `run` pass through the same 32 states
    have himp : (outputs [] (emptyState ideal) witnessOps)[31]? = some ⟨.newUtmp, [[]]⟩ ∧
        searchUserRaw (run [] (emptyState ideal) witnessOps) (copyInto IDSZ [115, 51, 49]) ≠ 0 := by decide +kernel
    have hop : witnessOps[31]? = some (Op.register [115, 51, 49] [112] [] 0 0) := by decide +kernel
    refine ⟨fun hall => ?_, himp.2⟩
    -- whatever the specification answers there: no result class of a registration stands for ErrNewUtmp
    obtain ⟨b, -, hb⟩ := agreeAll_get hall hop himp.1
    exact errOf_register_ne_newUtmp _ _ _ _ _ b.res hb.1.symm

/-! #### non-vacuity: a three-account table reached through the theorems -/

instance (pws : List Bytes) (o : Op) : Decidable (OpPws pws o) := by
  cases o <;> unfold OpPws <;> exact inferInstance

instance (t : Table) (o : Op) : Decidable (Room t o) := by
  cases o <;> unfold Room <;> exact inferInstance

def decRoomRun (reserved : List Bytes) : (t : Table) → (ops : List Op) → Decidable (RoomRun reserved t ops)
  | _, [] => isTrue trivial
  | t, o :: os =>
    have := decRoomRun reserved (specStep reserved t o).1 os
    by unfold RoomRun; exact inferInstance

instance (reserved : List Bytes) (t : Table) (ops : List Op) : Decidable (RoomRun reserved t ops) :=
  decRoomRun reserved t ops

/-- the hypotheses of `history_refines` hold for a concrete history (ideal hash): three registrations (one refused as
a letter-case duplicate), a login with a password that shares the effective key, a password change, a lookup. -/
example :
    let pws : List Bytes := [[112, 119, 49], [112, 247, 49], [112, 119, 50]]
    let ops : List Op := [.register [65, 98] [112, 119, 49] [97] 1 1, .register [97, 66] [112, 119, 50] [] 2 2,
      .register [113, 98] [112, 119, 50] [] 3 3, .register [122, 49] [112, 119, 49] [] 4 4,
      .login [65, 66] [112, 247, 49] 5, .changePasswd [97, 98] [112, 119, 49] [112, 119, 50] 6, .getUser [113, 98]]
    (∀ o ∈ ops, OpPws pws o) ∧ RoomRun [] emptyTable ops ∧
      (specOutputs [] emptyTable ops).map (·.res) = [.ok, .exists_, .ok, .ok, .ok, .ok, .ok] := by
  refine ⟨by decide, ?_, by decide +kernel⟩
  decide +kernel

end PttVerif.C03.Props
