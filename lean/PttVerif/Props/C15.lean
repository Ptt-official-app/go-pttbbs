import PttVerif.Proofs.C15
/-
C15 — Concurrent registrations cannot duplicate a user id or share a slot.

Theorems quantify over ALL states reachable by ANY interleaving of the atomic steps of ANY number of
registration threads, any initial duplicate-free table, any capacity and any slot search `pick` that
returns empty slots — under the one fact about the source that the existence lookup is repeated under
the passwd lock, which is read from ptt.SetupNewUser by the translator (`source_checks_under_lock`).

That is the system `Reachable` (`ReachableP` has the same states). For the system with the clean-up in front of the
lock (`ReachableX`) the invariant is NOT proved: the tear-down zeroes the record of an account whose id stays in the
index, so index and .PASSWDS differ at that slot. It has the facts read from the source and one witness history.
-/
namespace PttVerif.C15.Props
open PttVerif.C15

/-- the source (regenerated on every run) repeats the existence lookup under the passwd lock. -/
theorem source_checks_under_lock : sourceChecksUnderLock = true := by decide +kernel

/-- the source has the unlocked lookup, the slot search, both writes and the unlock. -/
theorem source_calls_wellformed : wellFormedCalls Gen.Reg.setupNewUserCalls = true := by decide +kernel

/-- no request is in flight. -/
def quiescent (s : Sys) : Prop := ∀ t, s.pc t = .start ∨ ∃ r, s.pc t = .done r

section
variable (P : Params) (tbl0 : Nat → Option Nat) (pk : PickOK P) (hcul : P.checkUnderLock = true)
  (h0 : ∀ i j a, tbl0 i = some a → tbl0 j = some a → i = j) (hb : ∀ k, P.cap ≤ k → tbl0 k = none)
include pk hcul h0 hb

theorem invariant (s : Sys) (h : Reachable P tbl0 s) : Inv P tbl0 s :=
  reachable_inv P tbl0 pk hcul h0 hb s h

/-- the shared index never holds one (case-folded) id in two slots. -/
theorem table_never_duplicates (s : Sys) (h : Reachable P tbl0 s) (i j a : Nat)
    (hi : s.table i = some a) (hj : s.table j = some a) : i = j :=
  (reachable_inv P tbl0 pk hcul h0 hb s h).nodup i j a hi hj

/-- two different successful requests never receive the same slot. -/
theorem slots_distinct (s : Sys) (h : Reachable P tbl0 s) (t u k : Nat)
    (ht : s.pc t = .done (.ok k)) (hu : s.pc u = .done (.ok k)) : t = u := by
  have inv := reachable_inv P tbl0 pk hcul h0 hb s h
  have a := (inv.ok_of_done ht).2.2
  rw [(inv.ok_of_done hu).2.2] at a
  exact (Option.some.inj a).symm

/-- at most one request for the same id reports success. -/
theorem at_most_one_success_per_id (s : Sys) (h : Reachable P tbl0 s) (t u k l : Nat)
    (ht : s.pc t = .done (.ok k)) (hu : s.pc u = .done (.ok l)) (hid : P.idOf t = P.idOf u) : t = u := by
  have inv := reachable_inv P tbl0 pk hcul h0 hb s h
  -- both slots hold the one id, so they are one slot
  have hkl : k = l := inv.nodup k l _ (inv.ok_of_done ht).1 (hid ▸ (inv.ok_of_done hu).1)
  subst hkl
  exact slots_distinct P tbl0 pk hcul h0 hb s h t u k ht hu

/-- a success is recorded in the index and in .PASSWDS at its slot, which was free before and is below the capacity. -/
theorem success_recorded (s : Sys) (h : Reachable P tbl0 s) (t k : Nat) (ht : s.pc t = .done (.ok k)) :
    s.table k = some (P.idOf t) ∧ s.disk k = some (P.idOf t) ∧ tbl0 k = none ∧ k < P.cap := by
  have inv := reachable_inv P tbl0 pk hcul h0 hb s h
  obtain ⟨a1, a2, a3⟩ := inv.ok_of_done ht
  exact ⟨a1, a2, (inv.who_spec k t a3).1, inv.lt_cap a1⟩

/-- accounts present before are never touched. -/
theorem old_accounts_kept (s : Sys) (h : Reachable P tbl0 s) (k a : Nat) (hk : tbl0 k = some a) :
    s.table k = some a ∧ s.disk k = some a :=
  (reachable_inv P tbl0 pk hcul h0 hb s h).old_kept k a hk

/-- a request refused with "already exists" is right: the id is in the table. -/
theorem exists_refusal_sound (s : Sys) (h : Reachable P tbl0 s) (t : Nat) (ht : s.pc t = .done .exists_) :
    ∃ k, k < P.cap ∧ s.table k = some (P.idOf t) :=
  (hasId_iff _ _ _).1 ((reachable_inv P tbl0 pk hcul h0 hb s h).exists_sound t (by rw [ht]; rfl))

/-- afterwards the id index and .PASSWDS agree with each other and with exactly the set of requests
that reported success. -/
theorem final_agreement (s : Sys) (h : Reachable P tbl0 s) (q : quiescent s) :
    (∀ k, s.disk k = s.table k) ∧
    (∀ k a, tbl0 k = none → (s.table k = some a ↔ ∃ t, s.pc t = .done (.ok k) ∧ P.idOf t = a)) := by
  have inv := reachable_inv P tbl0 pk hcul h0 hb s h
  constructor
  · intro k
    apply Decidable.byContradiction
    intro hne
    obtain ⟨w, hw⟩ := inv.disk_agree k hne
    rw [done_ok_of_rest (q w) (Or.inl hw)] at hw
    exact nomatch hw
  · intro k a hk
    constructor
    · intro hta
      cases hw : s.who k with
      | none => exact absurd hw (inv.fresh_owned k hk (by rw [hta]; nofun))
      | some w =>
        obtain ⟨_, h2, h3⟩ := inv.who_spec k w hw
        rw [h2] at hta
        exact ⟨w, done_ok_of_rest (q w) h3, Option.some.inj hta⟩
    · rintro ⟨t, ht, rfl⟩
      exact (inv.ok_of_done ht).1

/-- the semaphore excludes: at most one registration is inside the locked section. -/
theorem mutual_exclusion (s : Sys) (h : Reachable P tbl0 s) (t u : Nat)
    (ht : inLock (s.pc t) = true) (hu : inLock (s.pc u) = true) : t = u :=
  inLock_unique (reachable_inv P tbl0 pk hcul h0 hb s h) t u ht hu

end

/-! ### the lookup under the lock is necessary: without it the property fails

Two registrations of the same id, a capacity of two, an empty table; the schedule
`check₀ check₁ (lock … unlock)₀ (lock … unlock)₁` makes both succeed, in different slots. -/

def unlockedParams : Params :=
  { cap := 2, idOf := fun _ => 7, pick := pickLowest 2, checkUnderLock := false }

def runSteps (P : Params) : List Nat → Sys → Option Sys
  | [], s => some s
  | t :: ts, s => (step P s t).bind (runSteps P ts)

theorem runSteps_reachable (P : Params) (tbl0 : Nat → Option Nat) : ∀ (ts : List Nat) (s s' : Sys),
    Reachable P tbl0 s → runSteps P ts s = some s' → Reachable P tbl0 s' := by
  intro ts
  induction ts with
  | nil => intro s s' r e; exact Option.some.inj e ▸ r
  | cons t ts ih =>
    intro s s' r e
    obtain ⟨s1, hs, e1⟩ := Option.bind_eq_some_iff.1 e
    exact ih s1 s' (.step t r hs) e1

def witnessSchedule : List Nat := [0, 1, 0, 0, 0, 0, 0, 0, 1, 1, 1, 1, 1, 1]

theorem duplicate_possible_unlocked :
    ∃ s, Reachable unlockedParams (fun _ => none) s ∧
      s.pc 0 = .done (.ok 0) ∧ s.pc 1 = .done (.ok 1) ∧
      unlockedParams.idOf 0 = unlockedParams.idOf 1 ∧ s.table 0 = some 7 ∧ s.table 1 = some 7 :=
  exists_of_any_decide (fun s => runSteps_reachable _ _ witnessSchedule _ s .init) (by decide +kernel)

/-! ### tie to the schedule-level semantics the harness validates against the real code -/

theorem runWhile_reachable (P : Params) (tbl0 : Nat → Option Nat) (t : Nat) : ∀ (fuel : Nat) (s : Sys),
    Reachable P tbl0 s → Reachable P tbl0 (runWhile P t fuel s) := by
  intro fuel s h
  fun_induction runWhile P t fuel s
  · exact h
  · exact h
  · exact h
  · rename_i ih
    exact ih (.step t h ‹_›)
  · exact h

theorem wake_reachable (P : Params) (tbl0 : Nat → Option Nat) (n : Nat) (sc : Sched)
    (h : Reachable P tbl0 sc.sys) : Reachable P tbl0 (wake P n sc).sys := by
  fun_cases wake P n sc
  · exact h
  · exact h
  · exact .step _ h ‹_›
  · exact h

theorem release_reachable (P : Params) (tbl0 : Nat → Option Nat) (n : Nat) (sc : Sched) (t : Nat)
    (h : Reachable P tbl0 sc.sys) : Reachable P tbl0 (release P n sc t).sys := by
  fun_cases release P n sc t
  · exact h
  · exact .step t h ‹_›
  · exact h
  · exact h
  · exact .step t h ‹_›
  · exact h
  · exact runWhile_reachable P tbl0 t 6 _ h
  · exact wake_reachable P tbl0 n _ (.step t h ‹_›)
  · exact h
  · exact h

theorem schedule_reachable (P : Params) (tbl0 : Nat → Option Nat) (n : Nat) (sched : List Nat) (sc : Sched)
    (h : Reachable P tbl0 sc.sys) : Reachable P tbl0 (sched.foldl (release P n) sc).sys := by
  induction sched generalizing sc with
  | nil => exact h
  | cons t ts ih => exact ih _ (release_reachable P tbl0 n sc t h)

/-! ### server processes: threads in (process, goroutine) pairs, processes starting up -/

/-- the step of a thread does not depend on which server process it (or any other thread) lives in. -/
theorem stepP_ignores_proc (proc proc' : Nat → Nat) (P : Params) (s : Sys) (t : Nat) :
    stepP proc P s t = stepP proc' P s t := rfl

/-- a starting server process (PasswdInit on an existing semaphore) changes nothing: not the holder,
not the index, not .PASSWDS, no thread's position. -/
theorem init_is_noop (s : Sys) (q : Nat) : procInit s q = s := rfl

/-- whatever the assignment of threads to processes and whenever processes start, the reachable
states are exactly those of the process-free transition system. -/
theorem reachableP_iff (proc : Nat → Nat) (P : Params) (tbl0 : Nat → Option Nat) (s : Sys) :
    ReachableP proc P tbl0 s ↔ Reachable P tbl0 s := by
  constructor
  · intro h
    induction h with
    | init => exact .init
    | step t _ hs ih => exact .step t ih hs
    | procInit q _ ih => exact ih
  · intro h
    induction h with
    | init => exact .init
    | step t _ hs ih => exact .step t ih hs

/-- the reachable states do not depend on the assignment. -/
theorem reachableP_proc_irrelevant (proc proc' : Nat → Nat) (P : Params) (tbl0 : Nat → Option Nat) (s : Sys) :
    ReachableP proc P tbl0 s ↔ ReachableP proc' P tbl0 s :=
  (reachableP_iff proc P tbl0 s).trans (reachableP_iff proc' P tbl0 s).symm

section
variable (proc : Nat → Nat) (P : Params) (tbl0 : Nat → Option Nat) (pk : PickOK P) (hcul : P.checkUnderLock = true)
  (h0 : ∀ i j a, tbl0 i = some a → tbl0 j = some a → i = j) (hb : ∀ k, P.cap ≤ k → tbl0 k = none)
include pk hcul h0 hb

/-- the semaphore excludes across processes: at most one registration of any process is inside the locked
section, also while other servers start up. -/
theorem mutual_exclusion_any_proc (s : Sys) (h : ReachableP proc P tbl0 s) (t u : Nat)
    (ht : inLock (s.pc t) = true) (hu : inLock (s.pc u) = true) : t = u :=
  mutual_exclusion P tbl0 pk hcul h0 hb s ((reachableP_iff proc P tbl0 s).1 h) t u ht hu

/-- at most one request for the same id succeeds, wherever the requests are served. -/
theorem at_most_one_success_any_proc (s : Sys) (h : ReachableP proc P tbl0 s) (t u k l : Nat)
    (ht : s.pc t = .done (.ok k)) (hu : s.pc u = .done (.ok l)) (hid : P.idOf t = P.idOf u) : t = u :=
  at_most_one_success_per_id P tbl0 pk hcul h0 hb s ((reachableP_iff proc P tbl0 s).1 h) t u k l ht hu hid

/-- two successful requests never share a slot, wherever they are served. -/
theorem slots_distinct_any_proc (s : Sys) (h : ReachableP proc P tbl0 s) (t u k : Nat)
    (ht : s.pc t = .done (.ok k)) (hu : s.pc u = .done (.ok k)) : t = u :=
  slots_distinct P tbl0 pk hcul h0 hb s ((reachableP_iff proc P tbl0 s).1 h) t u k ht hu

/-- afterwards index and .PASSWDS agree with exactly the successful requests, wherever they were served. -/
theorem final_agreement_any_proc (s : Sys) (h : ReachableP proc P tbl0 s) (q : quiescent s) :
    (∀ k, s.disk k = s.table k) ∧
    (∀ k a, tbl0 k = none → (s.table k = some a ↔ ∃ t, s.pc t = .done (.ok k) ∧ P.idOf t = a)) :=
  final_agreement P tbl0 pk hcul h0 hb s ((reachableP_iff proc P tbl0 s).1 h) q

end

/-- a waiter cannot proceed while somebody holds the semaphore, in whatever process either lives: its step is disabled. -/
theorem waiter_stays_blocked (proc : Nat → Nat) (P : Params) (s : Sys) (u w : Nat)
    (hu : s.pc u = .checked) (hs : s.sem = some w) : stepP proc P s u = none :=
  step_checked_held hu hs

/-! the schedule elements of the `regp` ops only take atomic steps (of some thread, of a starting process) -/

theorem releaseP_reachable (proc : Nat → Nat) (P : Params) (tbl0 : Nat → Option Nat) (n : Nat) (sc : Sched) (t : Nat)
    (h : ReachableP proc P tbl0 sc.sys) : ReachableP proc P tbl0 (releaseP P n sc t).sys := by
  rw [reachableP_iff] at h ⊢
  fun_cases releaseP P n sc t
  · exact h
  · exact .step t h ‹_›
  · exact h
  · exact .step t h ‹_›
  · exact h
  · exact runWhile_reachable P tbl0 t 6 _ h
  · exact wake_reachable P tbl0 n _ (.step t h ‹_›)
  · exact .step t h ‹_›
  · exact h
  · exact h

theorem wakeTid_reachable (proc : Nat → Nat) (P : Params) (tbl0 : Nat → Option Nat) (sc : Sched) (u : Nat)
    (h : ReachableP proc P tbl0 sc.sys) : ReachableP proc P tbl0 (wakeTid P sc u).sys := by
  fun_cases wakeTid P sc u
  · exact .step u h ‹_›
  · exact h
  · exact h

theorem startProc_reachable (proc : Nat → Nat) (P : Params) (tbl0 : Nat → Option Nat) (sc : Sched) (q : Nat)
    (h : ReachableP proc P tbl0 sc.sys) : ReachableP proc P tbl0 (startProc sc q).sys :=
  .procInit q h

theorem applyEv_reachable (proc : Nat → Nat) (P : Params) (tbl0 : Nat → Option Nat) (n : Nat) (sc : Sched) (e : Nat)
    (h : ReachableP proc P tbl0 sc.sys) : ReachableP proc P tbl0 (applyEv P n sc e).sys := by
  unfold applyEv
  split
  · exact releaseP_reachable proc P tbl0 n sc _ h
  · exact wakeTid_reachable proc P tbl0 sc _ h
  · exact startProc_reachable proc P tbl0 sc _ h

theorem scheduleP_reachable (proc : Nat → Nat) (P : Params) (tbl0 : Nat → Option Nat) (n : Nat) (sched : List Nat)
    (sc : Sched) (h : ReachableP proc P tbl0 sc.sys) :
    ReachableP proc P tbl0 (sched.foldl (applyEv P n) sc).sys := by
  induction sched generalizing sc with
  | nil => exact h
  | cons e es ih => exact ih _ (applyEv_reachable proc P tbl0 n sc e h)

/-- when the posted semaphore goes to waiter `u`, every other waiter stays where it was: blocked, at `checked`. -/
theorem wakeTid_others_stay (P : Params) (sc : Sched) (u v : Nat) (hv : v ≠ u) :
    (wakeTid P sc u).blocked v = sc.blocked v := by
  fun_cases wakeTid P sc u
  · exact if_neg hv
  · rfl
  · rfl

/-- a second `wake` right after a successful one does nothing: the semaphore has exactly one taker. -/
theorem wake_exactly_one (P : Params) (sc : Sched) (u v : Nat) (hv : v ≠ u)
    (hu : sc.blocked u = true) (hcu : sc.sys.pc u = .checked) (hcv : sc.sys.pc v = .checked)
    (hfree : sc.sys.sem = none) :
    wakeTid P (wakeTid P sc u) v = wakeTid P sc u ∧ (wakeTid P sc u).sys.sem = some u := by
  have e1 : wakeTid P sc u =
      { sys := { sc.sys with pc := setPc sc.sys u .locked, sem := some u },
        blocked := fun w => if w = u then false else sc.blocked w } := by
    unfold wakeTid
    rw [if_pos hu, step_checked_free hcu hfree]
  rw [e1]
  refine ⟨?_, rfl⟩
  -- `v` is still at `checked` and now finds the semaphore taken: its step is disabled
  unfold wakeTid
  rw [step_checked_held (w := u) ((setPc_other hv).trans hcv) rfl]
  exact ite_self _

/-- whatever schedule of releases, wake-ups and process starts the harness drives, in whatever processes the
threads live: the state it leaves satisfies mutual exclusion. -/
theorem scheduleP_mutual_exclusion (proc : Nat → Nat) (P : Params) (tbl0 : Nat → Option Nat) (pk : PickOK P)
    (hcul : P.checkUnderLock = true)
    (h0 : ∀ i j a, tbl0 i = some a → tbl0 j = some a → i = j) (hb : ∀ k, P.cap ≤ k → tbl0 k = none)
    (n : Nat) (sched : List Nat) (t u : Nat) :
    let s := (sched.foldl (applyEv P n) { sys := init tbl0, blocked := fun _ => false }).sys
    inLock (s.pc t) = true → inLock (s.pc u) = true → t = u := by
  intro s ht hu
  exact mutual_exclusion_any_proc proc P tbl0 pk hcul h0 hb s
    (scheduleP_reachable proc P tbl0 n sched _ .init) t u ht hu

/-! ### the clean-up before the lock -/

/-- the clean-up SetupNewUser runs before PasswdLock (tryCleanUser and what it calls) does not write the
id index: no slot joins the free chain outside the lock (regenerated from the source on every run). -/
theorem source_clean_leaves_index : sourceCleanWritesIndex = false := by decide +kernel

/-- the extraction is not vacuous: the clean-up reaches killUser and the zero-record write, takes no lock
itself, and SetupNewUser calls it before PasswdLock. -/
theorem source_clean_wellformed :
    wellFormedClean Gen.Reg.cleanUserCalls = true ∧ cleanBeforeLockOf Gen.Reg.setupNewUserCalls = true := by decide +kernel

/-- in the source's order the tear-down never changes the index … -/
theorem clean_source_order_keeps_index (s : Sys) (v : Nat) :
    (cleanBegin false s v).table = s.table ∧ (cleanEnd s v).table = s.table := ⟨rfl, rfl⟩

/-- … so the slot of the expired account is never handed to a registration: the slot search returns
empty slots only, and the slot still holds the old id. -/
theorem expired_slot_not_picked (P : Params) (pk : PickOK P) (s : Sys) (v : Nat) (h : s.table v ≠ none) :
    P.pick (cleanEnd (cleanBegin false s v) v).table ≠ some v := by
  intro e
  exact h (pk.sound _ _ e).2

def runXSteps (P : Params) (unindex : Bool) (v : Nat) : List (XAct × Nat) → XSys → Option XSys
  | [], x => some x
  | (a, t) :: r, x => (xstep P unindex v x a t).bind (runXSteps P unindex v r)

theorem runXSteps_reachable (P : Params) (unindex : Bool) (v : Nat) (tbl0 : Nat → Option Nat) :
    ∀ (l : List (XAct × Nat)) (x x' : XSys),
    ReachableX P unindex v tbl0 x → runXSteps P unindex v l x = some x' → ReachableX P unindex v tbl0 x' := by
  intro l
  induction l with
  | nil => intro x x' r e; exact Option.some.inj e ▸ r
  | cons at_ r ih =>
    intro x x' hx e
    obtain ⟨x1, hs, e1⟩ := Option.bind_eq_some_iff.1 e
    exact ih x1 x' (.step at_.1 at_.2 hx hs) e1

/-- a full table of two accounts, slot 1 expirable; thread 0 (the cleaner) and thread 1 register different ids. -/
def cleanParams : Params :=
  { cap := 2, idOf := fun t => 7 + t, pick := pickLowest 2, checkUnderLock := true }
def cleanTable : Nat → Option Nat := fun k => if k < 2 then some (10 + k) else none

/-- cleaner: check, enter the tear-down; racer: check, lock, re-check, pick, setUserID, write, unlock; cleaner: zero record. -/
def cleanWitness : List (XAct × Nat) :=
  [(.reg, 0), (.enter, 0), (.reg, 1), (.reg, 1), (.reg, 1), (.reg, 1), (.reg, 1), (.reg, 1), (.reg, 1), (.leave, 0)]

/-- the broken order — the id leaves the index FIRST, the record is zeroed after the home-directory work —
loses a success: a registration that ran in between reported success for slot 1, the index holds its id
there, .PASSWDS holds nothing: the last clause of the property fails. -/
theorem unindex_first_loses_success :
    ∃ x, ReachableX cleanParams true 1 cleanTable x ∧
      x.sys.pc 1 = .done (.ok 1) ∧ x.sys.table 1 = some 8 ∧ x.sys.disk 1 = none :=
  exists_of_any_decide (fun x => runXSteps_reachable _ _ _ _ cleanWitness _ x .init) (by decide +kernel)

/-- the same schedule in the source's order: the racer finds no empty slot and is refused; nothing is lost. -/
example : ∃ x, ReachableX cleanParams false 1 cleanTable x ∧ x.sys.pc 1 = .done .noSlot ∧
    x.sys.table 1 = some 11 ∧ x.sys.disk 1 = none :=
  exists_of_any_decide
    (fun x => runXSteps_reachable _ _ _ _
      [(.reg, 0), (.enter, 0), (.reg, 1), (.reg, 1), (.reg, 1), (.reg, 1), (.reg, 1), (.leave, 0)] _ x .init)
    (by decide +kernel)

/-! ### the request entry -/

/-- the record ptt.NewRegister hands to SetupNewUser is built for that request alone (regenerated on every
run): no other request can change the id a registration works on. -/
theorem source_request_record_is_local : sourceRequestRecordLocal = true := by decide +kernel

/-- what that buys in the model: the id a registration works on is the constant `P.idOf t` of its own
request, so the id a successful registration leaves in its slot — index and record — is its request's. -/
theorem success_carries_own_id (P : Params) (tbl0 : Nat → Option Nat) (pk : PickOK P) (hcul : P.checkUnderLock = true)
    (h0 : ∀ i j a, tbl0 i = some a → tbl0 j = some a → i = j) (hb : ∀ k, P.cap ≤ k → tbl0 k = none)
    (s : Sys) (h : Reachable P tbl0 s) (t k : Nat) (ht : s.pc t = .done (.ok k)) :
    s.table k = some (P.idOf t) ∧ s.disk k = some (P.idOf t) :=
  let r := success_recorded P tbl0 pk hcul h0 hb s h t k ht
  ⟨r.1, r.2.1⟩

/-- the slot search the driver uses satisfies the assumption made on `pick`. -/
theorem pickLowest_ok (cap : Nat) (idOf : Nat → Nat) (b : Bool) :
    PickOK { cap := cap, idOf := idOf, pick := pickLowest cap, checkUnderLock := b } where
  sound := by
    intro tbl k h
    simp only [pickLowest] at h
    have h1 := List.find?_some h
    have h2 := List.mem_of_find?_eq_some h
    exact ⟨by simpa using h2, by simpa using h1⟩

/-! non-vacuity: with the lookup under the lock the witness schedule ends with one success and one
refusal — the hypotheses of the theorems are met by a reachable, non-trivial state. -/
example : ∃ s, Reachable { unlockedParams with checkUnderLock := true } (fun _ => none) s ∧
    s.pc 0 = .done (.ok 0) ∧ s.pc 1 = .done .exists_ :=
  exists_of_any_decide (fun s => runSteps_reachable _ _ [0, 1, 0, 0, 0, 0, 0, 0, 1, 1, 1] _ s .init)
    (by decide +kernel)

end PttVerif.C15.Props
