import PttVerif.Proofs.C09
/-
C09 — A published article is stored once, completely, and is immediately retrievable.
The property theorems; helper lemmas and the pure readings `pTitle`, `pBody`, `pContent`, `pRecord`, `nextSt` live in
Proofs/C09.lean.  Every statement is for all byte contents; "accepted" means the request passed the permission
checks of DoPostArticle (property C08), which the model takes as given.
-/
namespace PttVerif.C09.Props
open PttVerif PttVerif.C09

/-! #### the title: announcement tag -/

/-- tnSafeStrip never faults, whatever the title's length (0..5 bytes included) and the author's role. -/
theorem tnSafeStrip_total (c : Cfg) (role : Bool) (title : Bytes) : ∃ t, tnSafeStrip c role title = .ok t :=
  ⟨_, tnSafeStrip_eq c role title⟩

/-- before 2df0902 (`title[:len(TN)]`) a non-privileged author's one-byte title panicked ... -/
theorem before_fix_panics : tnSafeStripOld {} false [88] = .error .panic := by rfl

/-- ... and so did exactly every title shorter than the tag (capacity = length). -/
theorem before_fix_panics_iff (c : Cfg) (hA : c.allowFreeTn = false) (title : Bytes) :
    tnSafeStripOld c false title = .error .panic ↔ title.length < TN.length := by
  unfold tnSafeStripOld tnSafeStripWith isTnAllowedWith isTnAnnounceOld
  simp only [hA, Bool.false_eq_true, if_false]
  by_cases h : TN.length ≤ title.length
  · have : ¬ title.length < TN.length := by omega
    simp only [slice, Nat.zero_le, h, and_self, if_true, bind, Except.bind, pure, Except.pure, this, iff_false]
    split <;> simp
  · have : title.length < TN.length := by omega
    simp [slice, h, this, bind, Except.bind]

/-- what tnSafeStrip returns: a leading announcement tag is cut off for an author who may not use it
(`role = false`); every other title is returned unchanged. -/
theorem tnSafeStrip_spec (c : Cfg) (role : Bool) (title : Bytes) :
    (∀ r, role = false → c.allowFreeTn = false → title = TN ++ r → tnSafeStrip c role title = .ok r) ∧
    (role = true ∨ c.allowFreeTn = true → tnSafeStrip c role title = .ok title) ∧
    ((¬ ∃ r, title = TN ++ r) → tnSafeStrip c role title = .ok title) := by
  simp only [tnSafeStrip_eq, tnKeeps]
  refine ⟨?_, ?_, ?_⟩
  · intro r hr hA he
    subst he
    simp [hr, hA, (hasPrefix_iff _ TN).mpr ⟨r, rfl⟩]
  · intro h
    rcases h with h | h <;> simp [h]
  · intro hn
    simp [Bool.eq_false_iff.mpr (mt (hasPrefix_iff _ _).mp hn)]

example : tnSafeStrip {} false (TN ++ [104, 105]) = .ok [104, 105] := by rfl
example : tnSafeStrip {} true (TN ++ [104, 105]) = .ok (TN ++ [104, 105]) := by rfl
example : tnSafeStrip {} false [91, 164] = .ok [91, 164] := by rfl
example : tnSafeStrip { allowFreeTn := true } false (TN ++ [104, 105]) = .ok (TN ++ [104, 105]) := by rfl

/-- The predicate and the cut agree on WHERE the tag is: the published title is either the submitted full title,
or the submitted full title minus exactly the announcement tag at its very start — never anything else
(in particular nothing is cut from a title that has blanks or other bytes in front of the tag). -/
theorem title_submitted_or_minus_leading_tag (q : Req) :
    pTitle q = fullTitle q.cls q.title ∨ fullTitle q.cls q.title = TN ++ pTitle q := by
  unfold pTitle
  simp only
  cases hk : tnKeeps q.cfg q.role (fullTitle q.cls q.title)
  · right
    obtain ⟨r, hr⟩ := (hasPrefix_iff _ _).mp (hasPrefix_of_tnKeeps_false hk)
    simp [hr]
  · left; rfl

/-- a blank in front of the tag: nothing is cut ... -/
example : postTitle {} false [] ([32] ++ TN ++ [32, 120]) = .ok ([32] ++ TN ++ [32, 120]) := by rfl
/-- ... whereas "look behind leading blanks, cut from the start" leaves the tail of the tag (`"] x"`). -/
theorem trimleft_predicate_mangles :
    tnSafeStripWith {} isTnAnnounceTrimLeft false ([32] ++ TN ++ [32, 120]) = .ok [93, 32, 120] := by rfl

/-- `"[class] title"`: the class prefix rule of doPostArticleFullTitle. -/
theorem fullTitle_spec (cls title : Bytes) :
    fullTitle cls title = if cls = [] then title else [91] ++ cls ++ [93, 32] ++ title := by
  unfold fullTitle
  cases cls <;> simp

/-- the published title of any request is computed without a fault. -/
theorem postTitle_total (q : Req) : postTitle q.cfg q.role q.cls q.title = .ok (pTitle q) := postTitle_eq q

/-! #### the time zone of the index date and the header time -/

/-- the zone every date and time of a post is rendered in is the configured one, whatever was in effect before
(`InitConfig` always reloads it) ... -/
theorem zone_follows_config (s : TZ) (z : String) : (initConfigTZ s (some z)).zone = z := rfl

/-- ... and a start-up whose ini file names no zone keeps the one in effect (`h`: zone and name agree, as
`setTimeLocation` leaves them). -/
theorem zone_kept_without_config (s : TZ) (h : s.zone = s.location) : (initConfigTZ s none).zone = s.zone := by
  show s.location = s.zone
  exact h.symm

/-- ... whereas with "nothing to do when the name is unchanged" the start-up path never loads a configured zone:
`config()` has already stored the name, so the zone of package initialisation stays in effect. -/
theorem lazy_setTimeLocation_ignores_config (s : TZ) (z : String) :
    (initConfigTZWith setTimeLocationLazy s (some z)).zone = s.zone := by
  simp [initConfigTZWith, setTimeLocationLazy]

/-! #### cursor-movement escapes are defused -/

/-- StripANSIMoveCmd terminates on every line (fuel = length + 1 is never exhausted) and equals the scan. -/
theorem defuse_terminates (l : Bytes) : stripANSIMoveCmd l = .ok (scan false l) := stripANSIMoveCmd_eq l

/-- after StripANSIMoveCmd no `ESC params* final` with `params ⊆ PATTERN_ANSI_CODE`, `final ∈ PATTERN_ANSI_MOVECMD`
remains anywhere in the line — in particular none that the rewriting itself could have formed from neighbours. -/
theorem defuse_no_move (l r : Bytes) (h : stripANSIMoveCmd l = .ok r) :
    ¬ ∃ pre codes c post, r = pre ++ ESC :: (codes ++ c :: post) ∧ (∀ x ∈ codes, isCode x = true) ∧ isMove c = true := by
  rw [stripANSIMoveCmd_eq] at h
  cases h
  intro hex
  have := (hasMove_iff _).mpr hex
  rw [(scan_no_move false l).1] at this
  cases this

/-- the specification is not vacuous: the input of the design question contains a movement sequence,
its image does not, and stripping one sequence did not create another (`ESC [ ESC [ 2 s H`). -/
example : hasMove [27, 91, 27, 91, 50, 74, 72] = true := by decide
example : stripANSIMoveCmd [27, 91, 27, 91, 50, 74, 72] = .ok [27, 91, 27, 91, 50, 115, 72] := by rfl

theorem defuse_length (l r : Bytes) (h : stripANSIMoveCmd l = .ok r) : r.length = l.length := by
  rw [stripANSIMoveCmd_eq] at h; cases h; exact scan_length _ _

theorem defuse_idem (l r : Bytes) (h : stripANSIMoveCmd l = .ok r) : stripANSIMoveCmd r = .ok r := by
  rw [stripANSIMoveCmd_eq] at h; cases h
  rw [stripANSIMoveCmd_eq, scan_idem l]

/-- nothing but movement finals changes, and they change to 's'. -/
theorem defuse_only_finals (l r : Bytes) (h : stripANSIMoveCmd l = .ok r) (i : Nat) :
    r[i]? = l[i]? ∨ ∃ c, l[i]? = some c ∧ isMove c = true ∧ r[i]? = some 115 := by
  rw [stripANSIMoveCmd_eq] at h; cases h; exact scan_pointwise false l i

/-- a line without a movement sequence is stored byte for byte. -/
theorem defuse_id_of_clean (l : Bytes) (h : hasMove l = false) : stripANSIMoveCmd l = .ok l := by
  rw [stripANSIMoveCmd_eq, scan_id_of_no_move false l h nofun]

/-! #### trailing blanks -/

/-- cmsys.Trim: the result is the C string of the line without its trailing spaces — a prefix of it, followed
only by spaces, not ending in a space, free of NUL. -/
theorem trim_spec (s : Bytes) :
    (∃ k, cstr s = trim s ++ List.replicate k 32) ∧ (trim s).getLast? ≠ some 32 ∧ ∀ c ∈ trim s, c ≠ 0 := by
  obtain ⟨⟨k, hk⟩, h2⟩ := trimRight_spec (cstr s)
  exact ⟨⟨k, hk⟩, h2, fun c hc => cstr_nonzero s c (hk ▸ List.mem_append_left _ hc)⟩

example : trim [97, 32, 98, 32, 32, 0, 99] = [97, 32, 98] := by decide

/-! #### the article file -/

/-- which lines are written: all, except a last line that is empty. -/
theorem keptLines_eq (ls : List Bytes) : keptLines ls = if ls.getLast? = some [] then ls.dropLast else ls := by
  induction ls with
  | nil => rfl
  | cons l rest ih =>
    cases rest with
    | nil => simp [keptLines]
    | cons r rs =>
      rw [keptLines, if_neg (fun h => nomatch h.1), ih, List.getLast?_cons_cons, List.dropLast_cons_cons]
      split <;> rfl

/-- the file of an accepted post, for all line lists and all byte contents:
header ++ (every kept line, trimmed, defused, "\n") ++ signature ++ URL line. -/
theorem writeFile_content (q : Req) (e : Env) :
    articleFile q e (pTitle q) = .ok
      (header q.cfg q.anon q.userID q.nick q.board (pTitle q) e.ctime
        ++ (keptLines q.lines).flatMap (fun l => scan false (trim l) ++ [10])
        ++ signature (useAnony q.cfg q.anon) q.ip q.frm ++ urlLine q.cfg q.board e.name, pEntropy q) :=
  articleFile_eq q e

/-- Header rendering is verbatim in every field: whatever bytes the nickname, the user id, the board name, the
title and the time text contain — `%` and printf verbs included (37 is just a byte to `%s` of a byte slice) —
the file starts with the author line, then the title line, then the time line, then an empty line. -/
theorem header_verbatim (c : Cfg) (anon : Bool) (userID nick board title ctime : Bytes) :
    header c anon userID nick board title ctime =
      (Gen.Post.STR_AUTHOR1_BIG5 ++ [32] ++ (headerAuthor c anon userID nick).1 ++ [32, 40]
        ++ (headerAuthor c anon userID nick).2 ++ [41, 32] ++ Gen.Post.STR_POST1_BIG5 ++ [32] ++ board ++ [10])
      ++ (Gen.Post.STR_TITLE_BIG5 ++ [32] ++ title ++ [10])
      ++ (Gen.Post.STR_TIME_BIG5 ++ [32] ++ ctime ++ [10]) ++ [10] := by
  -- `header` is the same pieces nested to the left throughout, with the last two line feeds as one piece
  unfold header
  simp only [← List.append_assoc]
  exact (List.append_assoc _ [10] [10]).symm

/-- "100% pure" as a nickname, "%s%d" as a title: both appear as they are. -/
example : header {} false [65, 0] [49, 48, 48, 37, 32, 112, 117, 114, 101] [87] [37, 115, 37, 100] [67] =
    Gen.Post.STR_AUTHOR1_BIG5 ++ [32, 65, 32, 40, 49, 48, 48, 37, 32, 112, 117, 114, 101, 41, 32] ++ Gen.Post.STR_POST1_BIG5
      ++ [32, 87, 10] ++ Gen.Post.STR_TITLE_BIG5 ++ [32, 37, 115, 37, 100, 10] ++ Gen.Post.STR_TIME_BIG5 ++ [32, 67, 10, 10] := by
  decide +kernel

/-- every stored body line is free of cursor-movement sequences and of trailing blanks. -/
theorem stored_lines_clean (l : Bytes) :
    hasMove (pLine l) = false ∧ (∃ k, cstr l = trim l ++ List.replicate k 32) ∧ (pLine l).length = (trim l).length :=
  ⟨(scan_no_move false _).1, (trim_spec l).1, scan_length _ _⟩

/-! #### the title field -/

/-- the stored title is the first `TTLEN+1` bytes of the published title, zero padded; the field is exactly
`lenTitle` bytes at `offTitle` of the index record. (No DBCS-aware cut is made: see `title_may_split_dbcs`.) -/
theorem title_fits (q : Req) (e : Env) :
    C05.field (pRecord q e) Gen.RecFile.offTitle Gen.RecFile.lenTitle = copyInto Gen.RecFile.lenTitle (pTitle q) ∧
    copyInto Gen.RecFile.lenTitle (pTitle q)
      = (pTitle q).take Gen.RecFile.lenTitle ++ List.replicate (Gen.RecFile.lenTitle - ((pTitle q).take Gen.RecFile.lenTitle).length) 0 ∧
    ((pTitle q).take Gen.RecFile.lenTitle).length ≤ TITLE_SZ ∧ Gen.RecFile.lenTitle = TITLE_SZ := by
  refine ⟨?_, rfl, List.length_take_le _ _, by decide⟩
  rw [pRecord, postRecord_eq]
  exact recordImage_title ..

/-- the copy into the title field can end between the two bytes of a DBCS character (64 bytes `a`, then a
two-byte character: the 65-byte field ends on its lead byte). -/
theorem title_may_split_dbcs :
    (copyInto Gen.RecFile.lenTitle (List.replicate 64 97 ++ [164, 189])).getLast? = some 164 := by decide +kernel

/-! #### the effect of one accepted post -/

/-- publishing never faults: every request either finds no board directory or is carried out. -/
theorem post_total (s : St) (q : Req) (e : Env) : ∃ r, post s q e = .ok r := by
  cases h : findBoard s.boards q.dirBoard with
  | none => exact ⟨_, post_noBoard s q e h⟩
  | some b => exact ⟨_, post_eq s q e b h⟩

/-- `bbs.CreateArticle` carries out only requests whose board id is consistent (469db79). -/
theorem createArticle_wellformed (s s' : St) (q : Req) (e : Env) (p : Posted)
    (h : createArticle s q e = .ok (s', .posted p)) : q.dirBoard = q.board := by
  unfold createArticle at h
  split at h
  · assumption
  · cases h

/-- The effect of an accepted post (board `q.board` exists, consistent board id, not the read-only ALLPOST):
* the index is the old complete records followed by exactly one new record, which carries the chosen name,
  the owner, the date and the title field;
* every earlier record is byte-identical;
* the cached total equals the new record count = old count + 1 = the returned index;
* the article file is stored under the chosen name;
* the author's NumPosts rises by one (not on anonymous boards), nobody else's changes. -/
theorem post_effect (s : St) (q : Req) (e : Env) (b : BoardSt)
    (hb : findBoard s.boards q.board = some b) (hwf : q.dirBoard = q.board) (hx : q.board ≠ ALLPOST) :
    ∃ s' b', post s q e = .ok (s', .posted (nextPosted q e b)) ∧ findBoard s'.boards q.board = some b' ∧
      b'.dir.bytes = b.dir.bytes.take (b.dir.bytes.length / dirSz * dirSz) ++ pRecord q e ∧
      (pRecord q e).length = dirSz ∧
      (∀ k, k < b.dir.bytes.length / dirSz → C05.record b'.dir.bytes dirSz k = C05.record b.dir.bytes dirSz k) ∧
      b'.total = b'.dir.bytes.length / dirSz ∧ b'.total = b.dir.bytes.length / dirSz + 1 ∧
      (nextPosted q e b).idx = b'.total ∧
      lookupFile b'.files e.name = some (pContent q e) ∧
      (∀ n, n ≠ e.name → lookupFile b'.files n = lookupFile b.files n) ∧
      (∀ u, numPostsOf s'.users u =
        (numPostsOf s.users u).map fun n => if u = q.userID ∧ useAnony q.cfg q.anon = false then n + 1 else n) := by
  have hrl : (pRecord q e).length = dirSz := postRecord_length ..
  refine ⟨nextSt s q e b, b.crossPublish e.name (pContent q e) (pRecord q e), post_eq s q e b (hwf ▸ hb), ?_,
    crossPublish_bytes _ _ _ _ hrl, hrl, ?_, rfl, crossPublish_total _ _ _ _ hrl,
    (crossPublish_total _ _ _ _ hrl).symm, ?_, ?_, nextSt_users s q e b⟩
  · rw [nextSt_board hb hwf hx, hb]
    exact congrArg some (if_pos rfl)
  · intro k hk
    exact (C05.Props.append_preserves_prefix b.dir dirSz (pRecord q e) k hk).1
  · rw [crossPublish_lookup, if_pos rfl]
  · intro n hn
    rw [crossPublish_lookup, if_neg hn]

/-- the frame of a post: a board that is neither the posted one nor ALLPOST is not touched at all; ALLPOST
receives exactly one record (the copy) when the board is open, nothing otherwise. -/
theorem post_frame (s : St) (q : Req) (e : Env) (b : BoardSt)
    (hb : findBoard s.boards q.board = some b) (hwf : q.dirBoard = q.board) (hx : q.board ≠ ALLPOST) :
    ∃ s', post s q e = .ok (s', .posted (nextPosted q e b)) ∧
      (∀ m, m ≠ q.board → m ≠ ALLPOST → findBoard s'.boards m = findBoard s.boards m) ∧
      (q.isOpen = false → findBoard s'.boards ALLPOST = findBoard s.boards ALLPOST) ∧
      (q.isOpen = true → ∀ a, findBoard s.boards ALLPOST = some a → ∃ a', findBoard s'.boards ALLPOST = some a' ∧
        a'.dir.bytes = a.dir.bytes.take (a.dir.bytes.length / dirSz * dirSz) ++ pCross q e ∧
        a'.total = a'.dir.bytes.length / dirSz ∧ a'.total = a.dir.bytes.length / dirSz + 1 ∧
        lookupFile a'.files e.name = some (pContent q e)) := by
  have hx' : ¬ ALLPOST = q.board := fun h => hx h.symm
  refine ⟨nextSt s q e b, post_eq s q e b (hwf ▸ hb), ?_, ?_, ?_⟩
  · intro m h1 h2
    rw [nextSt_board hb hwf hx]
    simp only [if_neg h1, h2, false_and, if_false, Option.map_id']
  · intro ho
    rw [nextSt_board hb hwf hx]
    simp only [if_neg hx', ho, Bool.false_eq_true, and_false, if_false, Option.map_id']
  · intro ho a ha
    have hcl : (pCross q e).length = dirSz := crossRecord_length ..
    refine ⟨a.crossPublish e.name (pContent q e) (pCross q e), ?_, crossPublish_bytes _ _ _ _ hcl, rfl,
      crossPublish_total _ _ _ _ hcl, ?_⟩
    · rw [nextSt_board hb hwf hx, ha]
      exact congrArg some ((if_neg hx').trans (if_pos ⟨rfl, ho⟩))
    · rw [crossPublish_lookup, if_pos rfl]

/-- before 4ca0e38 the copy only added 1 to the cached total: on a board whose total had not been counted yet
(0 after `ReloadBCache`) with two records on disk, the cache said 1 while the index held 3 — and 1 ≠ 0 is never
recounted.  After the fix the total is the record count. -/
theorem before_fix_cold_logboard_total (rec : Bytes) (h : rec.length = dirSz) (two : Bytes) (h2 : two.length = 2 * dirSz) :
    let b : BoardSt := ⟨ALLPOST, ⟨true, two⟩, [], 0⟩
    (b.crossPublishOld [77] [] rec).total = 1 ∧ (b.crossPublishOld [77] [] rec).dir.bytes.length / dirSz = 3 ∧
    (b.crossPublish [77] [] rec).total = 3 := by
  intro b
  -- both variants append to the same index; they differ in the cached total only
  have h3 : (b.crossPublish [77] [] rec).total = 3 := by
    rw [crossPublish_total _ _ _ _ h]
    show two.length / dirSz + 1 = 3
    rw [h2, Nat.mul_div_cancel _ dirSz_pos]
  exact ⟨rfl, h3, h3⟩

/-- the record written names the owner and date as well (title: `title_fits`). -/
theorem record_fields (q : Req) (e : Env) :
    C05.field (pRecord q e) Gen.RecFile.offFilename Gen.RecFile.lenFilename = copyInto Gen.RecFile.lenFilename e.name ∧
    C05.field (pRecord q e) Gen.RecFile.offOwner Gen.RecFile.lenOwner
      = copyInto Gen.RecFile.lenOwner (if useAnony q.cfg q.anon then Gen.Post.ANONYMOUS_ID else q.userID) ∧
    C05.field (pRecord q e) Gen.RecFile.offDate Gen.RecFile.lenDate = copyInto Gen.RecFile.lenDate e.date := by
  rw [pRecord, postRecord_eq]
  exact ⟨recordImage_filename .., recordImage_owner .., recordImage_date ..⟩

/-- the reward (entropy of the stored lines, capped, zero on boards without credit) — or, on an anonymous board,
the real author's uid — is recorded little-endian in the `Multi` field of the new index entry. -/
theorem multi_recorded (q : Req) (e : Env) :
    C05.field (pRecord q e) Gen.RecFile.offMulti Gen.RecFile.lenMulti
      = le32 (if useAnony q.cfg q.anon then q.uid else pMoney q) := by
  rw [pRecord, postRecord_eq]; exact recordImage_multi ..

/-- before e2eca4c neither was recorded: the setters wrote into a reallocated copy. -/
theorem before_fix_multi_lost (v : Nat) : le32 (storedMultiOld v) = [0, 0, 0, 0] := by
  simp [storedMultiOld, le32, C05.le32]

/-- the reward never exceeds the entropy bound nor the configured maximum. -/
theorem money_bounded (q : Req) : pMoney q ≤ ENTROPY_MAX ∨ pMoney q ≤ Gen.Post.MAX_POST_MONEY :=
  .inl (Nat.le_trans (postMoney_le q _) (pEntropy_le q))

/-- a post whose article file cannot be written completely fails as a whole: boards (indexes, files, totals)
and counters are exactly as before; only the .post log has its record. -/
theorem write_failure_frame (s : St) (q : Req) (e : Env) :
    ∃ s', postWriteFails s q e = .ok s' ∧ s'.boards = s.boards ∧ s'.users = s.users := by
  unfold postWriteFails
  rw [postTitle_eq]
  exact ⟨_, rfl, rfl, rfl⟩

/-- what the histories carry along from one accepted post: the same boards exist afterwards, the counters are as in
`post_effect`. -/
theorem post_accepted (s : St) (q : Req) (e : Env) (b : BoardSt)
    (hb : findBoard s.boards q.board = some b) (hwf : q.dirBoard = q.board) (hx : q.board ≠ ALLPOST) :
    post s q e = .ok (nextSt s q e b, .posted (nextPosted q e b)) ∧
    (∀ m, (findBoard (nextSt s q e b).boards m).isSome = (findBoard s.boards m).isSome) ∧
    (∀ u, numPostsOf (nextSt s q e b).users u =
      (numPostsOf s.users u).map fun n => if u = q.userID ∧ useAnony q.cfg q.anon = false then n + 1 else n) :=
  ⟨post_eq s q e b (hwf ▸ hb), nextSt_isSome hb hwf hx, nextSt_users s q e b⟩

/-! #### anonymity is one fact (site switch AND board attribute), used by every site that depends on it -/

/-- the model's decision sites consult exactly the configuration variables the source's functions read
(regenerated by the translator from the function bodies and `ptttype.config()`); dropping or adding a guard in
`checkBoardAnonymous`, `writeHeaderAuthor`, `isTnAllowed`, ... changes `Gen.Post.siteConfig`. -/
theorem config_sites_match : Gen.Post.siteConfig = consults := rfl

/-- A post is anonymous iff the site offers anonymous boards (`HAVE_ANONYMOUS`) AND the board carries
`BRD_ANONYMOUS`.  Header author and nickname, the owner and file mode of the index entry, the `Multi` field and
the signature's host all follow that ONE fact, for every configuration. -/
theorem anonymity_consistent (q : Req) (e : Env) :
    let a := q.cfg.haveAnonymous && q.anon
    useAnony q.cfg q.anon = a ∧
    headerAuthor q.cfg q.anon q.userID q.nick
      = (if a then (cstr Gen.Post.ANONYMOUS_ID, Gen.Post.ANONYMOUS_NICKNAME) else (cstr q.userID, cstr q.nick)) ∧
    C05.field (pRecord q e) Gen.RecFile.offOwner Gen.RecFile.lenOwner
      = copyInto Gen.RecFile.lenOwner (if a then Gen.Post.ANONYMOUS_ID else q.userID) ∧
    C05.field (pRecord q e) Gen.RecFile.offFilemode Gen.RecFile.lenFilemode = [if a then Gen.Post.FILE_ANONYMOUS else 0] ∧
    signature (useAnony q.cfg q.anon) q.ip q.frm = signature a q.ip q.frm := by
  refine ⟨rfl, ?_, ?_, ?_, rfl⟩
  · unfold headerAuthor
    cases q.cfg.haveAnonymous <;> cases q.anon <;> rfl
  · exact (record_fields q e).2.1
  · rw [pRecord, postRecord_eq]; exact recordImage_filemode ..

/-- the rule "the attribute bit alone makes a post anonymous" disagrees with the header site exactly on
such a site: the entry would say `Anonymous.` while the header of the same file names the author. -/
theorem attribute_alone_is_inconsistent :
    let c : Cfg := { haveAnonymous := false }
    (headerAuthor c true [65, 0] [66]).1 = [65] ∧ useAnony c true = false ∧ (true : Bool) ≠ useAnony c true := by
  decide

example : useAnony {} true = true := by decide

/-- On a site configured without anonymous boards, a board record that still carries the attribute bit is an
ordinary board: the post is recorded under its author, with the author's header and host, and counts. -/
theorem flagged_board_on_site_without_anonymous (s : St) (q : Req) (e : Env) (b : BoardSt)
    (hc : q.cfg.haveAnonymous = false)
    (hb : findBoard s.boards q.board = some b) (hwf : q.dirBoard = q.board) (hx : q.board ≠ ALLPOST) :
    ∃ s' p, post s q e = .ok (s', .posted p) ∧
      C05.field p.record Gen.RecFile.offOwner Gen.RecFile.lenOwner = copyInto Gen.RecFile.lenOwner q.userID ∧
      C05.field p.record Gen.RecFile.offFilemode Gen.RecFile.lenFilemode = [0] ∧
      headerAuthor q.cfg q.anon q.userID q.nick = (cstr q.userID, cstr q.nick) ∧
      signature (useAnony q.cfg q.anon) q.ip q.frm = signature false q.ip q.frm ∧
      (∀ n, numPostsOf s.users q.userID = some n → numPostsOf s'.users q.userID = some (n + 1)) := by
  obtain ⟨h1, _, h3⟩ := post_accepted s q e b hb hwf hx
  obtain ⟨ha, hh, ho, hf, _⟩ := anonymity_consistent q e
  simp only [hc, Bool.false_and, Bool.false_eq_true, if_false] at ha hh ho hf
  refine ⟨_, _, h1, ho, hf, hh, by rw [ha], ?_⟩
  intro n hn
  rw [h3, hn, ha]; simp

/-! #### the id of the new entry fetches the new file -/

/-- the names Stampfile produces: `M.<t>.A.<XXX>` with a 10-digit time. -/
def stampName (t p : Nat) : Bytes := C13.body 77 t p

/-- instance of C13's round trip: the article id computed from the new index entry decodes back to exactly
the chosen name, for every 10-digit time below 2^31 and every suffix. -/
theorem post_then_get (e : Env) (t p : Nat) (hd : C13.InDomain t p) (hn : e.name = stampName t p) :
    fetchName (articleID e) = .ok e.name := by
  -- `stampName t p` is `C13.body 77 t p`; padded to FNLEN it is C13's rendering of an `M.` name, by unfolding
  have hr : copyInto C13.FNLEN e.name = C13.render true t p := by rw [hn]; rfl
  unfold fetchName articleID
  rw [hr, C13.Props.articleId_roundtrip true t p hd]
  show Except.ok (cstr (C13.render true t p)) = .ok e.name
  rw [C13.cstr_render, hn]
  rfl

/-- ... hence, after an accepted post, looking up the file the returned id designates yields the article. -/
theorem post_then_get_file (s : St) (q : Req) (e : Env) (b : BoardSt) (t p : Nat)
    (hb : findBoard s.boards q.board = some b) (hwf : q.dirBoard = q.board) (hx : q.board ≠ ALLPOST)
    (hd : C13.InDomain t p) (hn : e.name = stampName t p) :
    ∃ s' b' f, post s q e = .ok (s', .posted (nextPosted q e b)) ∧ findBoard s'.boards q.board = some b' ∧
      fetchName (articleID e) = .ok f ∧ lookupFile b'.files f = some (pContent q e) := by
  obtain ⟨s', b', h1, h2, _, _, _, _, _, _, h9, _, _⟩ := post_effect s q e b hb hwf hx
  exact ⟨s', b', e.name, h1, h2, post_then_get e t p hd hn, h9⟩

example : C13.InDomain 1790742966 0x976 := by unfold C13.InDomain; omega

/-! #### sequences of posts -/

/-- what publishing itself needs beyond the permission checks: a consistent board id, an existing board other than
ALLPOST. -/
def Accepted (s : St) (q : Req) : Prop :=
  q.dirBoard = q.board ∧ q.board ≠ ALLPOST ∧ (findBoard s.boards q.board).isSome

/-- the records a post appends to board `m`: its own record, and its copy when `m` is ALLPOST. -/
def recsFor (m : Bytes) (qe : Req × Env) : List Bytes :=
  (if qe.1.board = m then [pRecord qe.1 qe.2] else []) ++
  (if m = ALLPOST ∧ qe.1.isOpen = true then [pCross qe.1 qe.2] else [])

/-- every index is a whole number of records. -/
def Aligned (s : St) : Prop := ∀ m b, findBoard s.boards m = some b → b.dir.bytes.length % dirSz = 0

theorem post_step_index (s : St) (q : Req) (e : Env) (ha : Accepted s q) (hal : Aligned s) :
    ∃ s', post s q e = .ok (s', .posted (nextPosted q e ((findBoard s.boards q.board).get ha.2.2))) ∧ Aligned s' ∧
      (∀ m, (findBoard s'.boards m).isSome = (findBoard s.boards m).isSome) ∧
      (∀ m b, findBoard s.boards m = some b → ∃ b', findBoard s'.boards m = some b' ∧
        b'.dir.bytes = b.dir.bytes ++ (recsFor m (q, e)).flatten) := by
  obtain ⟨hwf, hx, hsome⟩ := ha
  obtain ⟨b, hb⟩ := Option.isSome_iff_exists.mp hsome
  simp only [hb, Option.get_some]
  have hrl : (pRecord q e).length = dirSz := postRecord_length ..
  have hcl : (pCross q e).length = dirSz := crossRecord_length ..
  refine ⟨nextSt s q e b, post_eq s q e b (hwf ▸ hb), ?_, nextSt_isSome hb hwf hx, ?_⟩
  · -- an entry of the new state is an old one, as it was or with whole records after an append
    intro m x' hx'
    rw [nextSt_board hb hwf hx, Option.map_eq_some_iff] at hx'
    obtain ⟨x, hxm, rfl⟩ := hx'
    split
    · exact crossPublish_aligned _ _ _ _ hrl
    · split
      · exact crossPublish_aligned _ _ _ _ hcl
      · exact hal m x hxm
  · intro m x hxm
    refine ⟨_, by rw [nextSt_board hb hwf hx, hxm]; rfl, ?_⟩
    have hxa := hal m x hxm
    by_cases hm : m = q.board
    · have hA : ¬ (m = ALLPOST ∧ q.isOpen = true) := fun h => hx (hm ▸ h.1)
      simp only [recsFor, if_pos hm, if_pos hm.symm, if_neg hA]
      rw [crossPublish_bytes_of_aligned _ _ _ _ hrl hxa]
      simp
    · have hm' : ¬ q.board = m := fun h => hm h.symm
      by_cases hA : m = ALLPOST ∧ q.isOpen = true
      · simp only [recsFor, if_neg hm, if_neg hm', if_pos hA]
        rw [crossPublish_bytes_of_aligned _ _ _ _ hcl hxa]
        simp
      · simp [recsFor, if_neg hm, if_neg hm', if_neg hA]

/-- After ANY sequence of accepted posts to any boards, each board's index is its initial index followed by the
records of the posts made to it — and, for ALLPOST, the copies of the posts to open boards — in order. -/
theorem posts_sequence (ps : List (Req × Env)) : ∀ (s : St), Aligned s → (∀ qe ∈ ps, Accepted s qe.1) →
    ∃ s', runPosts s ps = .ok s' ∧ Aligned s' ∧
      ∀ m b, findBoard s.boards m = some b → ∃ b', findBoard s'.boards m = some b' ∧
        b'.dir.bytes = b.dir.bytes ++ (ps.flatMap (recsFor m)).flatten := by
  induction ps with
  | nil =>
    intro s hal _
    exact ⟨s, rfl, hal, fun m b hb => ⟨b, hb, by simp⟩⟩
  | cons qe rest ih =>
    intro s hal hacc
    obtain ⟨q, e⟩ := qe
    obtain ⟨s1, h1, hal1, hsome, hidx⟩ := post_step_index s q e (hacc (q, e) (by simp)) hal
    have hacc1 : ∀ qe ∈ rest, Accepted s1 qe.1 := by
      intro qe hqe
      obtain ⟨a1, a2, a3⟩ := hacc qe (by simp [hqe])
      exact ⟨a1, a2, by rw [hsome]; exact a3⟩
    obtain ⟨s', h2, hal', hfin⟩ := ih s1 hal1 hacc1
    refine ⟨s', ?_, hal', ?_⟩
    · simp only [runPosts, h1, bind, Except.bind]
      exact h2
    · intro m b hb
      obtain ⟨b1, hb1, hd1⟩ := hidx m b hb
      obtain ⟨b', hb', hd'⟩ := hfin m b1 hb1
      refine ⟨b', hb', ?_⟩
      rw [hd', hd1, List.flatMap_cons, List.flatten_append, List.append_assoc]

/-! #### the post counter does not depend on the caller's copy of the user record -/

/-- `pwcuIncNumPost` increments the re-read stored counter: whatever (stale) value the caller's record holds,
the stored counter rises by exactly one and the caller's record is brought up to date. -/
theorem incNumPost_spec (stored caller : Nat) : incNumPost stored caller = (stored + 1, stored + 1) := rfl

/-- the variant (increment the caller's copy, write that back) does not raise a stored counter the
caller's copy is behind of. -/
theorem from_caller_copy_loses_posts (stored caller : Nat) (h : caller < stored) :
    (incNumPostFromCaller stored caller).1 ≤ stored := by
  show caller + 1 ≤ stored
  exact h

/-- For EVERY value `c` the caller's record may hold (a session that loaded the user before other sessions
posted), an accepted post raises the STORED counter of the author by exactly one (not on anonymous boards) and
leaves every other user's counter alone. -/
theorem numposts_independent_of_caller_copy (s : St) (q : Req) (e : Env) (b : BoardSt) (c : Nat)
    (hb : findBoard s.boards q.board = some b) (hwf : q.dirBoard = q.board) (hx : q.board ≠ ALLPOST) :
    ∃ s' p, post s { q with callerNp := c } e = .ok (s', .posted p) ∧
      ∀ u, numPostsOf s'.users u =
        (numPostsOf s.users u).map fun n => if u = q.userID ∧ useAnony q.cfg q.anon = false then n + 1 else n := by
  obtain ⟨h1, _, h3⟩ := post_accepted s { q with callerNp := c } e b hb hwf hx
  exact ⟨_, _, h1, h3⟩

/-- ... and the caller's record afterwards holds the new stored value. -/
theorem caller_copy_refreshed (us : List (Bytes × Nat)) (id : Bytes) (n c : Nat) (h : numPostsOf us id = some n) :
    callerAfter us id false c = n + 1 := by
  simp [callerAfter, h, incNumPost]

/-- posts a session operation makes in the name of user `u` that count. -/
def postsBy (u : Bytes) : SOp → Nat
  | .load _ _ => 0
  | .postAs _ q _ => if u = q.userID ∧ useAnony q.cfg q.anon = false then 1 else 0
  | .create q _ => if u = q.userID ∧ useAnony q.cfg q.anon = false then 1 else 0

def OpAccepted (s : St) : SOp → Prop
  | .load _ _ => True
  | .postAs _ q _ => Accepted s q
  | .create q _ => Accepted s q

theorem stepS_users (s : SSt) (op : SOp) (ha : OpAccepted s.st op) :
    ∃ s' o, stepS s op = .ok (s', o) ∧
      (∀ m, (findBoard s'.st.boards m).isSome = (findBoard s.st.boards m).isSome) ∧
      (∀ u, numPostsOf s'.st.users u = (numPostsOf s.st.users u).map (· + postsBy u op)) := by
  -- an accepted post counts as `postsBy` says, whichever copy of the counter the caller holds
  have key : ∀ (q : Req) (e : Env) (c : Nat), Accepted s.st q → ∃ st' p,
      post s.st { q with callerNp := c } e = .ok (st', .posted p) ∧
      (∀ m, (findBoard st'.boards m).isSome = (findBoard s.st.boards m).isSome) ∧
      ∀ u, numPostsOf st'.users u = (numPostsOf s.st.users u).map
        (· + if u = q.userID ∧ useAnony q.cfg q.anon = false then 1 else 0) := by
    intro q e c ⟨hwf, hx, hsome⟩
    obtain ⟨b, hb⟩ := Option.isSome_iff_exists.mp hsome
    obtain ⟨h1, h2, h3⟩ := post_accepted s.st { q with callerNp := c } e b hb hwf hx
    refine ⟨_, _, h1, h2, fun u => ?_⟩
    rw [h3 u]
    cases numPostsOf s.st.users u
    · rfl
    · show some _ = some _
      split <;> rfl
  cases op with
  | load sess user =>
    simp only [stepS]
    cases hn : numPostsOf s.st.users user <;>
      exact ⟨_, _, rfl, fun _ => rfl, fun u => by cases numPostsOf s.st.users u <;> rfl⟩
  | postAs sess q e =>
    cases hs : findSession s.sessions sess with
    | none =>
      obtain ⟨st', p, h1, h2, h3⟩ := key q e q.callerNp ha
      simp only [stepS, hs, h1, bind, Except.bind, pure, Except.pure]
      exact ⟨_, _, rfl, h2, h3⟩
    | some x =>
      obtain ⟨st', p, h1, h2, h3⟩ := key q e x.numPosts ha
      simp only [stepS, hs, h1, bind, Except.bind, pure, Except.pure]
      exact ⟨_, _, rfl, h2, h3⟩
  | create q e =>
    obtain ⟨st', p, h1, h2, h3⟩ := key q e ((numPostsOf s.st.users q.userID).getD 0) ha
    have hq : createArticle s.st { q with callerNp := (numPostsOf s.st.users q.userID).getD 0 } e =
        post s.st { q with callerNp := (numPostsOf s.st.users q.userID).getD 0 } e := if_pos ha.1
    simp only [stepS, hq, h1, bind, Except.bind, pure, Except.pure]
    exact ⟨_, _, rfl, h2, h3⟩

/-- Interleaved sessions: however often and whenever the user's record was loaded (`load`), and through
whichever kept copy (`postAs`) or fresh reload (`create`) the posts are made, after any sequence of accepted
operations the STORED counter of every user is its initial value plus the number of that user's accepted
non-anonymous posts. -/
theorem sessions_sequence (ops : List SOp) : ∀ (s : SSt), (∀ op ∈ ops, OpAccepted s.st op) →
    ∃ s', runS s ops = .ok s' ∧
      ∀ u, numPostsOf s'.st.users u = (numPostsOf s.st.users u).map (· + (ops.map (postsBy u)).sum) := by
  induction ops with
  | nil => intro s _; exact ⟨s, rfl, fun u => by cases numPostsOf s.st.users u <;> simp⟩
  | cons op rest ih =>
    intro s hacc
    obtain ⟨s1, o, h1, hsome, hu⟩ := stepS_users s op (hacc op (by simp))
    have hacc1 : ∀ op' ∈ rest, OpAccepted s1.st op' := by
      intro op' hop
      have := hacc op' (by simp [hop])
      cases op' with
      | load _ _ => trivial
      | postAs _ q _ => exact ⟨this.1, this.2.1, by rw [hsome]; exact this.2.2⟩
      | create q _ => exact ⟨this.1, this.2.1, by rw [hsome]; exact this.2.2⟩
    obtain ⟨s', h2, hfin⟩ := ih s1 hacc1
    refine ⟨s', ?_, fun u => ?_⟩
    · simp only [runS, h1, bind, Except.bind]; exact h2
    · rw [hfin u, hu u]
      cases numPostsOf s.st.users u <;> simp [Nat.add_assoc]

/-! non-vacuity: a state and requests that satisfy the hypotheses, and what the theorem says about them. -/

def exState : St :=
  { boards := [⟨[87], ⟨true, []⟩, [], 0⟩, ⟨ALLPOST, ⟨true, []⟩, [], 0⟩], users := [([65], 3)], postLog := C05.FS.absent }
def exReq (open' : Bool) (title : Bytes) : Req :=
  { board := [87], dirBoard := [87], userID := [65], nick := [], uid := 1, role := false, anon := false, isOpen := open',
    credit := true, ip := [49], frm := [], cls := [], title := title, lines := [[104, 105, 32, 32], []] }
def exEnv (p : Nat) : Env :=
  { name := stampName 1790742966 p, date := [], mtime := 0, ctime := [], logDate := 0, xtitle := [], xmtime := 0 }

example : Accepted exState (exReq true [120]) := by unfold Accepted; decide
example : Aligned exState := by
  intro m b h
  have := List.mem_of_find?_eq_some h
  simp only [exState, List.mem_cons, List.mem_nil_iff, or_false] at this
  rcases this with rfl | rfl <;> rfl
/-- two posts, the first to an open board: the board has both records in order, ALLPOST the copy of the first. -/
example : ∃ s', runPosts exState [(exReq true [120], exEnv 1), (exReq false [121], exEnv 2)] = .ok s' ∧
    ((findBoard s'.boards [87]).map (·.dir.bytes)) =
      some (pRecord (exReq true [120]) (exEnv 1) ++ pRecord (exReq false [121]) (exEnv 2)) ∧
    ((findBoard s'.boards ALLPOST).map (·.dir.bytes)) = some (pCross (exReq true [120]) (exEnv 1)) ∧
    numPostsOf s'.users [65] = some 5 := by
  refine ⟨_, rfl, ?_⟩
  decide +kernel

/-- two sessions of one user loaded up front; A posts twice, then B (whose copy still says 3) posts:
the stored counter is 3 + 3, and B's record is brought up to date. -/
example : ∃ s', runS ⟨exState, []⟩ [.load [1] [65], .load [2] [65], .postAs [1] (exReq false [120]) (exEnv 1),
      .postAs [1] (exReq false [121]) (exEnv 2), .postAs [2] (exReq false [122]) (exEnv 3)] = .ok s' ∧
    numPostsOf s'.st.users [65] = some 6 ∧ (findSession s'.sessions [2]).map (·.numPosts) = some 6 ∧
    (findSession s'.sessions [1]).map (·.numPosts) = some 5 := by
  refine ⟨_, rfl, ?_⟩
  decide +kernel

/-! #### a board id whose halves disagree (repaired at the bbs boundary by 469db79) -/

/-- `ptt.NewPost` itself still takes paths from the name and the cached total from the number: handed an
inconsistent pair it grows the index of the named board while refreshing the total of the other one. -/
theorem name_mismatch_total_stale :
    let s : St := { boards := [⟨[65], ⟨true, []⟩, [], 0⟩, ⟨[66], ⟨true, []⟩, [], 0⟩], users := [], postLog := C05.FS.absent }
    let q : Req := { board := [65], dirBoard := [66], userID := [], nick := [], uid := 0, role := false, anon := false,
                     isOpen := false, credit := false, ip := [], frm := [], cls := [], title := [], lines := [] }
    let e : Env := { name := [77], date := [], mtime := 0, ctime := [], logDate := 0, xtitle := [], xmtime := 0 }
    ∃ s' p, post s q e = .ok (s', .posted p) ∧
      ((findBoard s'.boards [66]).map fun b => (b.dir.bytes.length / dirSz, b.total)) = some (1, 0) ∧
      createArticle s q e = .ok (s, .badBoardID) := by
  refine ⟨_, _, post_eq _ _ _ _ rfl, ?_, rfl⟩
  decide +kernel

end PttVerif.C09.Props
