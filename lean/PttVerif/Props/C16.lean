import PttVerif.Proofs.C16
/-!
C16 — only unexpired tokens of the right kind, issued by this server, authenticate.

Everything below is about the server's DECISION LOGIC (`Model/C16.lean`) on top of an uninterpreted
signature oracle `Token.hmacOK : Secret → Bool` ("the signature bytes equal the HMAC of header.payload
under this key"); HMAC, base64url and JSON are outside the model (claimed partial).  All theorems hold for
every configuration `c : Cfg`, every token, every clock value `t : Int`, unless a hypothesis says otherwise;
the instances for the configuration read from the source (`srcCfg`, `Gen/Token.lean`) follow.

`verify k tok = tok.alg.isHMAC && tok.hmacOK k` is what the library does with a `[]byte` key; the only
cryptographic assumption, `SignedOnly K σ` (a signature made with `K` verifies under no other key), is an
explicit hypothesis of exactly the theorems that need it.
-/
namespace PttVerif.C16
open PttVerif.Gen

/-! ## facts about the source (kernel-checked on the regenerated data) -/

/-- the three default secrets of api/00-config.go, as the verifiers use them, are pairwise distinct -/
theorem secrets_pairwise_distinct :
    srcCfg.vAccess ≠ srcCfg.vRefresh ∧ srcCfg.vAccess ≠ srcCfg.vEmail ∧ srcCfg.vRefresh ≠ srcCfg.vEmail := by
  decide +kernel

/-- each Create* signs with the secret the matching Verify* checks -/
theorem sign_keys_are_verify_keys :
    srcCfg.sAccess = srcCfg.vAccess ∧ srcCfg.sRefresh = srcCfg.vRefresh ∧ srcCfg.sEmail = srcCfg.vEmail :=
  ⟨rfl, rfl, rfl⟩

/-- every Create* uses jwt.SigningMethodHS256 (the model's `createToken…` say `.hs256`) -/
theorem issued_with_hs256 :
    Token.createAccessAlg = "HS256" ∧ Token.createRefreshAlg = "HS256" ∧ Token.createEmailAlg = "HS256" :=
  ⟨rfl, rfl, rfl⟩

/-- ParseJwt's key callback hands the `[]byte` secret to the library whatever the algorithm is: the choice of
algorithms is the library's (HMAC only for such a key), as `verify` says. -/
theorem keyfunc_returns_secret_only : Token.keyfuncPlain = true := rfl

/-- the claims each Verify* reads are the claims the matching Create* writes, with the types the model uses -/
theorem claims_written_are_claims_read :
    Token.createAccessClaims = Token.verifyAccessClaims ∧ Token.createRefreshClaims = Token.verifyRefreshClaims ∧
    Token.createEmailClaims = Token.verifyEmailClaims ∧
    Token.verifyAccessClaimKinds = [("cli", "string"), ("exp", "int"), ("sub", "string")] ∧
    Token.verifyRefreshClaimKinds = [("cli", "string"), ("exp", "int"), ("sub", "string"), ("typ", "string")] ∧
    Token.verifyEmailClaimKinds = [("cli", "string"), ("ctx", "string"), ("eml", "string"), ("exp", "int"), ("sub", "string")] :=
  ⟨rfl, rfl, rfl, rfl, rfl, rfl⟩

/-- the expected distance of a pair exceeds the tolerance, the type of a refresh token and the two e-mail
contexts are non-empty and different, the durations fit the int32 clock -/
theorem source_constants :
    srcCfg.eps < srcCfg.pairDiff ∧ 0 ≤ srcCfg.eps ∧ srcCfg.refreshType ≠ [] ∧
    Token.contextChangeEmail ≠ [] ∧ Token.contextSetIDEmail ≠ [] ∧ Token.contextChangeEmail ≠ Token.contextSetIDEmail ∧
    0 < srcCfg.ttlAccess ∧ srcCfg.ttlAccess < 2147483648 ∧ 0 < srcCfg.ttlRefresh ∧ srcCfg.ttlRefresh < 2147483648 ∧
    0 < srcCfg.ttlEmail ∧ srcCfg.pairDiff = srcCfg.ttlRefresh - srcCfg.ttlAccess := by
  decide +kernel

/-- RECORDED: CreateEmailToken adds JWT_TOKEN_EXPIRE_TS (the access lifetime, one day), not
EMAIL_JWT_TOKEN_EXPIRE_TS (15 minutes), which no function uses. -/
theorem email_token_lives_access_ttl :
    Token.createEmailTTLName = "JWT_TOKEN_EXPIRE_TS" ∧ srcCfg.ttlEmail = srcCfg.ttlAccess ∧
    Token.emailJwtTokenExpireTS < srcCfg.ttlEmail :=
  ⟨rfl, rfl, by decide +kernel⟩

/-! ## the configuration after `InitConfig()` (api/config.go), kernel-checked on the regenerated lines and on
the ini files shipped with the repository -/

/-- every line `X = setYConfig("KEY", DEFAULT)` of config() reads the key named like the variable it assigns and
falls back to THAT variable: without an ini entry a variable keeps its 00-config.go value (in particular no
secret falls back to another secret) -/
theorem config_keys_and_defaults_are_own_variables :
    Token.configLines.all (fun l => l.2.2.1 == l.1 && l.2.2.2.2 == l.1) = true := by
  -- on the literal table every test reads `x == x`
  simp only [Token.configLines, List.all_cons, List.all_nil, beq_self_eq_true, Bool.and_self]

/-- the setters config() calls hand the ini value (or the default) over unchanged: `runConfig` takes the
configured secret at its FULL length — no truncation, hashing or other transformation that could make
different configured secrets one key -/
theorem config_setters_are_plain_forwarders :
    Token.settersPlain = [("setStringConfig", true), ("setBytesConfig", true), ("setIntConfig", true)] := rfl

/-- config() assigns each of the three secrets exactly once -/
theorem config_assigns_each_secret_once :
    ["JWT_SECRET", "REFRESH_JWT_SECRET", "EMAIL_JWT_SECRET"].all
      (fun v => (Token.configLines.filter (fun l => l.1 == v)).length == 1) = true := by decide +kernel

/-- with no `[go-pttbbs:api]` entry at all, `InitConfig()` leaves the configuration of the source -/
theorem effective_config_without_ini_is_source_config : effCfg [] = some srcCfg := shipped_inis_evaluated.2

/-- **the effective secrets after `InitConfig()` are pairwise distinct**, with no ini entry and with every
shipped ini file (none of which sets REFRESH_JWT_SECRET) -/
theorem effective_secrets_pairwise_distinct :
    shippedInis.all (fun ini => (effSecrets ini).map pairwiseDistinct == some true) = true :=
  shipped_inis_evaluated.1.1

/-- the same for what separates the kinds at the login check (`kindsSeparated`) -/
theorem effective_configs_separate_kinds :
    shippedInis.all (fun ini => (effCfg ini).map kindsSeparated == some true) = true :=
  shipped_inis_evaluated.1.2

/-! ## the library law that is mirrored -/

/-- a `[]byte` key verifies HMAC algorithms only: `none` and the asymmetric methods never verify -/
theorem verify_hmac_only (k : Secret) (tok : Token) (h : verify k tok = true) :
    tok.alg.isHMAC = true ∧ tok.hmacOK k = true := verify_iff.mp h

theorem none_and_asymmetric_never_verify (k : Secret) (tok : Token) (h : tok.alg = .none ∨ tok.alg = .asym) :
    verify k tok = false := by
  rcases h with h | h <;> simp [verify, h, Alg.isHMAC]

/-! ## access tokens -/

/-- `VerifyJwt` succeeds only for the empty string (guest) or for a token that verifies under the access
secret with an HMAC algorithm, passes the library's exp/iat/nbf validation, and whose claims give the
returned identity; with the expiry check on, the server's clock has not passed `int(exp)`. -/
theorem verifyJwt_sound (c : Cfg) (t : Int) (raw : Raw) (chk : Bool) (id : Ident)
    (h : verifyJwt c t raw chk = .ok id) :
    (raw = .empty ∧ id = ⟨c.guest, 0, []⟩) ∨
    ∃ tok, raw = .tok tok ∧ verify c.vAccess tok = true ∧ tok.alg.isHMAC = true ∧ claimsValid t tok = true ∧
      claimString tok.sub = some id.user ∧ claimString tok.cli = some id.cli ∧ claimInt tok.exp = some id.exp ∧
      (chk = true → srvNow t ≤ id.exp) := by
  cases raw with
  | empty => exact Or.inl ⟨rfl, (Except.ok.inj h).symm⟩
  | malformed => cases h
  | tok tok =>
    obtain ⟨⟨hcv, hv, hcli, hsub, hexp⟩, he⟩ := verifyJwt_tok.mp h
    exact Or.inr ⟨tok, rfl, hv, (verify_iff.mp hv).1, hcv, hsub, hcli, hexp, he⟩

/-- If the login-required wrapper runs the handler as a user `U` other than the guest,
the Authorization header had exactly two fields, the second one is a token that verifies under the ACCESS
secret with an HMAC algorithm, is unexpired (server rule and library rule), and its subject is `U`. -/
theorem access_sound (c : Cfg) (t : Int) (nfields : Nat) (second : Raw) (U : Bytes)
    (h : authAs c t nfields second = U) (hU : U ≠ c.guest) :
    ∃ tok, nfields = 2 ∧ second = .tok tok ∧ verify c.vAccess tok = true ∧ tok.alg.isHMAC = true ∧
      Unexpired t tok ∧ claimString tok.sub = some U := by
  unfold authAs at h
  split at h
  · rename_i id hv
    subst h
    rcases verifyJwt_sound c t _ true id hv with ⟨_, hid⟩ | ⟨tok, h1, h2, h3, h4, hsub, _, hexp, he⟩
    · exact absurd (by rw [hid]) hU
    · unfold getJwt at h1
      split at h1
      · rename_i hn
        exact ⟨tok, hn, h1, h2, h3, ⟨⟨id.exp, hexp, he rfl⟩, claimsValid_exp h4⟩, hsub⟩
      · cases h1
  · exact absurd h.symm hU

/-- the same in the calendar range of the int32 clock: the clock has not passed `int(exp)`, and if `exp` is
a non-zero number the clock is strictly before its floor -/
theorem access_sound_epoch (c : Cfg) (t : Int) (nfields : Nat) (second : Raw) (U : Bytes)
    (h0 : 0 ≤ t) (h1 : t < 2147483648)
    (h : authAs c t nfields second = U) (hU : U ≠ c.guest) :
    ∃ tok e, second = .tok tok ∧ verify c.vAccess tok = true ∧ claimString tok.sub = some U ∧
      claimInt tok.exp = some e ∧ t ≤ e ∧
      (∀ fl fr, tok.exp = .num fl fr → (fl = 0 ∧ fr = false) ∨ t < fl) := by
  obtain ⟨tok, _, hs, hv, _, ⟨⟨e, he, hle⟩, hd⟩, hsub⟩ := access_sound c t nfields second U h hU
  rw [srvNow_of_range h0 h1] at hle
  refine ⟨tok, e, hs, hv, hsub, he, hle, ?_⟩
  intro fl fr hx
  rw [hx] at hd
  simp only [dateOK, Bool.or_eq_true, Bool.and_eq_true, beq_iff_eq, Bool.not_eq_true', decide_eq_true_eq] at hd
  exact hd

/-- Whatever makes `VerifyJwt(jwt, true)` fail, the wrapper does not answer with an
error: the handler runs, as the guest. -/
theorem guest_on_failure (c : Cfg) (t : Int) (nfields : Nat) (second : Raw) (e : Err)
    (h : verifyJwt c t (getJwt nfields second) true = .error e) :
    authAs c t nfields second = c.guest ∧ loginRequired c t true nfields second = .ok c.guest := by
  have : authAs c t nfields second = c.guest := by simp [authAs, h]
  exact ⟨this, by simp [loginRequired, this]⟩

/-- a presented token that does not verify under the access secret — altered, re-signed with another key,
`alg` none or asymmetric, a token of another kind — is downgraded to the guest -/
theorem guest_if_not_verified (c : Cfg) (t : Int) (nfields : Nat) (second : Raw)
    (h : ∀ tok, second = .tok tok → verify c.vAccess tok = false) :
    authAs c t nfields second = c.guest := by
  apply Classical.byContradiction
  intro hne
  obtain ⟨tok, _, hs, hv, _⟩ := access_sound c t nfields second _ rfl hne
  rw [h tok hs] at hv
  cases hv

/-- an expired token (the server's clock has passed `int(exp)`; a token without `exp` counts as 0) is
downgraded to the guest -/
theorem guest_if_expired (c : Cfg) (t : Int) (nfields : Nat) (tok : Token)
    (h : ∀ e, claimInt tok.exp = some e → e < srvNow t) :
    authAs c t nfields (.tok tok) = c.guest := by
  apply Classical.byContradiction
  intro hne
  obtain ⟨tok', _, hs, _, _, ⟨⟨e, he, hle⟩, _⟩, _⟩ := access_sound c t nfields _ _ rfl hne
  cases hs
  exact Int.lt_irrefl _ (Int.lt_of_lt_of_le (h e he) hle)

/-- a malformed string or a header that does not have exactly two fields: guest -/
theorem guest_if_malformed (c : Cfg) (t : Int) (nfields : Nat) (second : Raw)
    (h : nfields ≠ 2 ∨ second = .malformed ∨ second = .empty) :
    authAs c t nfields second = c.guest := by
  apply Classical.byContradiction
  intro hne
  obtain ⟨tok, hn, hs, _⟩ := access_sound c t nfields second _ rfl hne
  rcases h with h | h | h
  · exact h hn
  · rw [h] at hs; cases hs
  · rw [h] at hs; cases hs

/-! ## refresh and e-mail tokens -/

/-- `VerifyRefreshJwt` succeeds only for the empty string (guest) or for a token that verifies under the REFRESH
secret with an HMAC algorithm, carries the refresh type, is unexpired (server rule and library rule), and whose
claims give the returned identity. -/
theorem refresh_sound (c : Cfg) (t : Int) (raw : Raw) (id : Ident) (h : verifyRefreshJwt c t raw = .ok id) :
    (raw = .empty ∧ id = ⟨c.guest, 0, []⟩) ∨
    ∃ tok, raw = .tok tok ∧ verify c.vRefresh tok = true ∧ tok.alg.isHMAC = true ∧
      claimString tok.typ = some c.refreshType ∧ Unexpired t tok ∧
      claimString tok.sub = some id.user ∧ claimString tok.cli = some id.cli ∧ claimInt tok.exp = some id.exp := by
  cases raw with
  | empty => exact Or.inl ⟨rfl, (Except.ok.inj h).symm⟩
  | malformed => cases h
  | tok tok =>
    obtain ⟨⟨hr, he⟩, htyp⟩ := verifyRefreshJwt_tok.mp h
    exact Or.inr ⟨tok, rfl, hr.verified, (verify_iff.mp hr.verified).1, htyp, unexpired_of_readsAs hr he, hr.sub, hr.cli, hr.exp⟩

/-- with a non-empty REFRESH_JWT_CLAIM_TYPE the `typ` claim must be present and equal to it -/
theorem refresh_sound_typ (c : Cfg) (t : Int) (tok : Token) (id : Ident) (hty : c.refreshType ≠ [])
    (h : verifyRefreshJwt c t (.tok tok) = .ok id) : tok.typ = .str c.refreshType :=
  claimString_nonempty (verifyRefreshJwt_tok.mp h).2 hty

/-- `VerifyEmailJwt(raw, context)` succeeds only for a token that verifies under the
E-MAIL secret, is unexpired, and whose `ctx` claim is the asked context. -/
theorem email_sound_ctx (c : Cfg) (t : Int) (raw : Raw) (context : Bytes) (id : Ident) (eml : Bytes)
    (h : verifyEmailJwt c t raw context = .ok (id, eml)) :
    ∃ tok, raw = .tok tok ∧ verify c.vEmail tok = true ∧ tok.alg.isHMAC = true ∧
      claimString tok.ctx = some context ∧ Unexpired t tok ∧
      claimString tok.sub = some id.user ∧ claimString tok.eml = some eml ∧ claimInt tok.exp = some id.exp := by
  cases raw with
  | empty => cases h
  | malformed => cases h
  | tok tok =>
    obtain ⟨⟨hr, he⟩, heml, hctx⟩ := verifyEmailJwt_tok.mp h
    exact ⟨tok, rfl, hr.verified, (verify_iff.mp hr.verified).1, hctx, unexpired_of_readsAs hr he, hr.sub, heml, hr.exp⟩

/-- an e-mail token issued for one context is refused for every other context — by the `ctx` comparison
alone, whatever the signature oracle says -/
theorem email_rejects_other_context (c : Cfg) (t t0 : Int) (user cli eml ctx₁ ctx₂ : Bytes) (σ : Secret → Bool)
    (hne : ctx₁ ≠ ctx₂) :
    verifyEmailJwt c t (.tok (createEmailToken c t0 user cli eml ctx₁ σ)) ctx₂ = .error .invalidToken :=
  verifyEmailJwt_other_ctx fun h => hne (Option.some.inj h)

/-- `userInfoIsValidEmailUser` (ChangeEmail, SetIDEmail): valid only if the requester is the target user (or
a sysop where sysops are allowed) and the e-mail token verifies, is unexpired, is of the asked context and
is a token OF THE TARGET USER. -/
theorem email_user_sound (c : Cfg) (t : Int) (strGuest uuser query : Bytes) (raw : Raw) (context : Bytes)
    (allow sysop : Bool) (eml : Bytes)
    (h : emailUserOK c t strGuest uuser query raw context allow sysop = some eml) :
    query ≠ strGuest ∧ (uuser = query ∨ (allow = true ∧ sysop = true)) ∧
    ∃ tok, raw = .tok tok ∧ verify c.vEmail tok = true ∧ claimString tok.ctx = some context ∧ Unexpired t tok ∧
      claimString tok.sub = some query ∧ claimString tok.eml = some eml := by
  unfold emailUserOK at h
  rw [Option.ite_none_left_eq_some, Option.ite_none_left_eq_some] at h
  obtain ⟨hq, hs, h⟩ := h
  cases hv : verifyEmailJwt c t raw context with
  | error e =>
    rw [hv] at h
    cases h
  | ok p =>
    obtain ⟨id, em⟩ := p
    rw [hv] at h
    dsimp only at h
    rw [Option.ite_none_left_eq_some, Decidable.not_not, Option.some.injEq] at h
    obtain ⟨rfl, rfl⟩ := h
    obtain ⟨tok, h1, h2, _, hctx, hun, hsub, heml, _⟩ := email_sound_ctx c t raw context id em hv
    refine ⟨hq, ?_, tok, h1, h2, hctx, hun, hsub, heml⟩
    by_cases hu : uuser = id.user
    · exact Or.inl hu
    · simpa [hu] using hs

/-- **the e-mail token is bound to the user it was issued for, whoever presents it**: a privileged caller
(PERM_SYSOP / PERM_ACCOUNTS / PERM_ACCTREG, on a route that allows sysops) is let through the requester test
only — a token whose subject is not the target user is refused for him as for everybody. -/
theorem email_token_bound_to_its_user (c : Cfg) (t : Int) (strGuest uuser query : Bytes) (tok : Token) (context : Bytes)
    (allow sysop : Bool) (hsub : claimString tok.sub ≠ some query) :
    emailUserOK c t strGuest uuser query (.tok tok) context allow sysop = none := by
  cases h : emailUserOK c t strGuest uuser query (.tok tok) context allow sysop with
  | none => rfl
  | some eml =>
    obtain ⟨_, _, tok', h1, _, _, _, hs, _⟩ := email_user_sound c t strGuest uuser query _ context allow sysop eml h
    cases h1
    exact absurd hs hsub

/-- `emailUserOK` WITHOUT the `queryUUserID != emailUserID` test for privileged callers: verify, let a sysop
through, test requester = target = subject for the others. -/
def emailUserOKSysopFirst (c : Cfg) (t : Int) (strGuest uuser query : Bytes) (raw : Raw) (context : Bytes)
    (isAllowSysop isSysop : Bool) : Option Bytes :=
  if query = strGuest then none
  else match verifyEmailJwt c t raw context with
    | .error _ => none
    | .ok (id, eml) =>
      if isAllowSysop && isSysop then some eml
      else if uuser ≠ query || query ≠ id.user then none else some eml

/-- witness for `email_token_bound_to_its_user` needing the subject test in front of the sysop pass: the gate
`emailUserOKSysopFirst` accepts alice's id-e-mail token for the target bob when a sysop presents it; `emailUserOK`
refuses it there and accepts it for alice. -/
theorem sysop_first_gate_unbinds_token :
    let alice : Bytes := [97, 108, 105, 99, 101]
    let bob : Bytes := [98, 111, 98]
    let root : Bytes := [114, 111, 111, 116]
    let ctx := Token.contextSetIDEmail
    let tok := createEmailToken srcCfg 1800000000 alice [] [109] ctx (fun k => k == srcCfg.sEmail)
    emailUserOKSysopFirst srcCfg 1800000000 Token.strGuest root bob (.tok tok) ctx true true = some [109] ∧
    emailUserOK srcCfg 1800000000 Token.strGuest root bob (.tok tok) ctx true true = none ∧
    emailUserOK srcCfg 1800000000 Token.strGuest root alice (.tok tok) ctx true true = some [109] := by
  decide +kernel

/-- `GetEmailTokenInfo`: information is given only about a token that verifies for the asked context, is
unexpired, is not a guest's, and whose subject is the caller — or the caller is privileged. -/
theorem email_info_sound (c : Cfg) (t : Int) (strGuest uuser : Bytes) (body : Raw) (context : Bytes) (sysop : Bool)
    (id : Ident) (eml : Bytes)
    (h : getEmailTokenInfo c t strGuest uuser body context sysop = .ok (id, eml)) :
    id.user ≠ strGuest ∧ (uuser = id.user ∨ sysop = true) ∧
    ∃ tok, body = .tok tok ∧ verify c.vEmail tok = true ∧ claimString tok.ctx = some context ∧ Unexpired t tok ∧
      claimString tok.sub = some id.user ∧ claimString tok.eml = some eml := by
  unfold getEmailTokenInfo at h
  split at h
  · cases h
  · rename_i id' eml' hv
    split at h
    · cases h
    · rename_i e he
      cases h
      obtain ⟨hq, hreq, tok, ht, hver, hctx, hun, hsub, _⟩ := email_user_sound c t strGuest uuser _ body context true sysop e he
      obtain ⟨tok', ht', _, _, _, _, _, heml, _⟩ := email_sound_ctx c t body context _ _ hv
      rw [ht] at ht'
      cases ht'
      exact ⟨hq, hreq.imp_right And.right, tok, ht, hver, hctx, hun, hsub, heml⟩

/-! ## tokens of one kind presented as another kind -/

/-- A refresh token presented as access token.  The ONLY thing that separates a
refresh token from an access token in `VerifyJwt` is the secret (`VerifyJwt` does not look at `typ`): under the
configuration hypothesis `c.sRefresh ≠ c.vAccess` and the cryptographic hypothesis `SignedOnly c.sRefresh σ`, a
refresh token this server issued does not authenticate. -/
theorem access_rejects_refresh_token (c : Cfg) (t t0 : Int) (user cli : Bytes) (σ : Secret → Bool)
    (hk : c.sRefresh ≠ c.vAccess) (hσ : SignedOnly c.sRefresh σ) (n : Nat) :
    authAs c t n (.tok (createRefreshToken c t0 user cli σ).1) = c.guest := by
  apply guest_if_not_verified
  intro tok htok
  cases htok
  exact verify_false_of_signedOnly hσ hk

/-- An e-mail token presented as access token: again the secret alone. -/
theorem access_rejects_email_token (c : Cfg) (t t0 : Int) (user cli eml ctx : Bytes) (σ : Secret → Bool)
    (hk : c.sEmail ≠ c.vAccess) (hσ : SignedOnly c.sEmail σ) (n : Nat) :
    authAs c t n (.tok (createEmailToken c t0 user cli eml ctx σ)) = c.guest := by
  apply guest_if_not_verified
  intro tok htok
  cases htok
  exact verify_false_of_signedOnly hσ hk

/-- for the secrets of the source: refresh and e-mail tokens of this server are guests at the login check -/
theorem access_rejects_other_kinds (t t0 : Int) (user cli eml ctx : Bytes) (σ : Secret → Bool) (n : Nat) :
    (SignedOnly srcCfg.sRefresh σ → authAs srcCfg t n (.tok (createRefreshToken srcCfg t0 user cli σ).1) = srcCfg.guest) ∧
    (SignedOnly srcCfg.sEmail σ → authAs srcCfg t n (.tok (createEmailToken srcCfg t0 user cli eml ctx σ)) = srcCfg.guest) :=
  ⟨fun h => access_rejects_refresh_token srcCfg t t0 user cli σ
      (sign_keys_are_verify_keys.2.1 ▸ secrets_pairwise_distinct.1.symm) h n,
   fun h => access_rejects_email_token srcCfg t t0 user cli eml ctx σ
      (sign_keys_are_verify_keys.2.2 ▸ secrets_pairwise_distinct.2.1.symm) h n⟩

/-- the same after `InitConfig()` with no ini entry or any shipped ini file: whatever configuration `c` results,
refresh and e-mail tokens issued under it are guests at the login check -/
theorem access_rejects_other_kinds_effective (ini : Env) (hini : ini ∈ shippedInis) (c : Cfg) (hc : effCfg ini = some c)
    (t t0 : Int) (user cli eml ctx : Bytes) (σ : Secret → Bool) (n : Nat) :
    (SignedOnly c.sRefresh σ → authAs c t n (.tok (createRefreshToken c t0 user cli σ).1) = c.guest) ∧
    (SignedOnly c.sEmail σ → authAs c t n (.tok (createEmailToken c t0 user cli eml ctx σ)) = c.guest) := by
  have h := List.all_eq_true.mp effective_configs_separate_kinds ini hini
  rw [hc] at h
  simp only [Option.map_some, beq_iff_eq, Option.some.injEq, kindsSeparated, Bool.and_eq_true, bne_iff_ne, ne_eq] at h
  obtain ⟨⟨⟨⟨h1, h2⟩, _⟩, _⟩, _⟩ := h
  exact ⟨fun hs => access_rejects_refresh_token c t t0 user cli σ h1 hs n,
         fun hs => access_rejects_email_token c t t0 user cli eml ctx σ h2 hs n⟩

/-- **the separation of access tokens rests on the secrets only.**  In the configuration that is the source
configuration with the refresh and e-mail secrets set to the access secret, the refresh token the server
issues to "alice" authenticates her at the login check (witness; the signature is the ideal one). -/
theorem equal_secrets_break_kinds :
    let c : Cfg := { srcCfg with vRefresh := srcCfg.vAccess, vEmail := srcCfg.vAccess,
                                 sRefresh := srcCfg.vAccess, sEmail := srcCfg.vAccess }
    let alice : Bytes := [97, 108, 105, 99, 101]
    let σ : Secret → Bool := fun k => k == c.sRefresh
    SignedOnly c.sRefresh σ ∧
    authAs c 1000 2 (.tok (createRefreshToken c 1000 alice [] σ).1) = alice ∧ alice ≠ c.guest := by
  exact ⟨fun _ hk => eq_of_beq hk, by decide, by decide⟩

/-- an access token presented as REFRESH token is refused by the `typ` comparison alone (no assumption on
signatures or secrets; REFRESH_JWT_CLAIM_TYPE must be non-empty, which `source_constants` states) -/
theorem refresh_rejects_access_token (c : Cfg) (t t0 : Int) (user cli : Bytes) (σ : Secret → Bool)
    (hty : c.refreshType ≠ []) (id : Ident) :
    verifyRefreshJwt c t (.tok (createToken c t0 user cli σ).1) ≠ .ok id :=
  -- `createToken` writes no `typ` claim: `.absent = .str c.refreshType` has no proof
  fun h => nomatch refresh_sound_typ c t _ id hty h

/-- an e-mail token presented as refresh token: refused by `typ` alone -/
theorem refresh_rejects_email_token (c : Cfg) (t t0 : Int) (user cli eml ctx : Bytes) (σ : Secret → Bool)
    (hty : c.refreshType ≠ []) (id : Ident) :
    verifyRefreshJwt c t (.tok (createEmailToken c t0 user cli eml ctx σ)) ≠ .ok id :=
  -- nor does `createEmailToken`
  fun h => nomatch refresh_sound_typ c t _ id hty h

/-- access and refresh tokens presented as e-mail token for a non-empty context: refused by `ctx` alone -/
theorem email_rejects_access_and_refresh_tokens (c : Cfg) (t t0 : Int) (user cli context : Bytes) (σ : Secret → Bool)
    (hctx : context ≠ []) (p : Ident × Bytes) :
    verifyEmailJwt c t (.tok (createToken c t0 user cli σ).1) context ≠ .ok p ∧
    verifyEmailJwt c t (.tok (createRefreshToken c t0 user cli σ).1) context ≠ .ok p :=
  -- neither token carries a `ctx` claim, so each is answered `.error .invalidToken`
  have habs : claimString .absent ≠ some context := fun h => hctx (Option.some.inj h).symm
  ⟨(fun h => nomatch h.symm.trans (verifyEmailJwt_other_ctx habs)),
   fun h => nomatch h.symm.trans (verifyEmailJwt_other_ctx habs)⟩

/-! ## Refresh -/

/-- If `Refresh` succeeds for user `U = out.user`:
* the refresh token of the body is either a token that verifies under the REFRESH secret, has the refresh
  type, is unexpired and has subject `U` — or it is the empty string and `U` is the guest;
* the header token is either a token that verifies under the ACCESS secret with subject `U` — or the header
  carries no token and `U` is the guest;
* the expiry distance of the two is the expected one up to ε, and the client info of the refresh token equals
  the client info of the body or that of the access token;
* both issued tokens are HS256 tokens with subject `U`, the new refresh token has the refresh type, the new
  access token has no `typ`. -/
theorem refresh_same_user (c : Cfg) (t : Int) (nfields : Nat) (second : Raw) (pcli : Bytes) (praw : Raw)
    (σa σr : Secret → Bool) (out : RefreshOut)
    (h : refresh c t nfields second pcli praw σa σr = .ok out) :
    ∃ a r : Ident,
      a.user = out.user ∧ r.user = out.user ∧
      ((praw = .empty ∧ r = ⟨c.guest, 0, []⟩) ∨
        ∃ rt, praw = .tok rt ∧ verify c.vRefresh rt = true ∧ claimString rt.typ = some c.refreshType ∧
          Unexpired t rt ∧ claimString rt.sub = some out.user ∧ claimString rt.cli = some r.cli ∧ claimInt rt.exp = some r.exp) ∧
      ((getJwt nfields second = .empty ∧ a = ⟨c.guest, 0, []⟩) ∨
        ∃ tk, nfields = 2 ∧ second = .tok tk ∧ verify c.vAccess tk = true ∧ claimsValid t tk = true ∧
          claimString tk.sub = some out.user ∧ claimString tk.cli = some a.cli ∧ claimInt tk.exp = some a.exp) ∧
      (-c.eps ≤ r.exp - a.exp - c.pairDiff ∧ r.exp - a.exp - c.pairDiff ≤ c.eps) ∧
      (r.cli = pcli ∨ r.cli = a.cli) ∧
      out.access = (createToken c t out.user r.cli σa).1 ∧ out.refresh = (createRefreshToken c t out.user r.cli σr).1 ∧
      out.access.sub = .str out.user ∧ out.refresh.sub = .str out.user ∧
      out.access.alg = .hs256 ∧ out.refresh.alg = .hs256 ∧
      out.access.typ = .absent ∧ out.refresh.typ = .str c.refreshType := by
  obtain ⟨a, r, ha, hr, hd, hcli, hu, rfl⟩ := refresh_ok.mp h
  refine ⟨a, r, hu.symm, rfl, ?_, ?_, hd, hcli, rfl, rfl, rfl, rfl, rfl, rfl, rfl, rfl⟩
  · rcases refresh_sound c t praw r hr with h' | ⟨rt, h1, h2, _, h4, h5, h6, h7, h8⟩
    · exact Or.inl h'
    · exact Or.inr ⟨rt, h1, h2, h4, h5, h6, h7, h8⟩
  · rcases verifyJwt_sound c t _ false a ha with h' | ⟨tk, h1, h2, _, h4, h5, h6, h7, _⟩
    · exact Or.inl h'
    · right
      unfold getJwt at h1
      split at h1
      · rename_i hn
        exact ⟨tk, hn, h1, h2, h4, hu ▸ h5, h6, h7⟩
      · cases h1

/-- The form the property states: once the server's clock is later than the expected pair
distance + ε after the epoch (source values: 6 days + 2 s) and non-negative, a successful `Refresh` had BOTH
tokens: an access token verifying under the access secret and a refresh token verifying under the refresh
secret (type refresh, unexpired), both with the subject the new tokens are issued for. -/
theorem refresh_same_user_epoch (c : Cfg) (t : Int) (nfields : Nat) (second : Raw) (pcli : Bytes) (praw : Raw)
    (σa σr : Secret → Bool) (out : RefreshOut)
    (hpd : c.eps < c.pairDiff) (h0 : 0 ≤ t) (hlate : c.pairDiff + c.eps < srvNow t)
    (h : refresh c t nfields second pcli praw σa σr = .ok out) :
    ∃ tk rt, nfields = 2 ∧ second = .tok tk ∧ praw = .tok rt ∧
      verify c.vAccess tk = true ∧ verify c.vRefresh rt = true ∧
      claimString rt.typ = some c.refreshType ∧ Unexpired t rt ∧
      claimString tk.sub = some out.user ∧ claimString rt.sub = some out.user ∧
      out.access.sub = .str out.user ∧ out.refresh.sub = .str out.user := by
  obtain ⟨a, r, _, _, hr, ha, ⟨hd1, hd2⟩, _, _, _, hs1, hs2, _⟩ :=
    refresh_same_user c t nfields second pcli praw σa σr out h
  have ha0 : 0 ≤ a.exp := by
    rcases ha with ⟨_, ha⟩ | ⟨tk, _, _, _, hcv, _, _, hexp⟩
    · rw [ha]
      exact Int.le_refl 0
    · exact claimInt_exp_nonneg h0 (claimsValid_exp hcv) hexp
  rcases hr with ⟨_, hr⟩ | ⟨rt, hr1, hr2, hr3, hr4, hr5, _, hr7⟩
  · -- no refresh token: r.exp = 0, so a.exp ≤ ε − pairDiff is negative
    exfalso
    rw [hr] at hd1
    dsimp only at hd1
    omega
  · rcases ha with ⟨_, ha⟩ | ⟨tk, hn, hs, hv, _, hsub, _, _⟩
    · -- no access token: a.exp = 0, so r.exp ≤ pairDiff + ε, which the server's clock has passed
      exfalso
      obtain ⟨⟨e, he, hle⟩, _⟩ := hr4
      rw [hr7] at he
      cases he
      rw [ha] at hd2
      dsimp only at hd2
      omega
    · exact ⟨tk, rt, hn, hs, hr1, hv, hr2, hr3, hr4, hsub, hr5, hs1, hs2⟩

/-- **the pair tolerance is two seconds** (api/const.go EPSILON_EXPIRE_TS, regenerated): the two tokens of a pair
are created back to back, and the expiry distance is the ONLY thing that identifies a pair — every second of
tolerance is a second within which the tokens of two different sessions of a user are interchangeable. -/
theorem pair_tolerance_is_two_seconds : srcCfg.eps = 2 ∧ srcCfg.pairDiff = 518400 := by decide +kernel

/-- in the source configuration a successful `Refresh` had tokens whose expiry times differ from the expected
distance (6 days) by at most 2 s -/
theorem refresh_pair_distance_src (t : Int) (nfields : Nat) (second : Raw) (pcli : Bytes) (praw : Raw)
    (σa σr : Secret → Bool) (out : RefreshOut)
    (h : refresh srcCfg t nfields second pcli praw σa σr = .ok out) :
    ∃ a r : Ident, verifyJwt srcCfg t (getJwt nfields second) false = .ok a ∧ verifyRefreshJwt srcCfg t praw = .ok r ∧
      -2 ≤ r.exp - a.exp - 518400 ∧ r.exp - a.exp - 518400 ≤ 2 := by
  obtain ⟨a, r, ha, hr, hd, _⟩ := refresh_ok.mp h
  have he := pair_tolerance_is_two_seconds
  rw [he.1, he.2] at hd
  exact ⟨a, r, ha, hr, hd⟩

/-- **cross-session pairs are refused**: the access token of a session opened at `t1` and the refresh token of a
session opened at `t2`, more than ε apart, do not refresh — whoever the users are, whatever the signatures
(times in the range of the int32 clock, `pairDiff` the difference of the two lifetimes). -/
theorem refresh_rejects_cross_session_pair (c : Cfg) (t t1 t2 : Int) (u1 u2 cli1 cli2 pcli : Bytes)
    (σ₁ σ₂ σa σr : Secret → Bool)
    (hpd : c.pairDiff = c.ttlRefresh - c.ttlAccess)
    (h1 : 0 ≤ t1) (h2 : 0 ≤ t2) (hA : 0 ≤ c.ttlAccess) (hR : 0 ≤ c.ttlRefresh)
    (hm1 : t1 + c.ttlAccess < 2147483648) (hm2 : t2 + c.ttlRefresh < 2147483648)
    (hfar : c.eps < t2 - t1 ∨ t2 - t1 < -c.eps) :
    refresh c t 2 (.tok (createToken c t1 u1 cli1 σ₁).1) pcli (.tok (createRefreshToken c t2 u2 cli2 σ₂).1) σa σr
      = .error .invalidToken :=
  refresh_far_pair (ea := t1 + c.ttlAccess) (er := t2 + c.ttlRefresh)
    (congrArg (Claim.num · false) (expiry_of_range h1 hA hm1))
    (congrArg (Claim.num · false) (expiry_of_range h2 hR hm2)) (by omega)

/-- witness: with the tolerance raised to 60 s, alice's access token of one session and her refresh token of a
session opened 30 s later refresh; with the source's 2 s they do not. -/
theorem wide_tolerance_merges_sessions :
    let alice : Bytes := [97, 108, 105, 99, 101]
    let σ₁ : Secret → Bool := fun k => k == srcCfg.sAccess
    let σ₂ : Secret → Bool := fun k => k == srcCfg.sRefresh
    let acc := (createToken srcCfg 1800000000 alice [] σ₁).1
    let ref := (createRefreshToken srcCfg 1800000030 alice [] σ₂).1
    (∃ out, refresh { srcCfg with eps := 60 } 1800000040 2 (.tok acc) [] (.tok ref) σ₁ σ₂ = .ok out ∧ out.user = alice) ∧
    refresh srcCfg 1800000040 2 (.tok acc) [] (.tok ref) σ₁ σ₂ = .error .invalidToken := by
  exact ⟨⟨_, rfl, rfl⟩, rfl⟩

/-- RECORDED (configuration): `VerifyJwt("")` and `VerifyRefreshJwt("")` both answer "guest, no error", so a
`Refresh` that carries NO token at all is turned down only by the expiry-distance test, i.e. only because the
two configured lifetimes differ by more than ε (`source_constants`).  Witness: in the source configuration
with an expected distance of 0 the server signs a fresh token pair for "guest" for a request without
credentials. -/
theorem refresh_without_tokens_needs_distinct_ttls :
    let c : Cfg := { srcCfg with pairDiff := 0 }
    let σ : Secret → Bool := fun k => k == c.sAccess
    (∃ out, refresh c 1800000000 1 .empty [] .empty σ σ = .ok out ∧ out.user = c.guest) ∧
    refresh srcCfg 1800000000 1 .empty [] .empty σ σ = .error .invalidToken := by
  exact ⟨⟨_, rfl, rfl⟩, rfl⟩

/-! ## issued tokens are accepted (non-vacuity of everything above) -/

/-- A token `CreateToken` issues at `t0` is accepted by `VerifyJwt` (expiry
check on) at every `t` with `t0 ≤ t < t0 + ttl`, as that user — provided the signature verifies under the
signing key (the library's Sign/Verify round trip), the signing key is the verification key, and the times
are in the range of the int32 clock. -/
theorem issued_access_verifies (c : Cfg) (t0 t : Int) (user cli : Bytes) (σ : Secret → Bool)
    (hσ : σ c.sAccess = true) (hk : c.sAccess = c.vAccess)
    (h0 : 0 ≤ t0) (httl : 0 < c.ttlAccess) (hmax : t0 + c.ttlAccess < 2147483648)
    (ht0 : t0 ≤ t) (ht : t < t0 + c.ttlAccess) :
    verifyJwt c t (.tok (createToken c t0 user cli σ).1) true = .ok ⟨user, t0 + c.ttlAccess, cli⟩ ∧
    authAs c t 2 (.tok (createToken c t0 user cli σ).1) = user := by
  -- the token carries the Time4 sum; in range it is `t0 + ttl`, so the bounds may speak of what the token carries
  have he := expiry_of_range h0 (Int.le_of_lt httl) hmax
  rw [← he] at ht hmax ⊢
  have hv : verifyJwt c t (.tok (createToken c t0 user cli σ).1) true = .ok ⟨user, _, cli⟩ :=
    verifyJwt_tok.mpr ((issued_readsAs (hk ▸ hσ) (Int.le_trans h0 ht0) ht hmax).imp_right fun h _ => h)
  refine ⟨hv, ?_⟩
  simp [authAs, getJwt, hv]

/-- the same for `CreateRefreshToken` and `VerifyRefreshJwt` -/
theorem issued_refresh_verifies (c : Cfg) (t0 t : Int) (user cli : Bytes) (σ : Secret → Bool)
    (hσ : σ c.sRefresh = true) (hk : c.sRefresh = c.vRefresh)
    (h0 : 0 ≤ t0) (httl : 0 < c.ttlRefresh) (hmax : t0 + c.ttlRefresh < 2147483648)
    (ht0 : t0 ≤ t) (ht : t < t0 + c.ttlRefresh) :
    verifyRefreshJwt c t (.tok (createRefreshToken c t0 user cli σ).1) = .ok ⟨user, t0 + c.ttlRefresh, cli⟩ := by
  have he := expiry_of_range h0 (Int.le_of_lt httl) hmax
  rw [← he] at ht hmax ⊢
  exact verifyRefreshJwt_tok.mpr ⟨issued_readsAs (hk ▸ hσ) (Int.le_trans h0 ht0) ht hmax, rfl⟩

/-- the same for `CreateEmailToken` and `VerifyEmailJwt`, for the context the token was issued for -/
theorem issued_email_verifies (c : Cfg) (t0 t : Int) (user cli eml ctx : Bytes) (σ : Secret → Bool)
    (hσ : σ c.sEmail = true) (hk : c.sEmail = c.vEmail)
    (h0 : 0 ≤ t0) (httl : 0 < c.ttlEmail) (hmax : t0 + c.ttlEmail < 2147483648)
    (ht0 : t0 ≤ t) (ht : t < t0 + c.ttlEmail) :
    verifyEmailJwt c t (.tok (createEmailToken c t0 user cli eml ctx σ)) ctx = .ok (⟨user, t0 + c.ttlEmail, cli⟩, eml) := by
  have he : srvNow t0 + c.ttlEmail = t0 + c.ttlEmail := congrArg (· + c.ttlEmail) (srvNow_of_range h0 (by omega))
  rw [← he] at ht hmax ⊢
  exact verifyEmailJwt_tok.mpr ⟨issued_readsAs (hk ▸ hσ) (Int.le_trans h0 ht0) ht hmax, rfl, rfl⟩

/-- the pair the server issues at `t0` is refreshable at every `t` while the access token is unexpired
(non-vacuity of `refresh_same_user`; the new tokens are for the same user) -/
theorem issued_pair_refreshes (c : Cfg) (t0 t : Int) (user cli pcli : Bytes) (σ₁ σ₂ σa σr : Secret → Bool)
    (hσ₁ : σ₁ c.sAccess = true) (hσ₂ : σ₂ c.sRefresh = true)
    (hk₁ : c.sAccess = c.vAccess) (hk₂ : c.sRefresh = c.vRefresh)
    (hpd : c.pairDiff = c.ttlRefresh - c.ttlAccess) (heps : 0 ≤ c.eps)
    (h0 : 0 ≤ t0) (httl : 0 < c.ttlAccess) (httl' : c.ttlAccess ≤ c.ttlRefresh) (hmax : t0 + c.ttlRefresh < 2147483648)
    (ht0 : t0 ≤ t) (ht : t < t0 + c.ttlAccess) :
    ∃ out, refresh c t 2 (.tok (createToken c t0 user cli σ₁).1) pcli (.tok (createRefreshToken c t0 user cli σ₂).1) σa σr = .ok out ∧
      out.user = user := by
  have hle : t0 + c.ttlAccess ≤ t0 + c.ttlRefresh := Int.add_le_add_left httl' t0
  have ha := (issued_access_verifies c t0 t user cli σ₁ hσ₁ hk₁ h0 httl (Int.lt_of_le_of_lt hle hmax) ht0 ht).1
  have ha' : verifyJwt c t (.tok (createToken c t0 user cli σ₁).1) false = .ok ⟨user, t0 + c.ttlAccess, cli⟩ :=
    verifyJwt_tok.mpr ⟨(verifyJwt_tok.mp ha).1, nofun⟩
  have hr := issued_refresh_verifies c t0 t user cli σ₂ hσ₂ hk₂ h0 (Int.lt_of_lt_of_le httl httl') hmax ht0
    (Int.lt_of_lt_of_le ht hle)
  have hd : t0 + c.ttlRefresh - (t0 + c.ttlAccess) - c.pairDiff = 0 := by omega
  refine ⟨_, refresh_ok.mpr ⟨_, _, ha', hr, ?_, Or.inr rfl, rfl, rfl⟩, rfl⟩
  dsimp only
  rw [hd]
  exact ⟨Int.neg_nonpos_of_nonneg heps, heps⟩

/-- the source configuration satisfies the hypotheses of the access, refresh and pair theorems above (so they are
not vacuous; the e-mail one is not instantiated here):
a pair issued at 2027-01-15 is refreshable an hour later, and the access token authenticates. -/
theorem issued_tokens_verify_src :
    let σ₁ : Secret → Bool := fun k => k == srcCfg.sAccess
    let σ₂ : Secret → Bool := fun k => k == srcCfg.sRefresh
    let alice : Bytes := [97, 108, 105, 99, 101]
    authAs srcCfg 1800003600 2 (.tok (createToken srcCfg 1800000000 alice [] σ₁).1) = alice ∧
    (∃ out, refresh srcCfg 1800003600 2 (.tok (createToken srcCfg 1800000000 alice [] σ₁).1) []
        (.tok (createRefreshToken srcCfg 1800000000 alice [] σ₂).1) σ₁ σ₂ = .ok out ∧ out.user = alice) := by
  intro σ₁ σ₂ alice
  have hs := sign_keys_are_verify_keys
  refine ⟨(issued_access_verifies srcCfg 1800000000 1800003600 alice [] σ₁ (beq_self_eq_true _) hs.1 ?_ ?_ ?_ ?_ ?_).2,
    issued_pair_refreshes srcCfg 1800000000 1800003600 alice [] [] σ₁ σ₂ σ₁ σ₂ (beq_self_eq_true _) (beq_self_eq_true _)
      hs.1 hs.2.1 ?_ ?_ ?_ ?_ ?_ ?_ ?_ ?_⟩
  all_goals decide

end PttVerif.C16
