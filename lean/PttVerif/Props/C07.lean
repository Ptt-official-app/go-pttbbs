import PttVerif.Proofs.C07
/-
C07 — Board read access is enforced identically at every read entry point.

`Spec.mayRead` is the rule of the property statement over named bit positions.  The first half is the decision and
what is done with it; its theorems hold for ALL users (any 32-bit level word, adult flag, uid), ALL boards (any 32-bit
attribute and level words) and ALL relation facts (`Relation`: three free Booleans):

  * the Go decision `boardPermStat` (masks regenerated from package ptttype) = `Spec.mayRead`;
  * every content-returning entry point of package ptt — its statement list REGENERATED from the source — performs
    the permission test on its own bid argument before any content read, and returns content iff `Spec.mayRead`;
    the bbs wrapper refuses a (number, name) pair that does not belong together;
  * every listing function includes a board iff `mayRead ∨ PERM_BOARD ∨ named moderator`, always with its title;
    the single-board summary always answers and shows the title under exactly that condition; the detail query
    answers under exactly that condition;
  * the listing-side write (`newBoardStat` sets BRD_POSTMASK on a hidden unmasked board listed by a non-friend)
    is characterised, and afterwards exactly the privileged and the listed friends can read.

The second half is about where the inputs of the decision come from, each section on a model of its own: `is_uBM`
(→ `Relation.namedBM`), `ptt.InitCurrentUser` (→ `UserView`), the moderator cache (→ `Relation.bmUid`), the lists a
listing hands out, friend-list expiry (→ `Relation.friend`), the multi-board validity query.  These sections do not feed
their results into `runEntry` / `listBoard`: `administers_sound` takes the link `r.namedBM = isUBM id bm` as a
hypothesis, the others stop at the producer; the facts are put together in the driver (`Drv/C07.lean`).  Beside several
of them stands a theorem about a VARIANT of the modelled function (`parseShared`, `hbflScanFirst`,
`boardsValidShifted`, the pooled list, special-casing by the supplied id): a witness that the theorem next to it tells
the variant from the model.
-/
namespace PttVerif.C07.Props
open PttVerif.C07 PttVerif.Gen.Perm

/-! ### the decision -/

/-- the masks regenerated from ptttype are the single bits the rule names -/
theorem perm_constants :
    PERM_BASIC = 2 ^ 0 ∧ PERM_LOGINOK = 2 ^ 4 ∧ PERM_BM = 2 ^ 10 ∧ PERM_BOARD = 2 ^ 13 ∧ PERM_SYSOP = 2 ^ 14 ∧
    PERM_POLICE_MAN = 2 ^ 28 ∧ PERM_POLICE = 2 ^ 31 ∧ BRD_GROUPBOARD = 2 ^ 3 ∧ BRD_HIDE = 2 ^ 4 ∧ BRD_POSTMASK = 2 ^ 5 ∧
    BRD_SYMBOLIC = 2 ^ 15 ∧ BRD_OVER18 = 2 ^ 24 ∧ NBRD_INVALID = 0 ∧ NBRD_FAV = 1 ∧ NBRD_BOARD = 2 ∧
    USE_REAL_DESC_FOR_HIDDEN_BOARD_IN_MYFAV = false := by decide

/-- Go decision = declarative rule, for all users / boards / relations (both level words arbitrary 32-bit values). -/
theorem boardPermStat_eq_spec (u : UserView) (b : BoardView) (r : Relation) :
    (boardPermStat u b r != NBRD_INVALID) = Spec.mayRead u b r :=
  (boardPermStat_ends u b r).2.1

example : ∃ u b r, Spec.mayRead u b r = true ∧ boardPermStat u b r = NBRD_FAV :=
  ⟨⟨0#32, false, 2⟩, ⟨0#32, 0#32⟩, ⟨false, false, false⟩, by decide⟩
example : ∃ u b r, Spec.mayRead u b r = false ∧ boardPermStat u b r = NBRD_INVALID :=
  ⟨⟨17#32, false, 2⟩, ⟨48#32, 0#32⟩, ⟨false, false, false⟩, by decide⟩

theorem boardPermStat_values (u : UserView) (b : BoardView) (r : Relation) :
    boardPermStat u b r = NBRD_INVALID ∨ boardPermStat u b r = NBRD_FAV ∨ boardPermStat u b r = NBRD_BOARD :=
  (boardPermStat_ends u b r).1

/-- `groupOp` is "administers boards or is a named moderator" — the disjunction of the property statement; the
PERM_NOCITIZEN statement of the Go function has no effect. -/
theorem groupOp_eq_administers (u : UserView) (r : Relation) : groupOp u r = Spec.administers u r := by
  unfold groupOp Spec.administers Spec.boardAdmin
  rw [test_BOARD]
  cases Spec.bit u.level 13 <;> cases r.namedBM <;> cases hasUserPerm u.level (w PERM_NOCITIZEN) <;> rfl

/-! ### read entry points -/

/-- the regenerated list covers exactly the required readers, in order -/
theorem entry_list : Gen.ReadEntryPoints.readers.map (·.1) = requiredReaders := rfl

/-- every required reader's regenerated statement list starts (after argument checks that can only refuse) with
GetBCache(bid) / error return / boardPermStat(user, uid, that header, bid) / `== NBRD_INVALID` ⇒ refusal, and only
then reads content.  Dropping, reordering or altering the test at one entry point breaks this. -/
theorem entry_guarded : ∀ name ∈ requiredReaders, guardedEntry name = true := by decide +kernel

/-- each reader returns content iff `mayRead` (a valid bid, no argument check firing); an invalid bid gives the
fetch error. -/
theorem entry_refines (name : String) (hn : name ∈ requiredReaders) (env : ReadEnv) (hp : env.precheck = false) :
    runEntry name env =
      if env.bidValid = false then .invalidBid
      else if Spec.mayRead env.u env.b env.r then .allow else .deny := by
  obtain ⟨steps, hg, hrun⟩ := runEntry_of_guarded name (entry_guarded name hn)
  rw [hrun, runReader_of_guardShape env hp steps hg, ← boardPermStat_eq_spec]
  cases env.bidValid <;> by_cases h : boardPermStat env.u env.b env.r = NBRD_INVALID <;> simp [h]

/-- whatever the arguments (also when an argument check fires, also for an invalid bid): no reader reaches content
for a caller the rule refuses. -/
theorem entry_never_leaks (name : String) (hn : name ∈ requiredReaders) (env : ReadEnv)
    (h : runEntry name env = .allow) : env.bidValid = true ∧ Spec.mayRead env.u env.b env.r = true := by
  obtain ⟨steps, hg, hrun⟩ := runEntry_of_guarded name (entry_guarded name hn)
  rw [hrun] at h
  obtain ⟨h1, h2⟩ := allow_of_guardShape env steps hg h
  refine ⟨h1, ?_⟩
  rw [← boardPermStat_eq_spec]; simpa [bne] using h2

example : runEntry "ReadPost" { u := ⟨17#32, false, 2⟩, b := ⟨48#32, 0#32⟩, r := ⟨false, false, false⟩, bidValid := true, precheck := false } = .deny :=
  (entry_refines "ReadPost" (by simp [requiredReaders]) _ rfl).trans (by decide)
example : runEntry "ReadPost" { u := ⟨17#32, false, 2⟩, b := ⟨48#32, 0#32⟩, r := ⟨false, true, false⟩, bidValid := true, precheck := false } = .allow :=
  (entry_refines "ReadPost" (by simp [requiredReaders]) _ rfl).trans (by decide)

/-- bbs.BBoardID.ToRaw (statement list read from the source) compares the client's name with the name of board <bid>
under no other condition than "the board table is attached" — in particular not depending on the table's busy flag —
and nothing before that comparison returns successfully. -/
theorem bbs_name_checked : nameCheckUnconditional = true := by decide +kernel

/-- so no bbs read entry point is reached with an inconsistent (number, name) pair, busy table or not -/
theorem bbs_name_mismatch_refused (busy : Bool) (entry : String) (env : ReadEnv) :
    bbsRead busy false entry env = .invalidBid :=
  bbsRead_of_nameCheck bbs_name_checked busy false entry env

/-- and with a consistent pair the wrapper is the ptt entry point -/
theorem bbs_consistent_pair (busy : Bool) (entry : String) (env : ReadEnv) :
    bbsRead busy true entry env = runEntry entry env :=
  bbsRead_of_nameCheck bbs_name_checked busy true entry env

/-! ### listings -/
section
/- the equations of the statement-list interpreter: with them a `simp` of this section, given the regenerated body of a
stat or summary function (`statFns`, `summaryFns`), runs that body statement by statement -/
attribute [local simp] lookup runStat evalFilter evalDisjunct Step.kind Step.a Step.b Step.c harmlessStatCallees

/-- which per-board stat function each listing calls (regenerated) -/
theorem listing_sources :
    statFnOf "LoadGeneralBoards" = some "loadGeneralBoardStat" ∧
    statFnOf "LoadAutoCompleteBoards" = some "loadAutoCompleteBoardStat" ∧
    statFnOf "LoadBoardsByBids" = some "loadBoardStat" ∧
    statFnOf "LoadHotBoards" = some "loadHotBoardStat" ∧
    statFnOf "LoadFullClassBoards" = some "loadClassBoardStat" ∧
    statFnOf "LoadClassBoards" = some "loadClassBoardStat" := by decide +kernel

/-- the caller may see the board in a listing -/
def maySee (u : UserView) (b : BoardView) (r : Relation) : Bool := Spec.mayRead u b r || Spec.administers u r

/-- which boards a listing function lists at all -/
def kindOK (listing : String) (b : BoardView) : Bool :=
  if listing = "LoadBoardsByBids" then true
  else if listing = "LoadFullClassBoards" || listing = "LoadClassBoards" then Spec.groupOrSymbolic b
  else !Spec.groupOrSymbolic b

/-- the common tail of every stat function: the permission filter `!((state != NBRD_INVALID) || isGroupOp)`, then
newBoardStat, then parseBoardSummary.  The left-hand side is, verbatim, what `simp` with the interpreter's equations
leaves of `listBoard listing env` once the statements in front of that filter have run (`f`: the listing's
`isParseFolder` flag, `s`: the return text of the refusing filter; neither matters), so that `listing_filter` closes
each of its six runs with it — by `exact`, not by `rw`: its matchers are its own. -/
theorem listing_core (u : UserView) (b : BoardView) (r : Relation) (f : Bool) (s : String) :
    (match
        (match some (!(boardPermStat u b r != NBRD_INVALID) && !groupOp u r) with
         | some true => StatOut.skipped s
         | some false => StatOut.included (newBoardStat (boardPermStat u b r) b (groupOp u r)).fst (newBoardStat (boardPermStat u b r) b (groupOp u r)).snd
         | none => StatOut.unmodelled "filter") with
      | StatOut.skipped _ => (ListOut.absent, b)
      | StatOut.included bs b' => (ListOut.present (parseBoardSummary bs f), b')
      | StatOut.unmodelled x => (ListOut.unmodelled x, b)) =
    (if maySee u b r then (ListOut.present Shape.full, after u b r) else (ListOut.absent, b)) := by
  rw [newBoardStat_decision, ← Bool.not_or]
  unfold maySee after
  rw [← boardPermStat_eq_spec, ← groupOp_eq_administers]
  cases h : (boardPermStat u b r != NBRD_INVALID) || groupOp u r
  · rfl
  · show (ListOut.present (parseBoardSummary { attr := boardPermStat u b r, isGroupOp := groupOp u r } f), _) = _
    rw [parseBoardSummary_decision, h]
    rfl

/-- a listing includes a board iff `mayRead ∨ PERM_BOARD ∨ named moderator` — the code's disjunction is the
statement's — always with the full summary (title), and leaves the header as `after` says.  (Board in use, of the
kind the listing shows, no keyword filter.) -/
theorem listing_filter (listing : String) (hl : listing ∈ stepListings) (u : UserView) (b : BoardView) (r : Relation)
    (hk : kindOK listing b = true) :
    listBoard listing { u := u, b := b, r := r } =
      if maySee u b r then (.present .full, after u b r) else (.absent, b) := by
  simp only [stepListings, List.mem_cons, List.mem_nil_iff, or_false] at hl
  rcases hl with rfl | rfl | rfl | rfl | rfl | rfl
  -- what `kindOK` asks of the board, listing by listing (`case'` leaves the goal open); LoadBoardsByBids shows any board
  case' inl =>
    have hg : Spec.groupOrSymbolic b = false := by simpa [kindOK] using (hk : kindOK "LoadGeneralBoards" b = true)
  case' inr.inl =>
    have hg : Spec.groupOrSymbolic b = false := by simpa [kindOK] using (hk : kindOK "LoadAutoCompleteBoards" b = true)
  case' inr.inr.inr.inl =>
    have hg : Spec.groupOrSymbolic b = false := by simpa [kindOK] using (hk : kindOK "LoadHotBoards" b = true)
  case' inr.inr.inr.inr.inl =>
    have hg : Spec.groupOrSymbolic b = true := by simpa [kindOK] using (hk : kindOK "LoadFullClassBoards" b = true)
  case' inr.inr.inr.inr.inr =>
    have hg : Spec.groupOrSymbolic b = true := by simpa [kindOK] using (hk : kindOK "LoadClassBoards" b = true)
  -- the run of the listing's stat function on a board of that kind (`*`: `hg`), then the common tail
  all_goals
    rw [listBoard]
    simp [listing_sources, Gen.ReadEntryPoints.statFns, test_GROUPSYM, *]
    exact listing_core u b r _ _

example : ∃ u b r, maySee u b r = true ∧ Spec.mayRead u b r = false :=
  ⟨⟨8209#32, false, 2⟩, ⟨48#32, 0#32⟩, ⟨false, false, false⟩, by decide⟩

/-- a listing never shows a masked entry: whoever is listed gets the title, whoever is not allowed gets nothing -/
theorem listing_never_masks (listing : String) (hl : listing ∈ stepListings) (u : UserView) (b : BoardView) (r : Relation)
    (hk : kindOK listing b = true) :
    (listBoard listing { u := u, b := b, r := r }).1 ≠ .present .masked := by
  rw [listing_filter listing hl u b r hk]; cases maySee u b r <;> simp

/-! ### single-board summary and detail -/

/-- ptt.LoadBoardSummary always answers for a valid bid; the title is there iff the caller may see the board. -/
theorem summary_masks_title (u : UserView) (b : BoardView) (r : Relation) :
    loadBoardSummary { u := u, b := b, r := r } =
      (.present (if maySee u b r then .full else .masked), after u b r) ∧
    Shape.hasTitle (if maySee u b r then .full else .masked) = maySee u b r := by
  constructor
  · simp [loadBoardSummary, Gen.ReadEntryPoints.summaryFns]
    rw [newBoardStat_decision, parseBoardSummary_decision]
    unfold maySee after
    rw [← boardPermStat_eq_spec, ← groupOp_eq_administers]
    exact ⟨rfl, rfl⟩
  · cases maySee u b r <;> rfl

/-- ptt.LoadBoardDetail hands out the header under the rule of the listings. -/
theorem detail_filter (u : UserView) (b : BoardView) (r : Relation) :
    loadBoardDetail { u := u, b := b, r := r } =
      if maySee u b r then (.present .full, after u b r) else (.absent, b) := by
  simp [loadBoardDetail, Gen.ReadEntryPoints.summaryFns]
  rw [newBoardStat_decision, ← Bool.not_or]
  unfold maySee after
  rw [← boardPermStat_eq_spec, ← groupOp_eq_administers]
  cases (boardPermStat u b r != NBRD_INVALID) || groupOp u r <;> rfl

/-- an invalid bid is refused by both single-board queries before anything else -/
theorem single_board_invalid_bid (u : UserView) (b : BoardView) (r : Relation) :
    (loadBoardSummary { u := u, b := b, r := r, bidInvalid := true }).1 = .invalidBid ∧
    (loadBoardDetail { u := u, b := b, r := r, bidInvalid := true }).1 = .invalidBid := by
  simp [loadBoardSummary, loadBoardDetail, Gen.ReadEntryPoints.summaryFns, skippedOut]

end

/-! ### the listing-side write -/

/-- the header is rewritten exactly when a hidden, unmasked board is seen by a caller who is neither privileged nor
a friend; the write sets BRD_POSTMASK and nothing else. -/
theorem mutation_when (u : UserView) (b : BoardView) (r : Relation) :
    after u b r =
      if !Spec.sysop u && !(Spec.moderatorsBoard b && Spec.police u) && !Spec.moderator u r &&
          Spec.hidden b && !r.friend && !Spec.restricted b
      then setMask b else b := by
  unfold after; rw [boardPermStat_eq_BOARD]

theorem setMask_bits (b : BoardView) :
    Spec.restricted (setMask b) = true ∧ Spec.hidden (setMask b) = Spec.hidden b ∧
    Spec.adultOnly (setMask b) = Spec.adultOnly b ∧ Spec.groupOrSymbolic (setMask b) = Spec.groupOrSymbolic b ∧
    (setMask b).level = b.level := by
  simp [setMask, Spec.restricted, Spec.hidden, Spec.adultOnly, Spec.groupOrSymbolic, bit_setMask]

/-- `mayRead` is a function of the CURRENT attributes: once the mask is set on a hidden board, exactly the
privileged, the board's moderators and the listed friends read it — for every user, not only the one who listed. -/
theorem mayRead_after_mask (b : BoardView) (hb : Spec.hidden b = true) (u' : UserView) (r' : Relation) :
    Spec.mayRead u' (setMask b) r' =
      (Spec.sysop u' || (Spec.moderatorsBoard b && Spec.police u') || Spec.moderator u' r' || r'.friend) := by
  have h := setMask_bits b
  unfold Spec.mayRead
  rw [h.2.1, hb, h.1]
  simp [Spec.moderatorsBoard, h.2.2.2.2]

/-- the write never widens access -/
theorem mask_only_restricts (b : BoardView) (hb : Spec.hidden b = true) (u' : UserView) (r' : Relation)
    (h : Spec.mayRead u' (setMask b) r' = true) : Spec.mayRead u' b r' = true := by
  rw [mayRead_after_mask b hb, Bool.or_eq_true] at h
  unfold Spec.mayRead
  rw [hb, if_pos rfl, Bool.or_eq_true]
  rcases h with h | h
  · exact Or.inl h
  · exact Or.inr (by rw [h]; rfl)

/-- "list first, then read": the caller whose listing set the mask was shown the board (with its title) by that
listing, and is refused by every reader afterwards. -/
theorem list_then_read (listing : String) (hl : listing ∈ stepListings) (name : String) (hn : name ∈ requiredReaders)
    (u : UserView) (b : BoardView) (r : Relation) (hk : kindOK listing b = true)
    (hm : after u b r ≠ b) :
    (listBoard listing { u := u, b := b, r := r }).1 = .present .full ∧
    runEntry name { u := u, b := (listBoard listing { u := u, b := b, r := r }).2, r := r, bidValid := true, precheck := false } = .deny := by
  have hB : (boardPermStat u b r == NBRD_BOARD) = true := by
    unfold after at hm
    cases h : (boardPermStat u b r == NBRD_BOARD)
    · rw [h] at hm; exact absurd rfl hm
    · rfl
  have hsee : maySee u b r = true := by
    unfold maySee; rw [← boardPermStat_eq_spec, eq_of_beq hB]; rfl
  have hfacts := hB
  rw [boardPermStat_eq_BOARD] at hfacts
  simp only [Bool.and_eq_true, Bool.not_eq_true'] at hfacts
  obtain ⟨⟨⟨⟨⟨h1, h2⟩, h3⟩, h4⟩, h5⟩, _⟩ := hfacts
  rw [listing_filter listing hl u b r hk, hsee]
  refine ⟨rfl, ?_⟩
  rw [entry_refines name hn _ rfl]
  simp only [after, hB, ↓reduceIte]
  rw [mayRead_after_mask b h4, h1, h2, h3, h5]
  rfl

example : ∃ u b r, after u b r ≠ b :=
  ⟨⟨17#32, false, 2⟩, ⟨16#32, 0#32⟩, ⟨false, false, false⟩, by decide⟩

/-! ### the named-moderator test: ptt.is_uBM against the '/'-separated names

FULL statement — it does NOT hold for the code as it is:

    ∀ id bm, isUBM id bm = Spec.namedIn id bm

`is_uBM` looks at the FIRST occurrence of the id only, and takes any non-alphanumeric byte for a separator.  Both
deviations are proved below with concrete witnesses; the theorems that do hold are the leak direction (soundness,
for every registered-style id and every moderator string made of ids and '/') and equality when no other moderator's
name contains the id. -/

/-- a named moderator the code does not recognise (first occurrence sits inside a longer name) -/
theorem is_uBM_misses_named :
    let id := "Kahou".toUTF8.toList.map (·.toNat); let bm := "Kahou2/Kahou".toUTF8.toList.map (·.toNat)
    Spec.namedIn id bm = true ∧ isUBM id bm = false := by decide +kernel

/-- junk separators: recognised by the code, not a '/'-separated name -/
theorem is_uBM_junk_separator :
    let id := "Kahou2".toUTF8.toList.map (·.toNat); let bm := "Kahou2.x".toUTF8.toList.map (·.toNat)
    Spec.namedIn id bm = false ∧ isUBM id bm = true := by decide +kernel

/-- an id that is a proper prefix of the LAST name is refused (the boundary of the "nothing follows the id" test):
"Kahou" is not a moderator of "Kahou2", "SYSOP/Kahou2" -/
theorem is_uBM_lookalike_refused :
    let id := "Kahou".toUTF8.toList.map (·.toNat)
    isUBM id ("Kahou2".toUTF8.toList.map (·.toNat)) = false ∧
    isUBM id ("SYSOP/Kahou2".toUTF8.toList.map (·.toNat)) = false ∧
    isUBM ("Kahou2".toUTF8.toList.map (·.toNat)) ("SYSOP/Kahou2".toUTF8.toList.map (·.toNat)) = true := by decide +kernel

/-- LEAK DIRECTION, all byte strings: for an alphanumeric non-empty id and a moderator string of ids and '/', whoever
is_uBM accepts IS one of the '/'-separated names. -/
theorem is_uBM_sound (id bm : List Nat) (hv : validId (cstr id)) (hw : wellFormedBM (cstr bm))
    (h : isUBM id bm = true) : Spec.namedIn id bm = true := by
  rw [namedIn_iff id bm hv.1]
  rw [isUBM_eq_scan id bm hv.1] at h
  have := scan_sound (cstr id) hv (cstr bm) hw none h
  rwa [avail_none] at this

/-- conversely, a named moderator is recognised when no OTHER name of the list contains the id as a substring -/
theorem is_uBM_complete (id bm : List Nat) (hv : validId (cstr id)) (hw : wellFormedBM (cstr bm))
    (hn : noLookalike (cstr id) (Spec.splitSlash (cstr bm))) (h : Spec.namedIn id bm = true) : isUBM id bm = true := by
  rw [isUBM_eq_scan id bm hv.1]
  apply scan_complete (cstr id) hv (cstr bm) hw none
  · exact fun h => Bool.noConfusion h
  · rw [avail_none]; exact hn
  · rw [avail_none]; exact (namedIn_iff id bm hv.1).1 h

/-- `isUBM = Spec.namedIn` under exactly the hypothesis the first witness above (`is_uBM_misses_named`) violates -/
theorem is_uBM_eq_spec_partial (id bm : List Nat) (hv : validId (cstr id)) (hw : wellFormedBM (cstr bm))
    (hn : noLookalike (cstr id) (Spec.splitSlash (cstr bm))) : isUBM id bm = Spec.namedIn id bm := by
  cases h : Spec.namedIn id bm
  · cases h' : isUBM id bm
    · rfl
    · rw [is_uBM_sound id bm hv hw h'] at h; exact absurd h (by simp)
  · exact is_uBM_complete id bm hv hw hn h

-- "Kahou2" and "SYSOP/Kahou2"
example : validId (cstr [75, 97, 104, 111, 117, 50]) ∧ wellFormedBM (cstr [83, 89, 83, 79, 80, 47, 75, 97, 104, 111, 117, 50]) ∧
    noLookalike (cstr [75, 97, 104, 111, 117, 50]) (Spec.splitSlash (cstr [83, 89, 83, 79, 80, 47, 75, 97, 104, 111, 117, 50])) := by
  unfold validId wellFormedBM noLookalike
  decide

/-- with the named-moderator fact computed by is_uBM, "administers" never holds for a caller who neither has
PERM_BOARD nor is one of the names -/
theorem administers_sound (u : UserView) (r : Relation) (id bm : List Nat) (hr : r.namedBM = isUBM id bm)
    (hv : validId (cstr id)) (hw : wellFormedBM (cstr bm)) (h : Spec.administers u r = true) :
    Spec.boardAdmin u = true ∨ Spec.namedIn id bm = true := by
  unfold Spec.administers at h
  rw [Bool.or_eq_true] at h
  rcases h with h | h
  · exact Or.inl h
  · exact Or.inr (is_uBM_sound id bm hv hw (hr ▸ h))

/-! ### who the caller is: ptt.InitCurrentUser behind every bbs entry point

"Whether a user may see a board's content is a fixed function of the USER": the account a client-supplied id designates
(lookup ignores letter case) and the permissions it acts with must not depend on how the id was spelled. -/

/-- the source special-cases the built-in accounts by the id of the LOADED record: guest first, then SYSOP -/
theorem init_special_source :
    Gen.ReadEntryPoints.initCurrentUserSpecial =
      [("loaded", [103, 117, 101, 115, 116], "pwcuInitGuestPerm"), ("loaded", [83, 89, 83, 79, 80], "pwcuInitAdminPerm")] := rfl

/-- two spellings that differ in letter case only give the same account, the same uid and the same permissions —
for every user table, every stored record and every pair of spellings. -/
theorem spelling_irrelevant (tbl : UserTable) (stored : W) (o18 : Bool) (s1 s2 : List Nat) (h : caseEq s1 s2 = true) :
    initCurrentUser tbl stored o18 s1 = initCurrentUser tbl stored o18 s2 := by
  unfold initCurrentUser initCurrentUserWith
  -- the one fact about the source: every entry of the regenerated list compares the id of the LOADED record
  have hl : ∀ e ∈ Gen.ReadEntryPoints.initCurrentUserSpecial, e.1 = "loaded" := by decide
  simp only [searchUser_caseEq tbl s1 s2 h, caseEq_headD_zero s1 s2 h,
    fun recId => applySpecials_loaded s1 s2 recId _ stored hl]

/-- hence every read entry point answers the same for both spellings -/
theorem same_decision_any_spelling (tbl : UserTable) (stored : W) (o18 : Bool) (s1 s2 : List Nat) (h : caseEq s1 s2 = true)
    (entry : String) (b : BoardView) (r : Relation) (valid : Bool) :
    (match initCurrentUser tbl stored o18 s1 with
     | .ok _ _ u => some (runEntry entry { u := u, b := b, r := r, bidValid := valid, precheck := false })
     | _ => none) =
    (match initCurrentUser tbl stored o18 s2 with
     | .ok _ _ u => some (runEntry entry { u := u, b := b, r := r, bidValid := valid, precheck := false })
     | _ => none) := by
  rw [spelling_irrelevant tbl stored o18 s1 s2 h]

/-- whatever is stored in its record and however its id is spelled, the guest account acts with no permission bit and
the SYSOP account with the administrator's, which reads every board -/
theorem builtin_accounts (tbl : UserTable) (stored : W) (o18 : Bool) (s : List Nat) (uid : Int) (id : List Nat) (u : UserView)
    (h : initCurrentUser tbl stored o18 s = .ok uid id u) :
    (cstr id = [103, 117, 101, 115, 116] → u.level = 0#32) ∧
    (cstr id = [83, 89, 83, 79, 80] → ∀ b r, Spec.mayRead u b r = true) := by
  have hlv := initCurrentUserWith_ok h
  simp only [Gen.ReadEntryPoints.initCurrentUserSpecial, applySpecials, ↓reduceIte, cstrEq] at hlv
  -- with the id of the record known, the byte comparisons with the two built-in names evaluate
  constructor
  · intro hg
    rw [hg] at hlv
    exact (Except.ok.inj hlv).symm
  · intro hs b r
    rw [hs] at hlv
    have hsys : Spec.sysop u = true := by
      unfold Spec.sysop; rw [← Except.ok.inj hlv]; decide
    simp [Spec.mayRead, hsys]

/-- `spelling_irrelevant` rests on WHOSE id is compared: special-casing by the id the CALLER typed makes "sysop" and
"SYSOP" two different users of the same account (default fixture table, stored bits 037) -/
theorem special_by_supplied_splits_account :
    let tbl : UserTable := [(1, [83, 89, 83, 79, 80]), (5, [103, 117, 101, 115, 116])]
    let bySupplied := [("supplied", [103, 117, 101, 115, 116], "pwcuInitGuestPerm"), ("supplied", [83, 89, 83, 79, 80], "pwcuInitAdminPerm")]
    initCurrentUserWith bySupplied tbl 31#32 false [115, 121, 115, 111, 112] ≠ initCurrentUserWith bySupplied tbl 31#32 false [83, 89, 83, 79, 80] ∧
    initCurrentUser tbl 31#32 false [115, 121, 115, 111, 112] = initCurrentUser tbl 31#32 false [83, 89, 83, 79, 80] := by
  decide +kernel

/-! ### who moderates a board: cache.ResetBoard → buildBMCache → ParseBMList

"moderator OF THAT BOARD": the moderator cache of a board is a function of that board's own moderator string (and the
user table), whatever boards were created or reset before. -/

/-- ParseBMList writes into a freshly allocated array (read from the source) -/
theorem bmlist_fresh_array : Gen.ReadEntryPoints.parseBMListFreshArray = true := by decide

theorem parseBMList_length (tbl : UserTable) (bm : List Nat) : (parseBMList tbl bm).length = MAX_BMs := by
  unfold parseBMList
  have := parseLoop_length tbl (Spec.splitSlash (cstr bm)) [] (by simp)
  simp; omega

/-- every cached moderator of a board is a valid uid found under one of the '/'-separated names of THAT board's
moderator string; the other slots hold -1 -/
theorem moderators_come_from_own_string (tbl : UserTable) (bm : List Nat) (u : Int) (h : u ∈ parseBMList tbl bm) :
    u = -1 ∨ (uidValid u = true ∧ ∃ n ∈ Spec.splitSlash (cstr bm), searchUser tbl (n.take 13) = u) := by
  unfold parseBMList at h
  rcases List.mem_append.1 h with h1 | h1
  · rcases parseLoop_mem tbl _ [] u h1 with h2 | h2
    · exact absurd h2 (by simp)
    · exact Or.inr h2
  · left; exact (List.mem_replicate.1 h1).2

/-- the moderator string of the last reset of `bid` in a history -/
def lastReset (bid : Int) : List (Int × List Nat) → Option (List Nat)
  | [] => none
  | e :: rest =>
    match lastReset bid rest with
    | some bm => some bm
    | none => if e.1 = bid then some e.2 else none

def runResets (tbl : UserTable) (st : BMCacheSt) (hist : List (Int × List Nat)) : BMCacheSt :=
  hist.foldl (fun st e => buildBMCache tbl st e.1 e.2) st

/-- for EVERY history of board creations / resets: the moderator cache of a board is the parse of the moderator string
of ITS last reset — nothing of the boards handled before or in between carries over. -/
theorem moderator_cache_history_independent (tbl : UserTable) (hist : List (Int × List Nat)) (st : BMCacheSt) (bid : Int) :
    bmCacheOf (runResets tbl st hist) bid =
      match lastReset bid hist with
      | some bm => parseBMList tbl bm
      | none => bmCacheOf st bid := by
  induction hist generalizing st with
  | nil => rfl
  | cons e rest ih =>
    unfold runResets at ih ⊢
    simp only [List.foldl_cons]
    rw [ih]
    rw [lastReset]
    cases hl : lastReset bid rest with
    | some bm => rfl
    | none =>
      simp only []
      rw [bmCacheOf_build]
      by_cases he : e.1 = bid <;> simp [he]

/-- so an account that the board's own last moderator string does not name is not in that board's cache -/
theorem no_moderator_carry_over (tbl : UserTable) (hist : List (Int × List Nat)) (bid : Int) (bm : List Nat) (u : Int)
    (hl : lastReset bid hist = some bm) (hu : uidValid u = true)
    (hn : ∀ n ∈ Spec.splitSlash (cstr bm), searchUser tbl (n.take 13) ≠ u) :
    u ∉ bmCacheOf (runResets tbl [] hist) bid := by
  rw [moderator_cache_history_independent, hl]
  intro hm
  rcases moderators_come_from_own_string tbl bm u hm with h1 | ⟨_, n, hn1, hn2⟩
  · subst h1; simp [uidValid] at hu
  · exact hn n hn1 hn2

/-- ParseBMList writing into one SHARED array -/
def parseShared (tbl : UserTable) (shared : List Int) (bm : List Nat) : List Int :=
  let found := parseLoop tbl (Spec.splitSlash (cstr bm)) []
  found ++ shared.drop found.length

/-- `bmlist_fresh_array` matters: with a shared array the moderators of the board parsed before stay in the slots a
shorter list does not overwrite (board B, no moderators, gets A's) -/
theorem shared_array_carries_moderators_over :
    let tbl : UserTable := [(3, [98, 117, 100, 100, 121]), (4, [111, 116, 104, 101, 114])]
    let a := parseShared tbl [-1, -1, -1, -1] [98, 117, 100, 100, 121, 47, 111, 116, 104, 101, 114]   -- board A: "buddy/other"
    let b := parseShared tbl a []                                                                          -- board B: no moderators
    b = [3, 4, -1, -1] ∧ parseBMList tbl [] = [-1, -1, -1, -1] := by decide +kernel

/-! ### listing results are values

A caller still holds the list a listing returned (the bbs conversion loop, a request served concurrently) while the next
listing runs: what it holds must stay what its own call produced. -/

/-- ptt.showBoardList makes the list it returns and hands it to nothing that outlives the call (read from the source) -/
theorem showBoardList_fresh : Gen.ReadEntryPoints.showBoardListFresh = true := by decide

theorem runListings_fresh {α} (h : Heap α) (rs : List (List α)) :
    runListings true h rs = ({ cells := h.cells ++ rs }, List.range' h.cells.length rs.length) := by
  induction rs generalizing h with
  | nil => simp [runListings]
  | cons r rs ih =>
    simp only [runListings, handOut, ↓reduceIte]
    rw [ih]
    simp [List.range'_succ]

/-- for EVERY history of listing calls and every heap before it: each caller's handle still shows exactly what its own
call produced, and whatever was held before the history is untouched. -/
theorem held_listings_stable {α} (h : Heap α) (rs : List (List α)) :
    let out := runListings true h rs
    out.2.length = rs.length ∧
    (∀ i (hi : i < rs.length), deref out.1 (out.2.getD i 0) = rs[i]) ∧
    (∀ k, k < h.cells.length → deref out.1 k = deref h k) := by
  rw [runListings_fresh]
  refine ⟨by simp, ?_, ?_⟩
  · intro i hi
    have hk : (List.range' h.cells.length rs.length).getD i 0 = h.cells.length + i := by
      rw [List.getD_eq_getElem?_getD, List.getElem?_range' (by exact hi)]; simp
    simp only [hk, deref, List.getD_eq_getElem?_getD]
    rw [List.getElem?_append_right (by omega)]
    simp [hi]
  · intro k hk
    simp only [deref, List.getD_eq_getElem?_getD]
    rw [List.getElem?_append_left hk]

/-- `showBoardList_fresh` matters: with ONE pooled list handed out again and again, the list a plain caller holds
(`[3]`: the public board) shows the site administrator's listing (`[2, 3]`: the hidden board too) after the next call -/
theorem pooled_list_is_overwritten :
    let out := runListings false ({ cells := [] } : Heap Nat) [[3], [2, 3]]
    deref out.1 (out.2.getD 0 0) = [2, 3] ∧
    deref (runListings true ({ cells := [] } : Heap Nat) [[3], [2, 3]]).1 0 = [3] := by decide

/-! ### the friend list expires; the multi-board query answers per request entry -/

/-- once the cached friend list is older than the expiry, the board's file governs — also for a caller who is still on
the stale cached list; a list younger than the expiry governs as cached -/
theorem expired_list_follows_file (cached inFile : Bool) :
    (hbflFriend cached inFile true).1 = inFile ∧ (hbflFriend cached inFile false).1 = cached := by
  simp [hbflFriend]

/-- a caller taken off the friend file of a hidden, restricted board is refused by the rule once the cached list has
expired (unless privileged or a moderator), whatever the cached list still says -/
theorem removed_friend_refused_after_expiry (u : UserView) (b : BoardView) (r : Relation) (cached : Bool)
    (hs : Spec.sysop u = false) (hp : (Spec.moderatorsBoard b && Spec.police u) = false) (hm : Spec.moderator u r = false)
    (hh : Spec.hidden b = true) (hr : Spec.restricted b = true) :
    Spec.mayRead u b { r with friend := (hbflFriend cached false true).1 } = false := by
  have hm' : Spec.moderator u { r with friend := false } = false := by simpa [Spec.moderator] using hm
  simp [Spec.mayRead, hbflFriend, hs, hp, hm', hh, hr]

/-- IsHiddenBoardFriend with the cached list scanned BEFORE its age is looked at -/
def hbflScanFirst (cached inFile expired : Bool) : Bool := if cached then true else if expired then inFile else false

/-- the order of `hbflFriend` matters: scanning first keeps a friend who was removed from the file and is still on the
expired cached list -/
theorem scan_before_expiry_keeps_removed_friend :
    hbflScanFirst true false true = true ∧ (hbflFriend true false true).1 = false := by decide

/-- bbs.IsBoardsValidUser: the answer under request entry i is the answer for entry i, whatever stands before it -/
theorem multi_query_per_entry {ε} (answer : ε → MultiAns) (request : List ε) (i : Nat) :
    (boardsValid answer request)[i]? = request[i]?.map answer := by
  simp [boardsValid]

/-- IsBoardsValidUser with the answers stored under the index into the FILTERED request (ids ToRaw refuses dropped) -/
def boardsValidShifted {ε} (answer : ε → MultiAns) (request : List ε) : List MultiAns :=
  let kept := (request.map answer).filter (· != .none)
  kept ++ List.replicate (request.length - kept.length) .none

/-- per-entry answering matters: indexing into the filtered request moves every answer behind a dropped id forward —
the hidden board (entry 1) receives the public board's `valid` -/
theorem filtered_index_misattributes :
    let answer : Nat → MultiAns := fun e => if e = 0 then .none else if e = 1 then .invalid else .valid   -- stale id, hidden, public
    boardsValidShifted answer [0, 1, 2] = [.invalid, .valid, .none] ∧ boardsValid answer [0, 1, 2] = [.none, .invalid, .valid] := by
  decide

end PttVerif.C07.Props
