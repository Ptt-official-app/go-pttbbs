import PttVerif.Proofs.C20Loader
/-
C20 — A user's balance is the same in shared memory and .PASSWDS and never negative.

Reading.  `Bal = slot → Int` is the abstract account table with plain integer arithmetic (`specStep`).
`Agree s b D`: the state `s` (SHM array of MAX_USERS int32, .PASSWDS of exactly MAX_USERS records) holds `b` in
SHM on every valid slot and in the `Money` field of the record of every valid slot in `D`.  `NoOverflow b o` is
the property's "values that do not overflow": amounts are int32, a debit is not -2^31 (its negation does not
exist in int32) and the sum that is stored is an int32.
-/
namespace PttVerif.C20.Props
open PttVerif PttVerif.C20

/-! #### what the source says (regenerated data) -/

/-- `passwdUpdateMoney` takes `unsafe.Offsetof` of the field called `Money`; that offset and the stride of its
`Seek` are the offset of `UserecRaw.Money` and `Sizeof(UserecRaw)`; the field is 4 bytes inside the record and
the value written is a little-endian int32. -/
theorem source_layout :
    Gen.Money.writtenField = "Money" ∧ Gen.Money.writtenOffset = Gen.Money.moneyOffset ∧
    Gen.Money.stride = Gen.Money.recSize ∧ Gen.Money.moneyOffset + 4 ≤ Gen.Money.recSize ∧
    Gen.Money.moneySize = 4 ∧ Gen.Money.littleEndian = true ∧ Gen.Money.valueBits = 32 := gen_layout

/-- the slot guards written in `SetUMoney`, `DeUMoney` and `passwdUpdateMoney` let through exactly the slots
`1 ≤ uid ≤ MAX_USERS` (first and last included), for every integer `uid`. -/
theorem guard_accepts_exactly_valid_slots (u : Int) :
    (rejects Gen.Money.setGuard u = false ↔ Valid u) ∧
    (rejects Gen.Money.deGuard u = false ↔ Valid u) ∧
    (rejects Gen.Money.passwdGuard u = false ↔ Valid u) :=
  ⟨setGuard_iff u, deGuard_iff u, passwdGuard_iff u⟩

/-- in `ptt.SetupNewUser` (calls in source order, regenerated), what follows `cache.SetUserID` is: set the balance
(`cache.SetUMoney`), then write the record (`passwdSyncUpdate`) — in that order, nothing else. -/
theorem registration_sets_money_before_record :
    (Gen.Reg.setupNewUserCalls.dropWhile (· != "setUserID")).drop 1 = ["setMoney", "writeRecord"] := regOrder_eq

/-! #### one step refines the abstract table -/

/-- what the abstract table says an operation answers (`none`: `MoneyOf` on an invalid slot, not specified). -/
def specAns (b : Bal) : Op → Option (Int × Err)
  | .set u m => if Valid u then some (m, .none) else some (-1, .invalidUID)
  | .de u m => if Valid u then some (deNew (b u) m, .none) else some (-1, .invalidUID)
  | .get u => if Valid u then some (b u, .none) else none
  | .sync u _ perm => if Valid u then some (Int.ofNat perm, .none) else some (0, .invalidUID)
  | .load u => if Valid u then some (b u, .none) else some (0, .invalidUserID)
  | .newuser u _ _ => if Valid u then some (0, .none) else some (0, .invalidUID)

/-- every operation, on every slot (valid or not), inside int32: the new state represents the new abstract table
— SHM on every valid slot, .PASSWDS on every slot that agreed before or was just written — and the answer is
the abstract answer. -/
theorem money_refines (s : State) (b : Bal) (D : Int → Prop) (o : Op) (h : Agree s b D) (hno : NoOverflow b o) :
    Agree (step s o).1 (specStep b o) (fun w => D w ∨ writes o w) ∧
    ∀ r, specAns b o = some r → (step s o).2 = .ok r := by
  refine ⟨agree_step s b D o h hno, fun r hr => ?_⟩
  -- `specAns` is an `if` on the validity of the slot: `hr` names its value in either case
  by_cases hu : Valid (slotOf o)
  · obtain ⟨hs, f, hf, hlen⟩ := h.1
    rw [step_valid s f o _ hs hf hlen (recOK_of_noOverflow hno) hu (h.2.1 _ hu).1]
    cases o with
    | set u m | get u | load u | sync u rec perm | newuser u rec m =>
        cases (if_pos hu).symm.trans hr
        rfl
    | de u m =>
        cases (if_pos hu).symm.trans hr
        rw [← deVal_eq_deNew (b u) m hno.1 (hno.2 hu).1 (hno.2 hu).2]; rfl
  · cases o with
    | set u m =>
        cases (if_neg hu).symm.trans hr
        exact congrArg Prod.snd (setUMoney_invalid s u m hu)
    | de u m =>
        cases (if_neg hu).symm.trans hr
        exact congrArg Prod.snd (deUMoney_invalid s u m hu)
    | get u => cases (if_neg hu).symm.trans hr
    | sync u rec perm =>
        cases (if_neg hu).symm.trans hr
        exact congrArg Prod.snd (setUserPerm_invalid s u rec perm hu)
    | load u =>
        cases (if_neg hu).symm.trans hr
        simp only [step]
        rw [passwdQuery_invalid s u hu]
    | newuser u rec m =>
        cases (if_neg hu).symm.trans hr
        simp only [step]
        rw [newuser_invalid s u m rec hu]
        rfl

/-! #### histories -/

/-- after ANY sequence of set / credit / debit / read operations and whole-record writes (`ptt.SetUserPerm`
with ANY record the caller may hold — however stale its Money), record loads and registrations into ANY slot
(whatever balance the slot still held), interleaved in any order, on ANY slots, whose arithmetic stays inside int32,
starting from a state where SHM and .PASSWDS hold `b₀`: for every valid slot (first and last included) the SHM value,
the little-endian int32 in the `Money` bytes of the slot's record and the abstract balance are the same; the state is
still well-formed. -/
theorem money_history (s₀ : State) (b₀ : Bal) (os : List Op) (h : Agree s₀ b₀ (fun _ => True))
    (hno : NoOverflowRun b₀ os) :
    WF (run s₀ os) ∧ ∀ u, Valid u →
      shmAt (run s₀ os) u = some (specRun b₀ os u) ∧ diskAt (run s₀ os) u = some (specRun b₀ os u) := by
  have := agree_run os s₀ b₀ _ h hno
  exact ⟨this.1, fun u hu => ⟨(this.2.1 u hu).1, this.2.2 u hu (Or.inl trivial)⟩⟩

/-- the same from a start in which .PASSWDS agrees with SHM only on the slots in `D` (possibly none): SHM
follows the abstract table everywhere, .PASSWDS on every slot of `D` and on every slot a writing operation
addressed. -/
theorem money_history_from_unsynced (s₀ : State) (b₀ : Bal) (D : Int → Prop) (os : List Op)
    (h : Agree s₀ b₀ D) (hno : NoOverflowRun b₀ os) :
    ∀ u, Valid u →
      shmAt (run s₀ os) u = some (specRun b₀ os u) ∧
      ((D u ∨ ∃ o ∈ os, writes o u) → diskAt (run s₀ os) u = some (specRun b₀ os u)) := by
  have := agree_run os s₀ b₀ D h hno
  exact fun u hu => ⟨(this.2.1 u hu).1, this.2.2 u hu⟩

/-- all balances stay int32 values along such a history. -/
theorem money_history_int32 (s₀ : State) (b₀ : Bal) (D : Int → Prop) (os : List Op)
    (h : Agree s₀ b₀ D) (hno : NoOverflowRun b₀ os) : ∀ u, Valid u → Int32 (specRun b₀ os u) :=
  fun u hu => ((agree_run os s₀ b₀ D h hno).2.1 u hu).2

/-! #### a debit larger than the balance leaves 0 -/

theorem debit_below_zero_leaves_zero (s : State) (b : Bal) (D : Int → Prop) (u m : Int) (h : Agree s b D)
    (hu : Valid u) (hm : Int32 m) (hmin : m ≠ -2147483648) (hneg : m < 0) (hlt : b u < -m) :
    (step s (.de u m)).2 = .ok (0, .none) ∧
    shmAt (step s (.de u m)).1 u = some 0 ∧ diskAt (step s (.de u m)).1 u = some 0 := by
  have hd : deNew (b u) m = 0 := if_pos ⟨hneg, hlt⟩
  have hr := de_result s b D u m h hu
  rwa [deVal_eq_deNew (b u) m hm hmin (by rw [hd]; decide), hd] at hr

/-! #### an invalid slot fails without writing -/

/-- for EVERY integer slot outside `1..MAX_USERS`, every amount and every state (no well-formedness needed):
`SetUMoney` and `DeUMoney` answer `(-1, ErrInvalidUID)` and the state — SHM and file — is unchanged. -/
theorem invalid_slot_noop (s : State) (u m : Int) (hu : ¬ Valid u) :
    step s (.set u m) = (s, .ok (-1, .invalidUID)) ∧ step s (.de u m) = (s, .ok (-1, .invalidUID)) :=
  ⟨setUMoney_invalid s u m hu, deUMoney_invalid s u m hu⟩

/-- no writing operation panics, whatever the slot, the amount and the file (present or not). -/
theorem writes_never_fault (s : State) (u m : Int) (hs : s.shm.length = MAX) :
    (∃ r, (step s (.set u m)).2 = .ok r) ∧ (∃ r, (step s (.de u m)).2 = .ok r) := by
  refine ⟨setUMoney_ok s u m hs, ?_⟩
  simp only [step]
  by_cases hu : Valid u
  · obtain ⟨cur, hc⟩ := shmAt_isSome s u hs hu
    rw [deUMoney_valid s u m cur hu hc]
    exact setUMoney_ok s u _ hs
  · rw [deUMoney_invalid s u m hu]; exact ⟨_, rfl⟩

/-! #### frame: nothing but the four Money bytes of the addressed record changes -/

/-- the bytes of `.PASSWDS` an operation addressed to the valid slot `u` may change: the four `Money` bytes of
record `u` for set / credit / debit, the whole record `u` for a whole-record write or a registration, nothing
for reads. -/
def span (o : Op) (u : Int) (i : Nat) : Prop :=
  match o with
  | .set _ _ | .de _ _ =>
      Gen.Money.recSize * (u - 1).toNat + Gen.Money.moneyOffset ≤ i ∧
      i < Gen.Money.recSize * (u - 1).toNat + Gen.Money.moneyOffset + 4
  | .sync _ _ _ | .newuser _ _ _ =>
      Gen.Money.recSize * (u - 1).toNat ≤ i ∧ i < Gen.Money.recSize * (u - 1).toNat + Gen.Money.recSize
  | _ => False

/-- EVERY operation (any slot, any amount, overflowing or not, any caller record of `recSize` bytes) on a
well-formed state: the file keeps its length, and every byte outside the span of the valid slot the operation
writes is unchanged — in particular all bytes when the slot is invalid or the operation is a read. -/
theorem money_frame (s : State) (f : List Nat) (o : Op) (hs : s.shm.length = MAX) (hf : s.file = some f)
    (hlen : f.length = Gen.Money.recSize * MAX) (hrec : RecOK o) :
    ∃ f', (step s o).1.file = some f' ∧ f'.length = f.length ∧
      ∀ i, (∀ u, Valid u → writes o u → ¬ span o u i) → f'[i]? = f[i]? := by
  rcases step_cases s f o hs hf hlen hrec with e | ⟨v, x, off, bs, hu, he, e⟩
  · rw [e]; exact ⟨f, hf, rfl, fun _ _ => rfl⟩
  · rw [e]
    have hin := inRecord_inside f _ off bs.length hlen hu (effect_stamps hrec he).1
    refine ⟨_, rfl, writeAt_length _ _ _ hin, fun i hi => ?_⟩
    rw [getElem?_writeAt _ _ _ _ hin, if_neg]
    -- the bytes written are the span of the operation
    intro hr
    apply hi _ hu (effect_writes he)
    cases o with
    | set _ _ | de _ _ => cases he; exact hr
    | sync _ rec perm =>
        cases he
        rw [recSetMoney_length _ _ (recSetLevel_length rec perm hrec)] at hr
        exact hr
    | newuser _ rec _ =>
        cases he
        rw [recSetMoney_length rec _ hrec] at hr
        exact hr
    | get _ | load _ => cases he

/-- EVERY operation: the record of every other valid slot is byte-identical, and the SHM entry of every other
valid slot is unchanged. -/
theorem other_records_identical (s : State) (f : List Nat) (o : Op) (hs : s.shm.length = MAX)
    (hf : s.file = some f) (hlen : f.length = Gen.Money.recSize * MAX) (hrec : RecOK o) (v : Int) (hv : Valid v)
    (hnw : ¬ writes o v) :
    (∃ f', (step s o).1.file = some f' ∧ record f' v = record f v) ∧
    shmAt (step s o).1 v = shmAt s v :=
  step_frame s f o v hs hf hlen hrec hv hnw

/-! #### the whole-record path keeps SHM and .PASSWDS in step -/

/-- `ptt.SetUserPerm(_, u, rec, perm)` → `passwdSyncUpdate` on a valid slot, for ANY record `rec` the caller holds
(`recSize` bytes; its Money field may be arbitrarily stale): it succeeds; afterwards the Money bytes of record `u`
decode to the SHM value = the abstract balance (SHM itself is untouched); every other byte of record `u` is the
caller's record with the new UserLevel; the UserLevel bytes hold `perm`; all other records are byte-identical. -/
theorem syncupdate_keeps_agreement (s : State) (b : Bal) (D : Int → Prop) (u : Int) (rec : List Nat) (perm : Nat)
    (h : Agree s b D) (hu : Valid u) (hr : rec.length = Gen.Money.recSize) :
    (step s (.sync u rec perm)).2 = .ok (Int.ofNat perm, .none) ∧
    shmAt (step s (.sync u rec perm)).1 u = some (b u) ∧
    diskAt (step s (.sync u rec perm)).1 u = some (b u) ∧
    (step s (.sync u rec perm)).1.shm = s.shm ∧
    ∃ f', (step s (.sync u rec perm)).1.file = some f' ∧
      (∀ j, ¬ (Gen.Money.moneyOffset ≤ j ∧ j < Gen.Money.moneyOffset + 4) →
          (record f' u)[j]? = (recSetLevel rec perm)[j]?) ∧
      ((record f' u).drop Gen.Money.userLevelOffset).take 4 = le32 (Int.ofNat perm) ∧
      ∀ v, Valid v → v ≠ u → ∃ f, s.file = some f ∧ record f' v = record f v := by
  have hag := agree_effect s b D (.sync u rec perm) _ _ _ h hr hu rfl (h.2.1 u hu).2
  obtain ⟨hshm, hdisk⟩ := agree_written hag hu
  rw [upd_same] at hshm hdisk
  obtain ⟨⟨hs, f, hf, hlen⟩, hb, _⟩ := h
  have hl := recSetLevel_length rec perm hr
  obtain ⟨hown, hother⟩ := record_synced f u (b u) _ hlen hl hu
  have hst : step s (.sync u rec perm) = _ := setUserPerm_valid s f u (b u) rec perm hf hu (hb u hu).1
  refine ⟨by rw [hst], hshm, hdisk, by rw [hst]; rfl, ?_⟩
  · rw [hst]
    refine ⟨_, rfl, hown, ?_, fun v hv hne => ⟨f, hf, hother v hv hne⟩⟩
    -- the UserLevel bytes lie apart from the Money bytes, so they are those `recSetLevel` wrote
    rw [record_write_whole f u u _ hlen (recSetMoney_length _ (b u) hl) hu hu, if_pos rfl]
    obtain ⟨hlv, _, hdis⟩ := gen_level
    exact (slice_writeAt_disjoint _ (le32 (b u)) _ _ 4 (by rw [hl]; exact money_in_record) hdis).trans
      (slice_writeAt_same rec (le32 (Int.ofNat perm)) _ (by rw [hr]; exact hlv))

/-- an accepted registration (`ptt.SetupNewUser`, after the slot `u` was chosen) with starting balance `m`, on a slot
that may still hold ANY balance of a deleted user (in SHM, on disk, or both — `D` may exclude `u`): it succeeds;
afterwards SHM money = .PASSWDS money = `m`; every other byte of record `u` is the registration record; all other
records and all other SHM entries are unchanged. -/
theorem newuser_balance (s : State) (b : Bal) (D : Int → Prop) (u m : Int) (rec : List Nat)
    (h : Agree s b D) (hu : Valid u) (hm : Int32 m) (hr : rec.length = Gen.Money.recSize) :
    (step s (.newuser u rec m)).2 = .ok (0, .none) ∧
    shmAt (step s (.newuser u rec m)).1 u = some m ∧
    diskAt (step s (.newuser u rec m)).1 u = some m ∧
    ∃ f', (step s (.newuser u rec m)).1.file = some f' ∧
      (∀ j, ¬ (Gen.Money.moneyOffset ≤ j ∧ j < Gen.Money.moneyOffset + 4) → (record f' u)[j]? = rec[j]?) ∧
      ∀ v, Valid v → v ≠ u →
        shmAt (step s (.newuser u rec m)).1 v = shmAt s v ∧ ∃ f, s.file = some f ∧ record f' v = record f v := by
  have hag := agree_effect s b D (.newuser u rec m) _ _ _ h hr hu rfl hm
  obtain ⟨hshm, hdisk⟩ := agree_written hag hu
  rw [upd_same] at hshm hdisk
  obtain ⟨⟨hs, f, hf, hlen⟩, hb, _⟩ := h
  obtain ⟨hown, hother⟩ := record_synced f u m rec hlen hr hu
  have hst : step s (.newuser u rec m) = (putSlot s f u m 0 (recSetMoney rec m), .ok (0, .none)) :=
    step_valid s f (.newuser u rec m) _ hs hf hlen hr hu (hb u hu).1
  refine ⟨by rw [hst], hshm, hdisk, ?_⟩
  rw [hst]
  exact ⟨_, rfl, hown, fun v hv hne =>
    ⟨by rw [shmAt_putSlot s f u m v _ _ hs hu hv, if_neg hne], f, hf, hother v hv hne⟩⟩

/-- `passwdSyncQuery` (through `ptt.GetUser`) on a valid slot returns a record whose Money is the SHM value = the
abstract balance, whatever the Money bytes of .PASSWDS are; every other byte is the (bool-normalised) file record. -/
theorem syncquery_returns_balance (s : State) (b : Bal) (D : Int → Prop) (u : Int) (h : Agree s b D) (hu : Valid u) :
    ∃ f, s.file = some f ∧
      passwdSyncQuery s u = .ok (.ok (recSetMoney (normRec (record f u)) (b u))) := by
  obtain ⟨⟨_, f, hf, hlen⟩, hshm, _⟩ := h
  refine ⟨f, hf, ?_⟩
  unfold passwdSyncQuery
  rw [passwdQuery_valid s f u hf hlen hu]
  simp only [moneyOf_valid s u (b u) hu (hshm u hu).1]
  rfl

/-! #### locality: the justification of the per-slot expected image of the concurrent passes -/

/-- after ANY history (money operations, whole-record writes, loads, registrations, on any slots, overflowing or
not), what the property sees of a valid slot `u` — its SHM entry and its whole record — is what the operations
ADDRESSED TO `u` alone produce, in their order.  Operations addressed to other slots do not matter, wherever they
are interleaved. -/
theorem slot_result_depends_only_on_own_operations (s : State) (os : List Op) (u : Int) (h : WF s)
    (hrec : ∀ o ∈ os, RecOK o) (hu : Valid u) :
    slotView (run s os) u = slotView (run s (os.filter fun o => slotOf o = u)) u :=
  view_projection os u s s h h hrec hu rfl

/-- hence any two interleavings (at operation granularity) of the same per-slot programs end with the same SHM
entry and the same record in every valid slot: if every call is atomic, G concurrent writers of G different slots
must leave exactly the image that each slot's own program leaves — which is what the oracle of the concurrent
passes compares `.PASSWDS` and SHM with, bystander slots (empty program) included. -/
theorem interleavings_agree (s : State) (os₁ os₂ : List Op) (h : WF s) (h₁ : ∀ o ∈ os₁, RecOK o)
    (h₂ : ∀ o ∈ os₂, RecOK o)
    (hsame : ∀ u, Valid u → (os₁.filter fun o => slotOf o = u) = (os₂.filter fun o => slotOf o = u)) :
    ∀ u, Valid u → slotView (run s os₁) u = slotView (run s os₂) u := by
  intro u hu
  rw [view_projection os₁ u s s h h h₁ hu rfl, view_projection os₂ u s s h h h₂ hu rfl, hsame u hu]

/-- a bystander slot (no operation addressed to it) keeps its SHM entry and every byte of its record. -/
theorem bystander_untouched (s : State) (os : List Op) (u : Int) (h : WF s) (hrec : ∀ o ∈ os, RecOK o)
    (hu : Valid u) (hby : ∀ o ∈ os, slotOf o ≠ u) : slotView (run s os) u = slotView s u := by
  rw [view_projection os u s s h h hrec hu rfl]
  have : (os.filter fun o => slotOf o = u) = [] := by
    apply List.filter_eq_nil_iff.2
    intro o ho
    simpa using hby o ho
  rw [this]; rfl

/-- witness for the rule the concurrent passes guard (a whole-record write must put the CALLER's record, stamped
with the SHM balance of ITS slot, into its slot): if the bytes that reach slot `u` are a record stamped with
another balance `w` — what a shared encode buffer or a shared file offset produces — `.PASSWDS` and SHM disagree
on `u`. -/
theorem foreign_record_breaks_agreement (s : State) (b : Bal) (D : Int → Prop) (f : List Nat) (u w : Int)
    (rec : List Nat) (h : Agree s b D) (hf : s.file = some f) (hu : Valid u) (hr : rec.length = Gen.Money.recSize)
    (hw : Int32 w) (hne : w ≠ b u) :
    diskAt (afterSync s f u (recSetMoney rec w)) u = some w ∧
    shmAt (afterSync s f u (recSetMoney rec w)) u = some (b u) ∧
    diskAt (afterSync s f u (recSetMoney rec w)) u ≠ shmAt (afterSync s f u (recSetMoney rec w)) u :=
  unsynced_record_disagrees s b D f u w _ h hf hu (recSetMoney_length rec w hr)
    (by rw [recSetMoney_money rec w hr, dec32_le32 w hw]) hne

/-! #### the loader: where "SHM = .PASSWDS" comes from, under either value of the site configuration `USE_COOLDOWN`

The section rests on `MAX_USERS ≤ PRE_ALLOCATED_USERS` (third part of `loader_copies_money_unconditionally`; default
build 50 ≤ 1000); about a larger table these theorems say nothing (head comment of Proofs/C20Loader.lean). -/

/-- what the source says: the block of `cache.userecRawAddToUHash` that fills a slot from its record assigns
`Userid` and `Money` unconditionally; `ptttype.USE_COOLDOWN` guards nothing the balance depends on; and the
"skip invalid ids" counter cannot reach its limit on a table of MAX_USERS slots. -/
theorem loader_copies_money_unconditionally :
    "Money" ∈ Gen.Money.loaderCopies ∧ "Userid" ∈ Gen.Money.loaderCopies ∧
    Gen.Money.maxUsers ≤ Gen.Money.preAllocatedUsers := by decide +kernel

/-- the loader treats Userid / Money the same under `USE_COOLDOWN = true` and `= false`, on every file and every
segment. -/
theorem load_independent_of_cooldown (onfly : Bool) (ids : List (List Nat)) (s : State) :
    loadUHash onfly true ids s = loadUHash onfly false ids s := by
  unfold loadUHash
  have : loadRec onfly true = loadRec onfly false := by
    funext f st i; exact loadRec_cooldown onfly f st i
  rw [this]

/-- a fresh start (`Shm.Reset()`, `LoadUHash`) on a complete `.PASSWDS`, whatever SHM held before and under either
configuration value: it succeeds, the file is untouched, and every valid slot's SHM money is the Money of its
record — the state represents the table of the disk balances. -/
theorem fresh_load_establishes_agreement (cd : Bool) (s : State) (h : WF s) :
    (freshLoad cd s).2 = .ok .none ∧ (freshLoad cd s).1.2.file = s.file ∧
    ∃ b : Bal, (∀ u, Valid u → diskAt s u = some (b u)) ∧ Agree (freshLoad cd s).1.2 b (fun _ => True) := by
  obtain ⟨_, f, hf, hlen⟩ := h
  obtain ⟨h1, h2, h3, _, h5⟩ := loadUHash_complete false cd (List.replicate MAX (List.replicate IDSZ 0))
    { s with shm := List.replicate MAX 0 } f List.length_replicate List.length_replicate hf hlen
  refine ⟨h1, by rw [hf]; exact h2, fun u => fileMoney f (u - 1).toNat, ?_, ?_⟩
  · intro u hu; exact (diskAt_fileMoney s f u hf hlen hu).1
  · refine ⟨⟨h3, f, h2, hlen⟩, ?_, ?_⟩
    · intro u hu
      refine ⟨?_, (diskAt_fileMoney s f u hf hlen hu).2⟩
      exact (h5 u hu).trans (if_pos rfl)
    · intro u hu _
      exact (diskAt_fileMoney (freshLoad cd s).1.2 f u h2 hlen hu).1

/-- an on-the-fly reload on a complete `.PASSWDS`, for ANY contents of the SHM user-id array: a state in which SHM
and `.PASSWDS` agree stays so with the same balances. -/
theorem reload_keeps_agreement (cd : Bool) (ids : List (List Nat)) (s : State) (b : Bal)
    (h : Agree s b (fun _ => True)) (hi : ids.length = MAX) :
    (loadUHash true cd ids s).2 = .ok .none ∧ Agree (loadUHash true cd ids s).1.2 b (fun _ => True) := by
  obtain ⟨⟨hs, f, hf, hlen⟩, hshm, hdisk⟩ := h
  obtain ⟨h1, h2, h3, _, h5⟩ := loadUHash_complete true cd ids s f hs hi hf hlen
  have hfm : ∀ u, Valid u → some (fileMoney f (u - 1).toNat) = some (b u) := fun u hu =>
    (diskAt_fileMoney s f u hf hlen hu).1.symm.trans (hdisk u hu trivial)
  refine ⟨h1, ⟨h3, f, h2, hlen⟩, fun u hu => ⟨?_, (hshm u hu).2⟩, fun u hu _ => ?_⟩
  · rw [h5 u hu]
    split
    · exact hfm u hu
    · exact (hshm u hu).1
  · exact (diskAt_fileMoney _ f u h2 hlen hu).1.trans (hfm u hu)

/-- … and in any well-formed state every slot whose owner changed (its record's user id differs from the one in SHM)
ends with SHM money = the Money of its record. -/
theorem reload_refills_changed_owner (cd : Bool) (ids : List (List Nat)) (s : State) (f : List Nat) (u : Int)
    (h : WF s) (hf : s.file = some f) (hi : ids.length = MAX) (hu : Valid u)
    (hch : cstr (fileId f (u - 1).toNat) ≠ cstr (ids.getD (u - 1).toNat [])) :
    shmAt (loadUHash true cd ids s).1.2 u = diskAt (loadUHash true cd ids s).1.2 u := by
  obtain ⟨hs, f0, hf0, hlen⟩ := h
  cases hf.symm.trans hf0
  obtain ⟨_, h2, _, _, h5⟩ := loadUHash_complete true cd ids s f hs hi hf hlen
  have hc : reloadCond true f ids (u - 1).toNat = true := by
    unfold reloadCond
    rw [Bool.or_eq_true]; right
    exact bne_iff_ne.2 hch
  rw [h5 u hu, if_pos hc, (diskAt_fileMoney _ f u h2 hlen hu).1]

/-- start-up followed by ANY history inside int32 (credits, debits, sets, whole-record writes, registrations):
SHM, the record and plain arithmetic STARTING FROM THE DISK BALANCES agree on every valid slot. -/
theorem history_after_fresh_start (cd : Bool) (s : State) (h : WF s) :
    ∃ b : Bal, (∀ u, Valid u → diskAt s u = some (b u)) ∧
      ∀ os, NoOverflowRun b os → ∀ u, Valid u →
        shmAt (run (freshLoad cd s).1.2 os) u = some (specRun b os u) ∧
        diskAt (run (freshLoad cd s).1.2 os) u = some (specRun b os u) := by
  obtain ⟨_, _, b, hb, hag⟩ := fresh_load_establishes_agreement cd s h
  exact ⟨b, hb, fun os hno u hu => (money_history _ b os hag hno).2 u hu⟩

/-- witness for the rule the loader has to keep: if a slot's SHM money does not come from its record (SHM holds `b u`
while the record holds something else — `D` need not contain `u`), the next credit or debit writes
`deNew (b u) c` over the record: the balance that was on disk is gone. -/
theorem stale_shm_overwrites_disk_balance (s : State) (b : Bal) (D : Int → Prop) (u c : Int) (h : Agree s b D)
    (hu : Valid u) (hno : NoOverflow b (.de u c)) :
    diskAt (step s (.de u c)).1 u = some (deNew (b u) c) := by
  obtain ⟨hc, hrest⟩ := hno
  obtain ⟨hmin, hnew⟩ := hrest hu
  rw [(de_result s b D u c h hu).2.2, deVal_eq_deNew (b u) c hc hmin hnew]

/-! #### account expiry: the clean-up sweep is a whole-record writer too -/

/-- `ptt.killUser` on a valid slot (reached through `SetupNewUser → tryCleanUser → checkAndExpireAccount`): it
succeeds; SHM is untouched; the cleared record still carries the SHM balance in its Money bytes, so SHM money =
.PASSWDS money = the abstract balance of the removed account; every other byte of the record is 0; all other records
are byte-identical. -/
theorem kill_keeps_agreement (s : State) (b : Bal) (D : Int → Prop) (u : Int) (h : Agree s b D) (hu : Valid u) :
    (killUser s u).2 = .ok .none ∧ (killUser s u).1.shm = s.shm ∧
    shmAt (killUser s u).1 u = some (b u) ∧ diskAt (killUser s u).1 u = some (b u) ∧
    Agree (killUser s u).1 b (fun w => D w ∨ w = u) ∧
    ∃ f', (killUser s u).1.file = some f' ∧
      (∀ j, j < Gen.Money.recSize → ¬ (Gen.Money.moneyOffset ≤ j ∧ j < Gen.Money.moneyOffset + 4) →
          (record f' u)[j]? = some 0) ∧
      ∀ v, Valid v → v ≠ u → ∃ f, s.file = some f ∧ record f' v = record f v := by
  have hz : (List.replicate RSZ (0 : Nat)).length = Gen.Money.recSize := List.length_replicate
  have hp := agree_passwdSyncUpdate s b D u _ h hu hz
  obtain ⟨hshm, hdisk⟩ := agree_written hp.2 hu
  obtain ⟨⟨_, f, hf, hlen⟩, hb, _⟩ := h
  obtain ⟨hown, hother⟩ := record_synced f u (b u) _ hlen hz hu
  have hst : killUser s u = _ := passwdSyncUpdate_valid s f u (b u) _ hf hu (hb u hu).1
  refine ⟨hp.1, by rw [hst]; rfl, hshm, hdisk, hp.2, ?_⟩
  rw [hst]
  refine ⟨_, rfl, fun j hj hnm => ?_, fun v hv hne => ⟨f, hf, hother v hv hne⟩⟩
  rw [hown j hnm, List.getElem?_replicate]
  exact if_pos hj

/-- the clean-up sweep: `killUser` on any list of valid slots, one after the other. -/
def killAll (s : State) : List Int → State
  | [] => s
  | k :: ks => killAll (killUser s k).1 ks

/-- a whole sweep keeps SHM, `.PASSWDS` and the abstract table in step on EVERY slot, with the balances unchanged
(those of the removed accounts included), and brings every swept slot into step even if it was not before. -/
theorem sweep_keeps_agreement (ks : List Int) : ∀ (s : State) (b : Bal) (D : Int → Prop), Agree s b D →
    (∀ k ∈ ks, Valid k) → Agree (killAll s ks) b (fun w => D w ∨ w ∈ ks) := by
  induction ks with
  | nil =>
      intro s b D h _
      exact agree_weaken h fun _ _ hw => hw.elim id fun hm => absurd hm List.not_mem_nil
  | cons k ks ih =>
      intro s b D h hv
      obtain ⟨hk, hks⟩ := List.forall_mem_cons.1 hv
      have h1 := (kill_keeps_agreement s b D k h hk).2.2.2.2.1
      exact agree_weaken (ih _ b _ h1 hks) fun w _ hw => by simpa only [List.mem_cons, or_assoc] using hw

/-- witness for the rule `killUser` has to keep (clear the record THROUGH `passwdSyncUpdate`): writing the empty
record directly (`cmbbs.PasswdUpdate(uid, &UserecRaw{})`) leaves Money = 0 in `.PASSWDS` while SHM keeps the balance:
they disagree for every removed account that owned something. -/
theorem kill_without_sync_loses_balance (s : State) (b : Bal) (D : Int → Prop) (f : List Nat) (u : Int)
    (h : Agree s b D) (hf : s.file = some f) (hu : Valid u) (hne : b u ≠ 0) :
    diskAt (afterSync s f u (List.replicate RSZ 0)) u = some 0 ∧
    shmAt (afterSync s f u (List.replicate RSZ 0)) u = some (b u) ∧
    diskAt (afterSync s f u (List.replicate RSZ 0)) u ≠ shmAt (afterSync s f u (List.replicate RSZ 0)) u :=
  -- the money field of the empty record: four of its zero bytes
  have h0 : dec32? (((List.replicate RSZ 0).drop Gen.Money.moneyOffset).take 4) = some 0 := by
    have hin : 4 ≤ RSZ - Gen.Money.moneyOffset := Nat.le_sub_of_add_le' money_in_record
    rw [List.drop_replicate, List.take_replicate, Nat.min_eq_left hin]
    rfl
  unsynced_record_disagrees s b D f u 0 _ h hf hu List.length_replicate h0 (Ne.symm hne)

/-! #### renaming / re-assigning a slot -/

/-- `cache.SetUserID` on any slot, valid or not: SHM money and `.PASSWDS` are exactly as before, so every agreement
that held still holds with the same balances; it fails exactly on the slots outside `1..MAX_USERS`. -/
theorem setuserid_touches_no_balance (s : State) (b : Bal) (D : Int → Prop) (u : Int) :
    (setUserID s u).1 = s ∧ (Agree s b D → Agree (setUserID s u).1 b D) ∧
    ((setUserID s u).2 = .none ↔ Valid u) := by
  have e : (setUserID s u).1 = s := by unfold setUserID; split <;> rfl
  refine ⟨e, fun h => by rw [e]; exact h, ?_⟩
  unfold setUserID Valid
  split
  · constructor
    · intro h; cases h
    · intro h; omega
  · constructor
    · intro _; omega
    · intro _; rfl

/-! #### field writers (password, e-mail) on a user whose money moves -/

/-- what the source says: every function of package `ptt` that writes `.PASSWDS` does so through a cmbbs field
writer or through `passwdSyncUpdate`; none hands a whole record to `cmbbs.PasswdUpdate` directly (a whole record
read earlier would carry a stale Money past the re-sync).  `ChangePasswd` and `ChangeEmail` are field writers, and
their fields lie inside the record and apart from the Money field. -/
theorem no_whole_record_writer_bypasses_sync :
    (∀ w ∈ Gen.Money.passwdWriters, w.2 ≠ "direct") ∧
    ("ChangePasswd", "field") ∈ Gen.Money.passwdWriters ∧ ("ChangeEmail", "field") ∈ Gen.Money.passwdWriters ∧
    Gen.Money.passwdHashOffset + Gen.Money.passwdHashSize ≤ Gen.Money.moneyOffset ∧
    Gen.Money.moneyOffset + 4 ≤ Gen.Money.emailOffset ∧
    Gen.Money.emailOffset + Gen.Money.emailSize ≤ Gen.Money.recSize := by decide +kernel

/-- a field write on a valid slot, of any bytes, into any field of the record that does not meet the Money field:
it succeeds, SHM is untouched, the Money bytes of every record (this one included) are untouched — so whatever
agreement held before still holds, at any point of any history — and all other records are byte-identical. -/
theorem field_write_keeps_agreement (s : State) (b : Bal) (D : Int → Prop) (u : Int) (off : Nat) (bs : List Nat)
    (h : Agree s b D) (hu : Valid u) (hin : off + bs.length ≤ Gen.Money.recSize)
    (hapart : off + bs.length ≤ Gen.Money.moneyOffset ∨ Gen.Money.moneyOffset + 4 ≤ off) :
    (fieldWrite s u off bs).2 = .none ∧ (fieldWrite s u off bs).1.shm = s.shm ∧
    Agree (fieldWrite s u off bs).1 b D ∧
    ∀ v, Valid v → v ≠ u → ∃ f f', s.file = some f ∧ (fieldWrite s u off bs).1.file = some f' ∧
      record f' v = record f v := by
  obtain ⟨⟨hs, f, hf, hlen⟩, hshm, hdisk⟩ := h
  rw [fieldWrite_valid s f u off bs hf hu]
  refine ⟨rfl, rfl, ⟨⟨hs, _, rfl, record_write_length f bs u off hlen hu hin⟩, hshm, ?_⟩, ?_⟩
  · intro v hv hD
    have hd := hdisk v hv hD
    unfold diskAt at hd ⊢
    rw [hf] at hd
    simp only [Option.bind_some] at hd ⊢
    rw [moneyBytes_write_apart f bs u v off hlen hu hv hin hapart]
    exact hd
  · intro v hv hne
    exact ⟨f, _, hf, rfl, by rw [record_write f bs u v off hlen hu hv hin, if_neg hne]⟩

/-! #### balances never go negative -/

/-- if every balance is ≥ 0 at the start and every `set` and every registration stores a value ≥ 0, then after any history inside
int32 every valid slot holds one and the same value ≥ 0 in SHM and in .PASSWDS. -/
theorem money_nonneg (s₀ : State) (b₀ : Bal) (os : List Op) (h : Agree s₀ b₀ (fun _ => True))
    (hno : NoOverflowRun b₀ os) (h0 : ∀ u, Valid u → 0 ≤ b₀ u) (hsets : SetsNonneg os) :
    ∀ u, Valid u → ∃ v, shmAt (run s₀ os) u = some v ∧ diskAt (run s₀ os) u = some v ∧ 0 ≤ v := by
  intro u hu
  obtain ⟨_, hh⟩ := money_history s₀ b₀ os h hno
  exact ⟨_, (hh u hu).1, (hh u hu).2, specRun_nonneg os b₀ h0 hsets u hu⟩

/-! #### recorded, not demanded by the property -/

/-- `MoneyOf` on an invalid int32 slot panics (index out of range), as in Go; it never writes. -/
theorem moneyOf_invalid_panics (s : State) (u : Int) (hs : s.shm.length = MAX) (hI : Int32 u) (hu : ¬ Valid u) :
    step s (.get u) = (s, .error .panic) := by
  have hmax := gen_bounds.1
  have hidx : toIdx u < 0 ∨ (MAX : Int) ≤ toIdx u := by
    unfold toIdx
    by_cases hmin : u = -2147483648
    · -- the one int32 whose `uid - 1` wraps: to 2^31 - 1
      have hw : wrap32 (-2147483648 - 1) = 2147483647 := by decide
      rw [hmin, hw]; omega
    · rw [wrap32_of_int32 _ (by unfold Int32 at *; omega)]
      unfold Valid at hu; omega
  simp only [step, moneyOf]
  rcases hidx with h | h
  · rw [if_pos h]; rfl
  · rw [if_neg (by omega)]
    unfold idx
    rw [List.getElem?_eq_none (by omega)]; rfl

/-- the no-overflow hypothesis cannot be dropped for the amount -2^31: `-money` wraps to itself, the floor test
`currentMoney < -money` is false, and a balance `c ≥ 0` becomes `c - 2^31 < 0` in SHM and in .PASSWDS. -/
theorem debit_minInt32_goes_negative (s : State) (b : Bal) (D : Int → Prop) (u : Int) (h : Agree s b D)
    (hu : Valid u) (h0 : 0 ≤ b u) :
    (step s (.de u (-2147483648))).2 = .ok (b u - 2147483648, .none) ∧
    shmAt (step s (.de u (-2147483648))).1 u = some (b u - 2147483648) ∧
    diskAt (step s (.de u (-2147483648))).1 u = some (b u - 2147483648) := by
  have hI := (h.2.1 u hu).2
  have hv : deVal (b u) (-2147483648) = b u - 2147483648 := by
    have hw : wrap32 (- (-2147483648)) = -2147483648 := by decide
    unfold deVal
    rw [hw, if_neg (by omega)]
    exact wrap32_of_int32 _ (by unfold Int32 at *; omega)
  have hr := de_result s b D u (-2147483648) h hu
  rwa [hv] at hr

/-! #### non-vacuity -/

/-- a well-formed, synced start exists: all balances 0, a zero-filled .PASSWDS of MAX_USERS records. -/
def zeroState : State :=
  { shm := List.replicate MAX 0, file := some (List.replicate (Gen.Money.recSize * MAX) 0) }

theorem zeroState_agree : Agree zeroState (fun _ => 0) (fun _ => True) := by
  refine ⟨⟨List.length_replicate, _, rfl, List.length_replicate⟩, fun u hu => ?_, fun u hu _ => ?_⟩
  · refine ⟨?_, (by decide : Int32 0)⟩
    show (List.replicate MAX (0 : Int))[(u - 1).toNat]? = some 0
    rw [List.getElem?_replicate, if_pos (valid_bounds u hu).2.1]
  · have hin := block_inside Gen.Money.recSize _ MAX _ 4 (valid_bounds u hu).2.1 money_in_record
    have e : moneyBytes (List.replicate (Gen.Money.recSize * MAX) 0) u = [0, 0, 0, 0] := by
      unfold moneyBytes
      rw [List.drop_replicate, List.take_replicate, Nat.min_eq_left (by omega)]
      rfl
    simp only [diskAt, zeroState, Option.bind_some, e, dec32?]
    rfl

/-- a history inside int32 with a credit, a debit below zero, a set at the int32 limit on the last slot and an
operation on an invalid slot. -/
example : NoOverflowRun (fun _ => 0)
    [.de 1 5, .load 1, .de 1 (-7), .sync 1 (List.replicate Gen.Money.recSize 0) 7, .newuser 3 (List.replicate Gen.Money.recSize 0) 25,
     .set (MAX : Int) 2147483647, .de (MAX : Int) (-2147483647), .set 0 9, .get 1] := by
  have hmax : MAX = 50 := by decide
  simp [NoOverflowRun, NoOverflow, specStep, Int32, Valid, upd, deNew, hmax]

example : (∀ u, Valid u → (0 : Int) ≤ (fun _ => (0 : Int)) u) ∧ Valid 1 ∧ Valid (MAX : Int) ∧ ¬ Valid 0 ∧
    ¬ Valid ((MAX : Int) + 1) := by
  have hmax : MAX = 50 := by decide
  simp [Valid, hmax]

end PttVerif.C20.Props
