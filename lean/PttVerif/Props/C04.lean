import PttVerif.Proofs.C04
/-
C04 — The user-ID index is always a faithful, cycle-free map of the user table.

Model: `Model/C04.lean` (the Go arrays Userid / HashHead / NextInHash as lists, every access checked, the loop
guards of the source as fuel).  The theorems of `section parametric` are PARAMETRIC in the id operations `e : Env Id`
and hold for every hash with `hash a < B` and `hash (fold a) = hash a` (`Laws`, Proofs/C04.lean): any number of
collisions, one bucket, …  After it: the laws for byte-level models of the functions the Go code really calls
(FNV-1a/32 over the upper-cased C string, Cstrcmp, Cstrcasecmp), so the theorems instantiate; non-vacuity on a toy table;
seeded changes to /repo modelled beside the real function, each with the history on which it loses an id; and, outside
the property's quantifier, what a reload from a disagreeing file does.

Invariant (`InvD e D s`, `Inv e s = InvD e [] s`):  there are lists `ch h` (h < B) such that the walk
HashHead[h], NextInHash[·], … is exactly `ch h` and ends in -1, `ch h` has no duplicates, every slot on it is
below MAX and holds an id hashing to `h` (so chains of different buckets are disjoint: `wf_disjoint`), and every
slot holding a non-empty id is on the chain its hash selects — except the slots in `D`, which a bare
RemoveFromUHash has detached and which are on no chain until they are added again.  SetUserID detaches and
re-adds in one call, so histories of SetUserID and reloads keep `D = []`.  The invariant does not speak of slots
holding the empty id: that the free slots are linked for registration is what `cold_table` says of the cold load.
-/
namespace PttVerif.C04
open PttVerif

section parametric
variable {Id : Type} {e : Env Id} {fold : Id → Id}

/-! ## the invariant is established by the cold load and kept by every operation -/

/-- everything the cold load guarantees, in one statement (`inv_init_cold` and `cold_table` are its parts) -/
theorem cold_load_spec (L : Laws e fold) (s : St Id) (recs : List Id) (hs : Shape e s) (hn : s.number = 0)
    (hl : s.loaded = 0) (hempty : AllEmpty e s) (hlen : recs.length ≤ e.MAX) :
    ∃ s', loadUHash e s (some (recs, false)) = .ok (s', .ok) ∧ Inv e s' ∧
      s'.number = (recs.length : Int) ∧ s'.loaded = 1 ∧
      (∀ j, recs.length ≤ j → s'.userid[j]? = s.userid[j]?) ∧
      ((recs.filter (fun r => !e.valid r)).length ≤ e.PRE →
        ∀ j r, recs[j]? = some r → s'.userid[j]? = some r ∧ ∀ ch, WF e s' ch → j ∈ ch (e.hash r)) := by
  have h0 : ColdInv e { s with head := List.replicate e.B (-1) } [] 0 { s with head := List.replicate e.B (-1) }
      (fun _ => []) := by
    -- every chain is empty
    refine
      { wf := ⟨⟨hs.hu, hs.hn, by simp⟩, fun h hh => ⟨-1, by simp [hh], rfl, List.nodup_nil, nofun⟩⟩
        cover := ?_
        below := nofun
        number := rfl
        loaded := rfl
        rest := fun _ _ => rfl
        count := rfl
        table := nofun }
    intro k id hid hne _
    rw [hempty k id hid] at hne
    cases hne
  obtain ⟨s', cnt', hrun, ch', I⟩ := fillLoop_cold L.hash_lt recs hlen h0
  have hwf'' : WF e { s' with number := (recs.length : Int), loaded := 1 } ch' := wf_of_same I.wf rfl rfl rfl
  refine ⟨{ s' with number := (recs.length : Int), loaded := 1 }, ?_, ⟨ch', hwf'', nofun, I.cover⟩, rfl, rfl, I.rest, ?_⟩
  · rw [loadUHash, if_pos ⟨hn, hl⟩]
    simp only [fillUHash, initFill, Bool.false_eq_true, if_false, pure_ok, bind_ok, hrun, ne_eq, not_true_eq_false]
  · intro hpre j r hj
    obtain ⟨h1, h2⟩ := I.table (by rw [I.count]; exact hpre) j r hj
    refine ⟨h1, fun ch hwf => ?_⟩
    rw [wf_unique hwf hwf'' (L.hash_lt r)]
    exact h2

/-- Cold load (LoadUHash with Number = Loaded = 0 → fillUHash(false)) over ANY list of at most MAX records,
valid or not, colliding or not: no fault, no error, and the invariant holds afterwards. -/
theorem inv_init_cold (L : Laws e fold) (s : St Id) (recs : List Id) (hs : Shape e s) (hn : s.number = 0)
    (hl : s.loaded = 0) (hempty : AllEmpty e s) (hlen : recs.length ≤ e.MAX) :
    ∃ s', loadUHash e s (some (recs, false)) = .ok (s', .ok) ∧ Inv e s' ∧
      s'.number = (recs.length : Int) ∧ s'.loaded = 1 := by
  obtain ⟨s', h1, h2, h3, h4, _⟩ := cold_load_spec L s recs hs hn hl hempty hlen
  exact ⟨s', h1, h2, h3, h4⟩

/-- What the table holds after the cold load: when at most PRE_ALLOCATED_USERS records have an invalid id (always, in a
build with PRE_ALLOCATED_USERS ≥ MAX_USERS such as the default one), slot j holds exactly the id of record j and is
linked on the chain of its hash — including the empty-id slots kept for registration; slots past the file are untouched. -/
theorem cold_table (L : Laws e fold) (s : St Id) (recs : List Id) (hs : Shape e s) (hn : s.number = 0)
    (hl : s.loaded = 0) (hempty : AllEmpty e s) (hlen : recs.length ≤ e.MAX)
    (hpre : (recs.filter (fun r => !e.valid r)).length ≤ e.PRE) :
    ∃ s', loadUHash e s (some (recs, false)) = .ok (s', .ok) ∧
      (∀ j r, recs[j]? = some r → s'.userid[j]? = some r ∧ ∀ ch, WF e s' ch → j ∈ ch (e.hash r)) ∧
      (∀ j, recs.length ≤ j → s'.userid[j]? = s.userid[j]?) := by
  obtain ⟨s', h1, _, _, _, h5, h6⟩ := cold_load_spec L s recs hs hn hl hempty hlen
  exact ⟨s', h1, h6 hpre, h5⟩

/-- the service start: Reset (or a fresh, zero segment) followed by LoadUHash -/
theorem inv_init_cold_reset (L : Laws e fold) (recs : List Id) (hlen : recs.length ≤ e.MAX) :
    ∃ s', coldLoad e (some (recs, false)) = .ok (s', .ok) ∧ Inv e s' ∧ s'.number = (recs.length : Int) ∧ s'.loaded = 1 :=
  inv_init_cold L (resetSt e) recs (resetSt_shape e) rfl rfl (resetSt_allEmpty L.zero_empty) hlen

/-- AddToUHash on a slot that is on no chain: succeeds (never ErrAddToUHash, never a fault), writes the id,
links the slot; the slot is no longer detached. -/
theorem inv_add (L : Laws e fold) {D : List Nat} {s : St Id} (hinv : InvD e D s) {k : Nat} (hk : k < e.MAX)
    (hun : Unlinked e s k) (id : Id) :
    ∃ s', addToUHash e s (k : Int) id = .ok (s', .ok) ∧ InvD e (D.filter (· ≠ k)) s' ∧
      s'.userid = s.userid.set k id ∧ s'.number = s.number ∧ s'.loaded = s.loaded := by
  obtain ⟨ch, hwf, hfree, hcov⟩ := hinv
  obtain ⟨s', hrun, hwf', hu, hn, hl⟩ := add_spec L.hash_lt hwf hk (hun ch hwf) id
  have hku : k < s.userid.length := by rw [hwf.1.hu]; exact hk
  refine ⟨s', hrun, ⟨_, hwf', ?_, ?_⟩, hu, hn, hl⟩
  · intro k' hk' h hh hm
    simp only [List.mem_filter, decide_eq_true_eq] at hk'
    rcases mem_upd_snoc.1 hm with hm | ⟨_, hm⟩
    · exact hfree k' hk'.1 h hh hm
    · exact hk'.2 hm
  · intro k' id' hid' hne hD
    rw [hu] at hid'
    by_cases hkk : k' = k
    · subst hkk
      simp [hku] at hid'
      subst hid'
      exact mem_upd_snoc.2 (Or.inr ⟨rfl, rfl⟩)
    · rw [List.getElem?_set_ne (Ne.symm hkk)] at hid'
      exact mem_upd_snoc.2 (Or.inl (hcov k' id' hid' hne (fun hm => hD (by simp [hm, hkk]))))

/-- RemoveFromUHash of any slot (head, middle, tail of its chain, or not linked at all): succeeds, every other
chain node stays reachable, the slot is detached. -/
theorem inv_remove (L : Laws e fold) {D : List Nat} {s : St Id} (hinv : InvD e D s) {k : Nat} (hk : k < e.MAX) :
    ∃ s', removeFromUHash e s (k : Int) = .ok (s', .ok) ∧ InvD e (k :: D) s' ∧
      s'.userid = s.userid ∧ s'.number = s.number ∧ s'.loaded = s.loaded := by
  obtain ⟨ch, hwf, hfree, hcov⟩ := hinv
  obtain ⟨s', hrun, hwf', hu, hn, hl⟩ := remove_spec L.hash_lt hwf hk
  refine ⟨s', hrun, ⟨_, hwf', ?_, ?_⟩, hu, hn, hl⟩
  · intro k' hk' h hh
    rcases List.mem_cons.1 hk' with rfl | hk'
    · obtain ⟨_, _, _, hnd, _⟩ := hwf.2 h hh
      intro hm
      exact ((List.Nodup.mem_erase_iff hnd).1 hm).1 rfl
    · intro hm
      exact hfree k' hk' h hh (List.mem_of_mem_erase hm)
  · intro k' id' hid' hne hD
    rw [hu] at hid'
    have hkk : k' ≠ k := fun e' => hD (e' ▸ List.mem_cons_self)
    have hD' : k' ∉ D := fun hm => hD (List.mem_cons_of_mem _ hm)
    have := hcov k' id' hid' hne hD'
    exact (List.mem_erase_of_ne hkk).2 this

/-- SetUserID (= RemoveFromUHash + write id + AddToUHash) on any slot, to any id (colliding, empty, a duplicate):
succeeds and keeps the invariant; in particular `Inv` is kept. -/
theorem inv_setUserID (L : Laws e fold) {D : List Nat} {s : St Id} (hinv : InvD e D s) {k : Nat} (hk : k < e.MAX)
    (id : Id) :
    ∃ s', setUserID e s ((k : Int) + 1) id = .ok (s', .ok) ∧ InvD e (D.filter (· ≠ k)) s' ∧
      s'.userid = s.userid.set k id ∧ s'.number = s.number ∧ s'.loaded = s.loaded := by
  obtain ⟨s1, hr1, hinv1, hu1, hn1, hl1⟩ := inv_remove L hinv hk
  have hun : Unlinked e s1 k := unlinked_of_mem hinv1 List.mem_cons_self
  obtain ⟨s2, hr2, hinv2, hu2, hn2, hl2⟩ := inv_add L hinv1 hk hun id
  rw [show (k :: D).filter (· ≠ k) = D.filter (· ≠ k) by simp] at hinv2
  refine ⟨s2, ?_, hinv2, by rw [hu2, hu1], by rw [hn2, hn1], by rw [hl2, hl1]⟩
  unfold setUserID
  have hr : ¬ ((k : Int) + 1 ≤ 0 ∨ (k : Int) + 1 > (e.MAX : Int)) := by omega
  simp only [hr, if_false, Int.add_sub_cancel, hr1, bind_ok, hr2, pure_ok]
  rfl

theorem setUserID_out_of_range (s : St Id) (uid : Int) (id : Id) (h : uid ≤ 0 ∨ uid > (e.MAX : Int)) :
    setUserID e s uid id = .ok (s, .errInvalidUID) := by
  simp [setUserID, h]

/-- Reload on the fly (LoadUHash into a populated segment → checkHash over every bucket, then every record
re-examined) from a file that agrees with the live table: no fault — in particular the two loops that have NO guard in
the source terminate —, nothing is repaired away, no id is rewritten, the invariant is kept. -/
theorem inv_reload_onfly (L : Laws e fold) {s : St Id} (hinv : Inv e s) (hnot : ¬ (s.number = 0 ∧ s.loaded = 0))
    (recs : List Id) (hag : Agree e recs s) :
    ∃ s', loadUHash e s (some (recs, false)) = .ok (s', .ok) ∧ Inv e s' ∧ s'.userid = s.userid ∧
      s'.number = (recs.length : Int) ∧ s'.loaded = s.loaded := by
  obtain ⟨ch, hwf, _, hcov⟩ := hinv
  obtain ⟨s', cnt', ch', I, hrun⟩ := reload_onfly_spec L hwf hcov hnot recs false hag
  exact ⟨_, hrun, ⟨ch', wf_of_same I.wf rfl rfl rfl, nofun, I.cover⟩, I.userid, rfl, I.loaded⟩

/-- The on-the-fly reload when .PASSWDS ends in an incomplete record (the complete records agree): LoadUHash reports the
error, Number is not advanced, and the index is still a faithful map. -/
theorem inv_reload_onfly_torn (L : Laws e fold) {s : St Id} (hinv : Inv e s) (hnot : ¬ (s.number = 0 ∧ s.loaded = 0))
    (recs : List Id) (hag : Agree e recs s) :
    ∃ s', loadUHash e s (some (recs, true)) = .ok (s', .errFile) ∧ Inv e s' ∧ s'.userid = s.userid ∧
      s'.number = s.number ∧ s'.loaded = s.loaded := by
  obtain ⟨ch, hwf, _, hcov⟩ := hinv
  obtain ⟨s', cnt', ch', I, hrun⟩ := reload_onfly_spec L hwf hcov hnot recs true hag
  exact ⟨s', hrun, ⟨ch', I.wf, nofun, I.cover⟩, I.userid, I.number, I.loaded⟩

/-- A reload that cannot open its .PASSWDS (missing file, wrong BBSHOME) into a loaded segment changes NOTHING: the
state afterwards is the state before, whatever slots are detached.  (The cold path, by contrast, resets every hash head
before it opens the file: it must never be taken on a loaded segment.) -/
theorem failed_reload_keeps_index {D : List Nat} {s : St Id} (hinv : InvD e D s)
    (hnot : ¬ (s.number = 0 ∧ s.loaded = 0)) : loadUHash e s none = .ok (s, .errFile) := by
  obtain ⟨ch, hwf, _, _⟩ := hinv
  simp only [loadUHash, hnot, if_false, fillUHash, initFill_onfly_id hwf, bind_ok, pure_ok]

/-- On-the-fly reload with detached slots (bare RemoveFromUHash, or a writer that died inside SetUserID between the
unlink and the relink): every record is re-examined, so a detached slot whose id is still in the table and agrees
with the file is linked again.  When the loader skips nothing (at most PRE invalid ids), exactly the detached slots
beyond the end of the file stay detached. -/
theorem inv_reload_onfly_detached (L : Laws e fold) {D : List Nat} {s : St Id} (hinv : InvD e D s)
    (hnot : ¬ (s.number = 0 ∧ s.loaded = 0)) (recs : List Id) (hag : Agree e recs s)
    (hpre : (recs.filter (fun r => !e.valid r)).length ≤ e.PRE) :
    ∃ s', loadUHash e s (some (recs, false)) = .ok (s', .ok) ∧
      InvD e (D.filter (fun k => decide (recs.length ≤ k))) s' ∧ s'.userid = s.userid ∧
      s'.number = (recs.length : Int) ∧ s'.loaded = s.loaded := by
  obtain ⟨ch, hwf, hfree, hcov⟩ := hinv
  obtain ⟨s', cnt', ch', I, hrun⟩ := reload_onfly_spec L hwf hcov hnot recs false hag
  refine ⟨_, hrun, ⟨ch', wf_of_same I.wf rfl rfl rfl, ?_, ?_⟩, I.userid, rfl, I.loaded⟩
  · intro k hk h hh hx
    simp only [List.mem_filter, decide_eq_true_eq] at hk
    rcases I.bound h k hx with hx | hx
    · exact hfree k hk.1 h hh hx
    · omega
  · intro k id hid hne hD
    by_cases hkD : k ∈ D
    · have hlt : k < recs.length := by
        simp only [List.mem_filter, decide_eq_true_eq, not_and] at hD
        have := hD hkD
        omega
      obtain ⟨r, hr⟩ := getElem?_of_lt hlt
      obtain ⟨cur, hcur, hseq⟩ := hag k r hr
      have hid' : s.userid[k]? = some id := by rw [← I.userid]; exact hid
      rw [hcur] at hid'; cases hid'
      have := I.linked (by rw [I.count]; exact hpre) k r hr
      rw [L.hash_eq (L.seq_fold r id hseq)] at this
      exact this
    · exact I.cover k id hid hne hkD

/-- The one-pass loop the model uses for InitFillUHash(true) is the literal loop of the source,
`for idx := 0; idx < 1<<HASH_BITS; idx++ { checkHash(idx) }`, on every state (well-formed or not). -/
theorem initFill_onfly_eq_literal (s : St Id) (hB : s.head.length = e.B) :
    initFill e true s = checkAll e s (List.range e.B) := by
  simp only [initFill, if_true]
  rw [checkAllFrom_eq_checkAll s.head 0 s (by simp), hB, List.range_eq_range']

/-! ## the production writer: ptt.SetupNewUser -/

/-- A registration through ptt.SetupNewUser — accepted, refused because the id exists, refused because no slot is free,
or failing at the write of the .PASSWDS record AFTER the slot was assigned — never faults and keeps the invariant;
the index changes only by one SetUserID of the free slot that DoSearchUserRaw("") handed out. -/
theorem inv_setupNewUser (L : Laws e fold) {s : St Id} (hinv : Inv e s) (id : Id) (canWrite : Bool) :
    ∃ s' r uid, setupNewUser e s id canWrite = .ok (s', r, uid) ∧ Inv e s' ∧
      ((r = .errExists ∨ r = .errInvalidUID) → s' = s ∧ uid = 0) ∧
      ((r = .ok ∨ r = .errWrite) → ∃ k : Nat, k < e.MAX ∧ uid = (k : Int) + 1 ∧ s'.userid = s.userid.set k id) ∧
      (r = .ok ↔ (canWrite = true ∧ r ≠ .errExists ∧ r ≠ .errInvalidUID)) := by
  have ⟨ch, hwf, _, _⟩ := hinv
  -- the two lookups of the id answer the same, and so do the two searches of a free slot
  obtain ⟨r1, h1, _⟩ := doSearch_zero_or_mem L.hash_lt hwf id
  obtain ⟨r0, h0, hfreeSlot⟩ := doSearch_zero_or_mem L.hash_lt hwf e.zero
  unfold setupNewUser
  simp only [h1, h0, bind_ok]
  by_cases hex : r1.1 ≠ 0
  · exact ⟨s, .errExists, 0, if_pos hex, hinv, fun _ => ⟨rfl, rfl⟩, nofun, by simp⟩
  · rw [if_neg hex, if_neg hex]
    rcases hfreeSlot with hz | ⟨k, hk1, hz⟩
    · rw [hz, setUserID_out_of_range s 0 id (Or.inl (Int.le_refl 0))]
      exact ⟨s, .errInvalidUID, 0, by simp, hinv, fun _ => ⟨rfl, rfl⟩, nofun, by simp⟩
    · have hk : k < e.MAX := wf_lt hwf (L.hash_lt e.zero) hk1
      obtain ⟨s', hrun, hinv', hu, _⟩ := inv_setUserID L hinv hk id
      rw [hz, hrun]
      cases canWrite
      · exact ⟨s', .errWrite, (k : Int) + 1, by simp, hinv', nofun, fun _ => ⟨k, hk, rfl, hu⟩, by simp⟩
      · exact ⟨s', .ok, (k : Int) + 1, by simp, hinv', nofun, fun _ => ⟨k, hk, rfl, hu⟩, by simp⟩

/-- The registration-time sweep of expired accounts (ptt.tryCleanUser → killUser) rewrites records of .PASSWDS only:
the index part of a registration with the sweep due is the plain registration, so it keeps the invariant, and on a full
table it is refused with the index exactly as before — whatever records the sweep emptied on file. -/
theorem inv_setupNewUserSweep (L : Laws e fold) {s : St Id} (hinv : Inv e s) (recs : List Id) (expirable : List Nat)
    (id : Id) :
    ∃ s' r uid recs', setupNewUserSweep e s recs expirable id = .ok (s', r, uid, recs') ∧ Inv e s' ∧
      ((r = .errExists ∨ r = .errInvalidUID) → s' = s) ∧ (r ≠ .errInvalidUID → recs' = recs) := by
  obtain ⟨s', r, uid, hrun, hinv', href, _, _⟩ := inv_setupNewUser L hinv id true
  refine ⟨s', r, uid, (if r = .errInvalidUID then sweepFile e expirable recs else recs), ?_, hinv',
    fun h => (href h).1, ?_⟩
  · simp only [setupNewUserSweep, hrun, bind_ok, pure_ok]
  · intro h
    simp [h]

/-! ## a second process attaching to the live segment -/

/-- NewSHM on an existing segment — as opener or AS CREATOR (what main_init does with IS_NEW_SHM on a restart or a
second server) — writes nothing: not the header, not Number/Loaded, not the index; and it never reports `isNew`. -/
theorem newSHM_existing_untouched (wv ws : Int) (sg : Seg Id) (isCreate : Bool) :
    (newSHM e wv ws (some sg) isCreate).1 = some sg ∧ (newSHM e wv ws (some sg) isCreate).2.1 = false := by
  unfold newSHM
  by_cases h1 : sg.version = wv <;> by_cases h2 : sg.size = ws <;> simp [h1, h2]

/-- NewSHM on an existing segment succeeds exactly when the header carries the expected Version and Size. -/
theorem newSHM_existing_ok_iff (wv ws : Int) (sg : Seg Id) (isCreate : Bool) :
    (newSHM e wv ws (some sg) isCreate).2.2 = .ok ↔ sg.version = wv ∧ sg.size = ws := by
  unfold newSHM
  by_cases h1 : sg.version = wv <;> by_cases h2 : sg.size = ws <;> simp [h1, h2]

/-- the same test as the driver's op `attach` evaluates it, with the error as text -/
theorem handshake_ok_iff (v s wv ws : Int) : handshake v s wv ws = "ok" ↔ v = wv ∧ s = ws := by
  unfold handshake
  split
  · simp_all
  · split <;> simp_all

/-- A process that starts against a live, loaded segment (creator or opener) and whose own LoadUHash cannot open
.PASSWDS leaves the segment exactly as it was: every id the other processes are serving still resolves. -/
theorem restart_failed_load_keeps_segment {D : List Nat} (wv ws : Int) (sg : Seg Id) (hv : sg.version = wv)
    (hs : sg.size = ws) (hinv : InvD e D sg.st) (hnot : ¬ (sg.st.number = 0 ∧ sg.st.loaded = 0))
    (isCreate load : Bool) :
    restart e wv ws (some sg) none isCreate load =
      .ok (some sg, .ok, false, if load then some .errFile else none) := by
  unfold restart newSHM
  simp only [hv, hs, ne_eq, not_true_eq_false, if_false]
  cases load
  · simp
  · subst hv hs
    simp [failed_reload_keeps_index hinv hnot]

/-- A process that starts against a live, loaded segment and whose LoadUHash reads a file that agrees with the live table
leaves the index a faithful map. -/
theorem restart_agreeing_load_keeps_inv (L : Laws e fold) (wv ws : Int) (sg : Seg Id) (hv : sg.version = wv)
    (hs : sg.size = ws) (hinv : Inv e sg.st) (hnot : ¬ (sg.st.number = 0 ∧ sg.st.loaded = 0))
    (recs : List Id) (hag : Agree e recs sg.st) (isCreate : Bool) :
    ∃ s', restart e wv ws (some sg) (some (recs, false)) isCreate true =
        .ok (some { sg with st := s' }, .ok, false, some .ok) ∧ Inv e s' ∧ s'.userid = sg.st.userid := by
  obtain ⟨s', hrun, hinv', hu, _⟩ := inv_reload_onfly L hinv hnot recs hag
  refine ⟨s', ?_, hinv', hu⟩
  unfold restart newSHM
  simp only [hv, hs, ne_eq, not_true_eq_false, if_false, if_true, hrun, bind_ok, pure_ok]

/-! ## every reachable state satisfies the invariant -/

/-- States reachable by arbitrary sequences of operations inside the property's quantifier, together with the list
of currently detached slots.  (Lookups do not change the state.) -/
inductive Reach (e : Env Id) : St Id → List Nat → Prop
  | cold (s recs s' r) : Shape e s → s.number = 0 → s.loaded = 0 → AllEmpty e s → recs.length ≤ e.MAX →
      loadUHash e s (some (recs, false)) = .ok (s', r) → Reach e s' []
  | set (s D s' r) (k : Nat) (id : Id) : Reach e s D → k < e.MAX →
      setUserID e s ((k : Int) + 1) id = .ok (s', r) → Reach e s' (D.filter (· ≠ k))
  | setRange (s D s' r) (uid : Int) (id : Id) : Reach e s D → (uid ≤ 0 ∨ uid > (e.MAX : Int)) →
      setUserID e s uid id = .ok (s', r) → Reach e s' D
  | remove (s D s' r) (k : Nat) : Reach e s D → k < e.MAX →
      removeFromUHash e s (k : Int) = .ok (s', r) → Reach e s' (k :: D)
  | add (s D s' r) (k : Nat) (id : Id) : Reach e s D → k < e.MAX → Unlinked e s k →
      addToUHash e s (k : Int) id = .ok (s', r) → Reach e s' (D.filter (· ≠ k))
  | onfly (s s' r) (recs : List Id) : Reach e s [] → ¬ (s.number = 0 ∧ s.loaded = 0) → Agree e recs s →
      loadUHash e s (some (recs, false)) = .ok (s', r) → Reach e s' []
  | onflyTorn (s s' r) (recs : List Id) : Reach e s [] → ¬ (s.number = 0 ∧ s.loaded = 0) → Agree e recs s →
      loadUHash e s (some (recs, true)) = .ok (s', r) → Reach e s' []
  | onflyDetached (s D s' r) (recs : List Id) : Reach e s D → ¬ (s.number = 0 ∧ s.loaded = 0) → Agree e recs s →
      (recs.filter (fun r => !e.valid r)).length ≤ e.PRE →
      loadUHash e s (some (recs, false)) = .ok (s', r) → Reach e s' (D.filter (fun k => decide (recs.length ≤ k)))
  | reloadNoFile (s D s' r) : Reach e s D → ¬ (s.number = 0 ∧ s.loaded = 0) →
      loadUHash e s none = .ok (s', r) → Reach e s' D

/-- Induction over arbitrary histories: the invariant holds in every reachable state. -/
theorem reachable_inv (L : Laws e fold) {s : St Id} {D : List Nat} (h : Reach e s D) : InvD e D s := by
  induction h with
  | cold s recs s' r hs hn hl hempty hlen hrun => exact inv_of_run hrun (inv_init_cold L s recs hs hn hl hempty hlen)
  | set s D s' r k id _ hk hrun ih => exact inv_of_run hrun (inv_setUserID L ih hk id)
  | setRange s D s' r uid id _ hr hrun ih =>
    rw [setUserID_out_of_range s uid id hr] at hrun
    cases hrun
    exact ih
  | remove s D s' r k _ hk hrun ih => exact inv_of_run hrun (inv_remove L ih hk)
  | add s D s' r k id _ hk hun hrun ih => exact inv_of_run hrun (inv_add L ih hk hun id)
  | onfly s s' r recs _ hnot hag hrun ih => exact inv_of_run hrun (inv_reload_onfly L ih hnot recs hag)
  | onflyTorn s s' r recs _ hnot hag hrun ih => exact inv_of_run hrun (inv_reload_onfly_torn L ih hnot recs hag)
  | onflyDetached s D s' r recs _ hnot hag hpre hrun ih =>
    exact inv_of_run hrun (inv_reload_onfly_detached L ih hnot recs hag hpre)
  | reloadNoFile s D s' r _ hnot hrun ih =>
    rw [failed_reload_keeps_index ih hnot] at hrun
    cases hrun
    exact ih

/-- between calls of SetUserID and reloads (no bare remove pending) the full invariant holds -/
theorem reachable_inv_nil (L : Laws e fold) {s : St Id} (h : Reach e s []) : Inv e s := reachable_inv L h

/-! ## chains are finite and cycle-free -/

/-- the pointer value after `n` steps of the walk that starts with value `v` -/
def ptrAt (next : List Int) : Nat → Int → Option Int
  | 0, v => some v
  | n + 1, v =>
    match v with
    | .ofNat k => match next[k]? with
      | some nx => ptrAt next n nx
      | none => none
    | .negSucc _ => none

theorem ptrAt_chain {next : List Int} : ∀ {l : List Nat} {v : Int}, IsChain next v l →
    (∀ i (hi : i < l.length), ptrAt next i v = some (l[i] : Int)) ∧ ptrAt next l.length v = some (-1) := by
  intro l
  induction l with
  | nil =>
    intro v h
    rw [isChain_nil.1 h]
    exact ⟨fun i hi => absurd hi (Nat.not_lt_zero i), rfl⟩
  | cons a t ih =>
    intro v h
    obtain ⟨rfl, nx, hnx, hc⟩ := isChain_cons.1 h
    obtain ⟨h1, h2⟩ := ih hc
    have step : ∀ n, ptrAt next (n + 1) (a : Int) = ptrAt next n nx := by
      intro n
      show (match next[a]? with | some nx => ptrAt next n nx | none => none) = _
      rw [hnx]
    refine ⟨fun i hi => ?_, (step _).trans h2⟩
    cases i with
    | zero => rfl
    | succ i => exact (step i).trans (h1 i (Nat.lt_of_succ_lt_succ hi))

/-- Under the invariant the walk of every bucket reaches the terminator -1 after at most MAX steps, passes only through
slots in [0,MAX), and never visits a slot twice. -/
theorem chains_acyclic {D : List Nat} {s : St Id} (hinv : InvD e D s) (h : Nat) (hh : h < e.B) :
    ∃ v n, s.head[h]? = some v ∧ n ≤ e.MAX ∧ ptrAt s.next n v = some (-1) ∧
      (∀ i, i < n → ∃ k : Nat, k < e.MAX ∧ ptrAt s.next i v = some (k : Int)) ∧
      (∀ i j, i < j → j < n → ptrAt s.next i v ≠ ptrAt s.next j v) := by
  obtain ⟨ch, hwf, _, _⟩ := hinv
  obtain ⟨v, hv, hc, hnd, _⟩ := hwf.2 h hh
  obtain ⟨h1, h2⟩ := ptrAt_chain hc
  refine ⟨v, (ch h).length, hv, wf_length_le hwf hh, h2, ?_, ?_⟩
  · intro i hi
    exact ⟨(ch h)[i], wf_lt hwf hh (List.getElem_mem hi), h1 i hi⟩
  · intro i j hij hj heq
    rw [h1 i (Nat.lt_trans hij hj), h1 j hj] at heq
    exact List.pairwise_iff_getElem.1 hnd i j (Nat.lt_trans hij hj) hj hij (Int.ofNat_inj.1 (Option.some.inj heq))

/-- Every occupied slot is on exactly one chain, the one its id's hash selects (and chains of different buckets share
no slot). -/
theorem occupied_on_exactly_one_chain (L : Laws e fold) {s : St Id} (hinv : Inv e s) :
    ∃ ch, WF e s ch ∧
      (∀ (k : Nat) (id : Id), s.userid[k]? = some id → e.isEmpty id = false →
        k ∈ ch (e.hash id) ∧ ∀ h, h < e.B → k ∈ ch h → h = e.hash id) ∧
      (∀ h h' k, h < e.B → h' < e.B → k ∈ ch h → k ∈ ch h' → h = h') := by
  obtain ⟨ch, hwf, _, hcov⟩ := hinv
  refine ⟨ch, hwf, ?_, fun h h' k hh hh' hk hk' => wf_disjoint hwf hh hh' hk hk'⟩
  intro k id hid hne
  have hm := hcov k id hid hne (by simp)
  exact ⟨hm, fun h hh hk => wf_disjoint hwf hh (L.hash_lt id) hk hm⟩

/-! ## lookups -/

/-- The `times < MAX_USERS` guard of DoSearchUserRaw never cuts a lookup short: under the invariant the loop gives the
same answer with any larger bound, and does not fault. -/
theorem search_terminates (L : Laws e fold) {D : List Nat} {s : St Id} (hinv : InvD e D s) (q : Id) (fuel : Nat)
    (hf : e.MAX ≤ fuel) :
    ∃ v r, s.head[e.hash q]? = some v ∧ searchLoop e s q e.MAX v = .ok r ∧ searchLoop e s q fuel v = .ok r := by
  obtain ⟨ch, hwf, _, _⟩ := hinv
  have hh := L.hash_lt q
  obtain ⟨v, hv, hc, _, _⟩ := hwf.2 _ hh
  have hall : ∀ k ∈ ch (e.hash q), k < e.MAX ∧ ∃ id, s.userid[k]? = some id :=
    fun k hk => ⟨wf_lt hwf hh hk, wf_hasId hwf hh k hk⟩
  have hlen := wf_length_le hwf hh
  exact ⟨v, _, hv, searchLoop_spec e s q e.MAX hc hall hlen, searchLoop_spec e s q fuel hc hall (by omega)⟩

/-- Soundness without any uniqueness assumption: whatever SearchUserRaw returns is a slot below MAX that holds the
queried id up to letter case, together with the id stored there. -/
theorem search_sound (L : Laws e fold) {D : List Nat} {s : St Id} (hinv : InvD e D s) (q : Id) {u : Int} {r : Option Id}
    (hres : searchUserRaw e s q = .ok (u, r)) :
    (u = 0 ∧ r = none) ∨
    ∃ (k : Nat) (id : Id), u = (k : Int) + 1 ∧ k < e.MAX ∧ s.userid[k]? = some id ∧ fold id = fold q ∧ r = some id := by
  obtain ⟨ch, hwf, _, _⟩ := hinv
  rcases search_cases L.hash_lt hwf q with ⟨h0, _⟩ | ⟨k, id, h1, hm, hid, hc⟩
  · rw [h0] at hres
    cases hres
    exact Or.inl ⟨rfl, rfl⟩
  · rw [h1] at hres
    cases hres
    exact Or.inr ⟨k, id, rfl, wf_lt hwf (L.hash_lt q) hm, hid, ((L.ceq_iff q id).1 hc).symm, rfl⟩

/-- Completeness without uniqueness: a non-empty id held (in any letter case) by a slot that is not detached is found. -/
theorem search_complete (L : Laws e fold) {D : List Nat} {s : St Id} (hinv : InvD e D s) (q : Id)
    (hq : e.isEmpty q = false) {k : Nat} {id : Id} (hid : s.userid[k]? = some id) (hf : fold id = fold q) (hD : k ∉ D) :
    ∃ (k' : Nat) (id' : Id), searchUserRaw e s q = .ok ((k' : Int) + 1, some id') ∧ s.userid[k']? = some id' ∧
      fold id' = fold q := by
  obtain ⟨ch, hwf, _, hcov⟩ := hinv
  have hne : e.isEmpty id = false := by rw [L.isEmpty_fold id q hf]; exact hq
  have hmem : k ∈ ch (e.hash q) := by
    have := hcov k id hid hne hD
    rwa [L.hash_eq hf] at this
  rcases search_cases L.hash_lt hwf q with ⟨_, hnone⟩ | ⟨k', id', h1, _, hid', hc⟩
  · have := hnone hq k hmem id hid
    rw [(L.ceq_iff q id).2 hf.symm] at this
    cases this
  · exact ⟨k', id', h1, hid', ((L.ceq_iff q id').1 hc).symm⟩

/-- Under the invariant and pairwise case-distinct non-empty ids, SearchUserRaw is exactly the lookup in the table:
the slot holding the id in any letter case (plus one, with the stored spelling), none for an absent id, none for the
empty id. -/
theorem search_sound_complete (L : Laws e fold) {s : St Id} (hinv : Inv e s) (huniq : UniqueFold e fold s) (q : Id) :
    (e.isEmpty q = true → searchUserRaw e s q = .ok (0, none)) ∧
    (e.isEmpty q = false → ∀ (k : Nat) (id : Id), s.userid[k]? = some id → fold id = fold q →
        searchUserRaw e s q = .ok ((k : Int) + 1, some id)) ∧
    ((∀ (k : Nat) (id : Id), s.userid[k]? = some id → fold id ≠ fold q) → searchUserRaw e s q = .ok (0, none)) := by
  refine ⟨search_empty s q, fun hq k id hid hf => ?_, fun habs => ?_⟩
  · obtain ⟨k', id', hrun, hid', hf'⟩ := search_complete L hinv q hq hid hf (by simp)
    have hne : e.isEmpty id' = false := by rw [L.isEmpty_fold id' q hf']; exact hq
    have hkk : k' = k := huniq k' k id' id hid' hid hne (by rw [hf', hf])
    subst hkk
    rw [hid] at hid'
    cases hid'
    exact hrun
  · obtain ⟨ch, hwf, _, _⟩ := hinv
    rcases search_cases L.hash_lt hwf q with ⟨h0, _⟩ | ⟨k, id, _, _, hid, hc⟩
    · exact h0
    · exact absurd ((L.ceq_iff q id).1 hc).symm (habs k id hid)

/-- A lookup never resolves to a slot that was removed from the index (detached) and not added again — although
RemoveFromUHash leaves the slot's bytes in `Userid`, so that "read the slot back and compare" still succeeds.
No uniqueness assumption. -/
theorem search_never_detached (L : Laws e fold) {D : List Nat} {s : St Id} (hinv : InvD e D s) (q : Id) {u : Int}
    {r : Option Id} (hres : searchUserRaw e s q = .ok (u, r)) : ∀ k : Nat, k ∈ D → u ≠ (k : Int) + 1 := by
  obtain ⟨ch, hwf, hfree, _⟩ := hinv
  intro k hk hu
  rcases search_cases L.hash_lt hwf q with ⟨h0, _⟩ | ⟨k', id', h1, hm, _, _⟩
  · rw [h0] at hres
    cases hres
    omega
  · rw [h1] at hres
    cases hres
    have hkk : k' = k := by omega
    exact hfree k hk _ (L.hash_lt q) (hkk ▸ hm)

/-- Lookup – remove – lookup: slot `k` holds `id` (non-empty, no other slot holds it in any letter case).  Before the
removal every spelling `q` of the id resolves to `k+1`; after RemoveFromUHash(k) the same query answers none — while
`Userid[k]` STILL holds `id` (so a lookup may not be short-cut by re-reading the slot it resolved to last time). -/
theorem lookup_remove_lookup (L : Laws e fold) {s : St Id} (hinv : Inv e s) (huniq : UniqueFold e fold s) {k : Nat}
    (hk : k < e.MAX) {id : Id} (hid : s.userid[k]? = some id) (hne : e.isEmpty id = false) (q : Id)
    (hf : fold id = fold q) :
    searchUserRaw e s q = .ok ((k : Int) + 1, some id) ∧
    ∃ s', removeFromUHash e s (k : Int) = .ok (s', .ok) ∧ s'.userid[k]? = some id ∧
      searchUserRaw e s' q = .ok (0, none) := by
  have hq : e.isEmpty q = false := by rw [← L.isEmpty_fold id q hf]; exact hne
  refine ⟨(search_sound_complete L hinv huniq q).2.1 hq k id hid hf, ?_⟩
  obtain ⟨s', hrun, hinv', hu, _⟩ := inv_remove L hinv hk
  refine ⟨s', hrun, by rw [hu]; exact hid, ?_⟩
  obtain ⟨ch', hwf', hfree', _⟩ := hinv'
  rcases search_cases L.hash_lt hwf' q with ⟨h0, _⟩ | ⟨k', id', _, hm, hid', hc⟩
  · exact h0
  · -- a hit would be slot `k` itself, by uniqueness, and `k` is detached
    exfalso
    rw [hu] at hid'
    have hf' : fold id' = fold q := ((L.ceq_iff q id').1 hc).symm
    have hne' : e.isEmpty id' = false := by rw [L.isEmpty_fold id' q hf']; exact hq
    have hkk : k' = k := huniq k' k id' id hid' hid hne' (by rw [hf', hf])
    exact hfree' k List.mem_cons_self _ (L.hash_lt q) (hkk ▸ hm)

/-- GetUserID returns the table entry of an in-range uid and ErrInvalidUID otherwise (no fault). -/
theorem getUserID_spec {s : St Id} (hs : Shape e s) (uid : Int) :
    (uid ≤ 0 ∨ uid > (e.MAX : Int) → getUserID e s uid = .ok none) ∧
    (∀ k : Nat, k < e.MAX → uid = (k : Int) + 1 → getUserID e s uid = .ok (s.userid[k]?)) := by
  constructor
  · intro h
    have : uid - 1 < 0 ∨ uid - 1 ≥ (e.MAX : Int) := by omega
    simp [getUserID, this]
  · intro k hk hu
    subst hu
    have : ¬ ((k : Int) < 0 ∨ (k : Int) ≥ (e.MAX : Int)) := by omega
    obtain ⟨id, hid⟩ := getElem?_of_lt (by rw [hs.hu]; exact hk : k < s.userid.length)
    simp only [getUserID, Int.add_sub_cancel, this, if_false, idxI_nat, idx_ok hid, bind_ok, pure_ok, hid]

end parametric

/-! ## the real hash and comparisons satisfy the laws -/

/-- the hash the Go code uses is FNV-1a/32 with the pttbbs offset basis over the upper-cased bytes before the NUL -/
theorem strhash_eq_fnv1a (a : List Nat) :
    stringHash a = (realFold a).foldl (fun h c => ((h ^^^ c) * fnvPrime) % 4294967296) fnvInit := by
  unfold stringHash
  generalize fnvInit = h
  induction a generalizing h with
  | nil => rfl
  | cons c cs ih =>
    unfold realFold at *
    rw [cstr_cons]
    by_cases hc : c = 0
    · simp [hc, fnv1a32StrCase]
    · simp only [hc, if_false, List.map_cons, List.foldl_cons, fnv1a32StrCase]
      exact ih _

/-- the parametric theorems apply to the real build -/
theorem real_instance : Laws realEnv realFold where
  hash_lt a := Nat.mod_lt _ hashMod_pos
  hash_fold a := by
    show stringHashWithHashBits (realFold a) = stringHashWithHashBits a
    simp only [stringHashWithHashBits, stringHash, fnv_fold]
  ceq_iff a b := ceq_iff_real a b
  seq_fold a b h := by
    have : cstrcmp a b = 0 := by simpa [realEnv] using h
    rw [cstrcmp_eq_zero_iff] at this
    simp only [realFold, this]
  isEmpty_fold a b h := by
    have ha := isEmpty_iff_real a
    have hb := isEmpty_iff_real b
    rw [h] at ha
    show (a.headD 0 == 0) = (b.headD 0 == 0)
    rw [Bool.eq_iff_iff, ha, hb]
  zero_empty := by
    show ((List.replicate idSize 0).headD 0 == 0) = true
    cases idSize <;> simp [List.replicate]

/-- ids that differ only in letter case (and in the bytes after the NUL) hash to the same bucket -/
theorem strhash_case_insensitive (a b : List Nat) (h : realFold a = realFold b) :
    stringHashWithHashBits a = stringHashWithHashBits b :=
  real_instance.hash_eq h

theorem strhash_upper_lower (a : List Nat) :
    stringHashWithHashBits (a.map toupper) = stringHashWithHashBits a ∧
    stringHashWithHashBits (a.map tolower) = stringHashWithHashBits a :=
  ⟨strhash_case_insensitive _ _ (realFold_map toupper_eq_zero_iff toupper_idem a),
   strhash_case_insensitive _ _ (realFold_map tolower_eq_zero_iff toupper_tolower a)⟩

/-- "SYSOP" and "sysop" (with other bytes behind the NUL) share a bucket -/
example : stringHashWithHashBits [83, 89, 83, 79, 80, 0] = stringHashWithHashBits [115, 121, 115, 111, 112, 0, 7, 7] := by
  decide +kernel

/-- the reduced hash indexes HashHead within bounds -/
theorem hashbits_lt (a : List Nat) : stringHashWithHashBits a < 2 ^ Gen.UHash.hashBits :=
  Nat.mod_lt _ hashMod_pos

/-- Cstrcasecmp(a, b) == 0 exactly when the ids are equal up to letter case as C strings -/
theorem cstrcasecmp_zero_iff (a b : List Nat) : cstrcasecmp a b = 0 ↔ realFold a = realFold b := by
  have := ceq_iff_real a b
  simpa using this

/-- `search_sound_complete` for the real hash, comparisons and constants -/
theorem real_search_sound_complete {s : St (List Nat)} (hinv : Inv realEnv s) (huniq : UniqueFold realEnv realFold s)
    (q : List Nat) :
    (realEnv.isEmpty q = true → searchUserRaw realEnv s q = .ok (0, none)) ∧
    (realEnv.isEmpty q = false → ∀ (k : Nat) (id : List Nat), s.userid[k]? = some id → realFold id = realFold q →
        searchUserRaw realEnv s q = .ok ((k : Int) + 1, some id)) ∧
    ((∀ (k : Nat) (id : List Nat), s.userid[k]? = some id → realFold id ≠ realFold q) →
        searchUserRaw realEnv s q = .ok (0, none)) :=
  search_sound_complete real_instance hinv huniq q

/-- in the default build no record is ever skipped by the loader: PRE_ALLOCATED_USERS ≥ MAX_USERS -/
theorem real_no_skip (recs : List (List Nat)) (hlen : recs.length ≤ realEnv.MAX) :
    (recs.filter (fun r => !realEnv.valid r)).length ≤ realEnv.PRE := by
  have h1 := List.length_filter_le (fun r => !realEnv.valid r) recs
  have h2 : realEnv.MAX ≤ realEnv.PRE := by decide
  omega

/-! ### the api-level conversion in front of the lookup: bbs.UUserID.ToRaw -/

theorem cstr_of_no_zero : ∀ (l : List Nat), (∀ c ∈ l, c ≠ 0) → cstr l = l := cstr_of_nonzero

/-- An id longer than IDLEN is REJECTED by the conversion, never cut to a stored prefix: the lookup that follows is always
for the id that was asked for. -/
theorem uuserToRaw_rejects_overlong (name : List Nat) (hlen : name.length > Gen.UHash.idLen)
    (hsz : idSize = Gen.UHash.idLen + 1) (hnz : ∀ c ∈ name, c ≠ 0) : uuserToRaw name = none := by
  unfold uuserToRaw copyInto
  have htake : (name.take idSize).length = idSize := by rw [List.length_take]; omega
  simp only [htake, Nat.sub_self, List.replicate_zero, List.append_nil]
  have hnz' : ∀ c ∈ name.take idSize, c ≠ 0 := fun c hc => hnz c (List.mem_of_mem_take hc)
  unfold idValid
  simp only [cstr_of_no_zero _ hnz', htake]
  have : idSize > Gen.UHash.idLen := by omega
  simp [this]

/-- the size hypothesis of `uuserToRaw_rejects_overlong` holds for the regenerated constants -/
theorem real_idSize : idSize = Gen.UHash.idLen + 1 := by decide

/-- witness for the broken rule (seed C04-r7-2: copy into the first IDLEN bytes only): "abcdefghijklX" (13 characters) is
rejected by the real conversion and becomes the stored id "abcdefghijkl" under the cut -/
example : uuserToRaw [97, 98, 99, 100, 101, 102, 103, 104, 105, 106, 107, 108, 88] = none ∧
    (let cut := copyInto idSize ([97, 98, 99, 100, 101, 102, 103, 104, 105, 106, 107, 108, 88].take Gen.UHash.idLen)
     idValid cut = true ∧ cstr cut = [97, 98, 99, 100, 101, 102, 103, 104, 105, 106, 107, 108]) := by
  decide +kernel

/-! ## non-vacuity -/

section toy
/-- a 4-slot table, ONE bucket (every id collides), ids are numbers, 0 is the empty id, no case -/
def toyEnv : Env Nat where
  MAX := 4
  B := 1
  PRE := 1
  hash _ := 0
  ceq a b := a == b
  seq a b := a == b
  isEmpty a := a == 0
  valid a := a != 0
  zero := 0

theorem toy_laws : Laws toyEnv id :=
  laws_of_beq (fun _ => Nat.zero_lt_one) rfl rfl rfl

/-- slots 0,1,2 hold 11,22,33 and form the chain 0 → 1 → 2; slot 3 is free -/
def toySt : St Nat := { userid := [11, 22, 33, 0], head := [0], next := [1, 2, -1, 7], number := 4, loaded := 1 }

theorem toy_inv : Inv toyEnv toySt := by
  refine ⟨fun _ => [0, 1, 2], ⟨⟨rfl, rfl, rfl⟩, ?_⟩, (fun k hk => by cases hk), ?_⟩
  · intro h hh
    have : h = 0 := by simp [toyEnv] at hh; exact hh
    subst this
    refine ⟨0, rfl, ⟨rfl, 1, rfl, rfl, 2, rfl, rfl, -1, rfl, rfl⟩, by decide, fun k hk => ?_⟩
    have hk4 : k < 4 := by simp at hk; omega
    obtain ⟨id, hid⟩ := getElem?_of_lt (a := toySt.userid) hk4
    exact ⟨id, hid, rfl⟩
  · intro k id hid hne _
    have hk4 : k < 4 := (List.getElem?_eq_some_iff.1 hid).1
    by_cases h3 : k = 3
    · subst h3
      cases hid
      cases hne
    · show k ∈ [0, 1, 2]
      simp
      omega

/-- removing the MIDDLE node of an all-colliding chain keeps the invariant, and the model really computes 0 → 2 -/
example : ∃ s', removeFromUHash toyEnv toySt 1 = .ok (s', .ok) ∧ InvD toyEnv [1] s' ∧ s'.next = [2, 2, -1, 7] := by
  have hrun : removeFromUHash toyEnv toySt ((1 : Nat) : Int) = .ok ({ toySt with next := [2, 2, -1, 7] }, .ok) := by rfl
  exact ⟨_, hrun, inv_of_run hrun (inv_remove toy_laws toy_inv (by decide)), rfl⟩

/-- the hypotheses of `search_sound_complete` are satisfiable, and its three cases occur -/
example : UniqueFold toyEnv id toySt := uniqueFold_of_pairwise (by decide)

example : searchUserRaw toyEnv toySt 33 = .ok (3, some 33) ∧ searchUserRaw toyEnv toySt 44 = .ok (0, none) ∧
    searchUserRaw toyEnv toySt 0 = .ok (0, none) := ⟨by rfl, by rfl, by rfl⟩

/-- the hypotheses of `inv_reload_onfly` are satisfiable: the toy table reloaded on the fly from an agreeing file
(slot 3, empty and unlinked so far, gets linked for registration: 0 → 1 → 2 → 3) -/
example : ∃ s', loadUHash toyEnv toySt (some ([11, 22, 33, 0], false)) = .ok (s', .ok) ∧ Inv toyEnv s' ∧
    s'.next = [1, 2, 3, -1] := by
  have hag : Agree toyEnv [11, 22, 33, 0] toySt := agree_of_prefix (fun a => beq_self_eq_true a) ⟨[], rfl⟩
  have hrun : loadUHash toyEnv toySt (some ([11, 22, 33, 0], false)) =
      .ok ({ userid := [11, 22, 33, 0], head := [0], next := [1, 2, 3, -1], number := 4, loaded := 1 }, .ok) := by rfl
  exact ⟨_, hrun, inv_of_run hrun (inv_reload_onfly toy_laws toy_inv (by decide) _ hag), rfl⟩

/-- the hypotheses of `inv_reload_onfly_detached` are satisfiable: slot 1 detached, then linked again by the reload -/
example : ∃ s1 s2, removeFromUHash toyEnv toySt 1 = .ok (s1, .ok) ∧
    loadUHash toyEnv s1 (some ([11, 22, 33], false)) = .ok (s2, .ok) ∧ Inv toyEnv s2 ∧
    searchUserRaw toyEnv s1 22 = .ok (0, none) ∧ searchUserRaw toyEnv s2 22 = .ok (2, some 22) := by
  have e1 : removeFromUHash toyEnv toySt ((1 : Nat) : Int) = .ok ({ toySt with next := [2, 2, -1, 7] }, .ok) := by rfl
  have hinv1 := inv_of_run e1 (inv_remove toy_laws toy_inv (by decide))
  have hag : Agree toyEnv [11, 22, 33] { toySt with next := [2, 2, -1, 7] } :=
    agree_of_prefix (fun a => beq_self_eq_true a) ⟨[0], rfl⟩
  have e2 : loadUHash toyEnv { toySt with next := [2, 2, -1, 7] } (some ([11, 22, 33], false)) =
      .ok ({ userid := [11, 22, 33, 0], head := [0], next := [2, -1, 1, 7], number := 3, loaded := 1 }, .ok) := by rfl
  exact ⟨_, _, e1, e2, inv_of_run e2 (inv_reload_onfly_detached toy_laws hinv1 (by decide) _ hag (by decide)), by rfl,
    by rfl⟩

/-- `Reach` is inhabited beyond the cold load: cold load of three colliding records, a rename, a bare remove -/
example : ∃ s, Reach toyEnv s [0] ∧ s.userid = [11, 55, 33, 0] := by
  obtain ⟨s1, h1, _, hn1, hl1⟩ := inv_init_cold_reset toy_laws [11, 22, 33] (by decide)
  have r1 : Reach toyEnv s1 [] :=
    Reach.cold (resetSt toyEnv) [11, 22, 33] s1 .ok (resetSt_shape _) rfl rfl (resetSt_allEmpty rfl) (by decide) h1
  obtain ⟨s2, h2, _, hu2, _⟩ := inv_setUserID toy_laws (reachable_inv toy_laws r1) (k := 1) (by decide) 55
  have r2 := Reach.set s1 [] s2 .ok 1 55 r1 (by decide) h2
  obtain ⟨s3, h3, _, hu3, _⟩ := inv_remove toy_laws (reachable_inv toy_laws r2) (k := 0) (by decide)
  have r3 := Reach.remove s2 _ s3 .ok 0 r2 (by decide) h3
  refine ⟨s3, r3, ?_⟩
  rw [hu3, hu2]
  have : coldLoad toyEnv (some ([11, 22, 33], false)) =
      .ok ({ userid := [11, 22, 33, 0], head := [0], next := [1, 2, -1, 0], number := 3, loaded := 1 }, .ok) := by rfl
  rw [this] at h1
  cases h1
  rfl

end toy


/-! ## witnesses for broken rules -/

/-! ### witness for a broken rule: a per-process "last hit" memo in front of the chain walk

`searchMemo` is SearchUserRaw with the shortcut of seeded change C04-r3-1: the last id that resolved and its uid are
remembered; a following query of the same id (case-insensitively) is answered from the memo after re-reading
`Userid[uid-1]` and comparing it with the query.  The re-validation survives a removal, because RemoveFromUHash leaves
the bytes in place. -/

def searchMemo {Id' : Type} (e : Env Id') (memo : Option (Id' × Int)) (s : St Id') (q : Id') : M ((Int × Option Id') × Option (Id' × Int)) :=
  if e.isEmpty q then pure ((0, none), memo) else do
    let fromMemo : Option (Int × Id') :=
      match memo with
      | some (mid, uid) =>
        if 1 ≤ uid ∧ uid ≤ (e.MAX : Int) ∧ e.ceq q mid then
          match s.userid[(uid - 1).toNat]? with
          | some cur => if e.ceq q cur then some (uid, cur) else none
          | none => none
        else none
      | none => none
    match fromMemo with
    | some (uid, cur) => pure ((uid, some cur), memo)
    | none => do
      let r ← doSearchUserRaw e s q
      pure (r, if r.1 ≠ 0 then some (q, r.1) else memo)

/-- with the memo, "lookup 22 — remove its slot — lookup 22" answers slot 2 for an id that is absent from the index;
the real SearchUserRaw (and DoSearchUserRaw) answer none -/
theorem memo_breaks_lookup_after_remove :
    ∃ m1 s', searchMemo toyEnv none toySt 22 = .ok ((2, some 22), m1) ∧
      removeFromUHash toyEnv toySt 1 = .ok (s', .ok) ∧
      searchMemo toyEnv m1 s' 22 = .ok ((2, some 22), m1) ∧
      searchUserRaw toyEnv s' 22 = .ok (0, none) ∧ doSearchUserRaw toyEnv s' 22 = .ok (0, none) :=
  ⟨some (22, 2), { toySt with next := [2, 2, -1, 7] }, by rfl, by rfl, by rfl, by rfl, by rfl⟩

/-! ### witness for a broken rule: the creator writes the header whenever it asked to create

`newSHMSeed` is NewSHM with the change of seeded patch C04-r4-1: `if isCreate` instead of `if isNew` around the header
initialisation.  A second creator then zeroes Number and Loaded of the live segment, its LoadUHash takes the COLD path,
and that path resets every hash head before it opens the file. -/

def newSHMSeed {Id' : Type} (e : Env Id') (wantV wantS : Int) (seg : Option (Seg Id')) (isCreate : Bool) :
    Option (Seg Id') × Bool × AttachRet :=
  match seg, isCreate with
  | some sg, true => (some { version := wantV, size := wantS, st := { sg.st with number := 0, loaded := 0 } }, false, .ok)
  | _, _ => newSHM e wantV wantS seg isCreate

/-- a second creator whose .PASSWDS is missing: with the real NewSHM the live segment is untouched; with the seeded one
every id of the table (still in Userid) has become unreachable -/
theorem creator_header_reset_wipes_index :
    restart toyEnv 7 9 (some ⟨7, 9, toySt⟩) none true true = .ok (some ⟨7, 9, toySt⟩, .ok, false, some .errFile) ∧
    ∃ sg', (newSHMSeed toyEnv 7 9 (some ⟨7, 9, toySt⟩) true).1 = some sg' ∧
      ∃ s', loadUHash toyEnv sg'.st none = .ok (s', .errFile) ∧ s'.userid = [11, 22, 33, 0] ∧ s'.head = [-1] ∧
        searchUserRaw toyEnv s' 11 = .ok (0, none) ∧ searchUserRaw toyEnv s' 22 = .ok (0, none) ∧
        searchUserRaw toyEnv s' 33 = .ok (0, none) ∧ searchUserRaw toyEnv toySt 22 = .ok (2, some 22) :=
  ⟨by rfl, _, rfl, _, by rfl, rfl, rfl, by rfl, by rfl, by rfl, by rfl⟩

/-! ### witness for a broken rule: rolling a failed registration back with AddToUHash(slot, "") (no removal first) -/

section rollback
/-- four slots, two buckets (parity), ids are numbers, 0 is the empty id -/
def toy4 : Env Nat where
  MAX := 4
  B := 2
  PRE := 4
  hash a := a % 2
  ceq a b := a == b
  seq a b := a == b
  isEmpty a := a == 0
  valid a := a != 0
  zero := 0

/-- SetupNewUser with the rollback of seeded change C04-r5-2: when the .PASSWDS write fails, the slot is "put back on
the free chain" by AddToUHash(slot, "") — while it is still linked on the chain of the id that failed -/
def setupNewUserSeed (s : St Nat) (id : Nat) (canWrite : Bool) : M (St Nat × Ret × Int) := do
  let (s', r, uid) ← setupNewUser toy4 s id canWrite
  if r = .errWrite then do
    let (s'', _) ← addToUHash toy4 s' (uid - 1) toy4.zero
    pure (s'', r, uid)
  else pure (s', r, uid)

def regHistory (reg : St Nat → Nat → Bool → M (St Nat × Ret × Int)) : M (St Nat × List (Ret × Int)) := do
  let (s0, _) ← coldLoad toy4 (some ([0, 0, 0, 0], false))
  let (s1, r1, u1) ← reg s0 13 false     -- the write of this registration fails
  let (s2, r2, u2) ← reg s1 15 true      -- collides with 13
  let (s3, r3, u3) ← reg s2 22 true
  let (s4, r4, u4) ← reg s3 24 true
  let (s5, r5, u5) ← reg s4 26 true      -- with the rollback: slot 0 is free again and handed out here
  pure (s5, [(r1, u1), (r2, u2), (r3, u3), (r4, u4), (r5, u5)])

/-- With the rollback every later registration reports success, the table ends as [26, 15, 22, 24] — and the lookup of 15,
which slot 1 holds, answers none: re-assigning the doubly linked slot 0 cut the odd chain in front of slot 1.
The unchanged code keeps slot 0 assigned to 13, refuses the fifth registration, and finds 15. -/
theorem rollback_by_add_loses_registered_id :
    (∃ s, regHistory setupNewUserSeed =
        .ok (s, [(.errWrite, 1), (.ok, 2), (.ok, 3), (.ok, 4), (.ok, 1)]) ∧
      s.userid = [26, 15, 22, 24] ∧ searchUserRaw toy4 s 15 = .ok (0, none)) ∧
    (∃ s, regHistory (setupNewUser toy4) =
        .ok (s, [(.errWrite, 1), (.ok, 2), (.ok, 3), (.ok, 4), (.errInvalidUID, 0)]) ∧
      s.userid = [13, 15, 22, 24] ∧ searchUserRaw toy4 s 15 = .ok (2, some 15)) :=
  ⟨⟨_, rfl, rfl, rfl⟩, ⟨_, rfl, rfl, rfl⟩⟩

end rollback

/-! ## outside the quantifier: an on-the-fly reload from a file that DISAGREES with the live table -/

section disagree
/-- three slots, two buckets (parity), ids are numbers -/
def toy2 : Env Nat where
  MAX := 3
  B := 2
  PRE := 3
  hash a := a % 2
  ceq a b := a == b
  seq a b := a == b
  isEmpty a := a == 0
  valid a := a != 0
  zero := 0

theorem toy2_laws : Laws toy2 id :=
  laws_of_beq (fun a => Nat.mod_lt a (by decide)) rfl rfl rfl

/-- Recorded, NOT claimed by the property (its quantifier is "reloads from a .PASSWDS that agrees with the live table"):
from a reachable state (cold load of [5, 22, 11], then slot 0 renamed to 13, so the odd chain is 2 → 0) an on-the-fly
reload from a file that says slot 2 now holds 12 links slot 2 behind the even chain, which cuts the odd chain after
slot 2: slot 0 still holds 13 and the lookup of 13 answers none. -/
theorem onfly_disagreeing_file_loses_slot :
    ∃ s s', Reach toy2 s [] ∧ loadUHash toy2 s (some ([13, 22, 12], false)) = .ok (s', .ok) ∧
      s'.userid[0]? = some 13 ∧ searchUserRaw toy2 s' 13 = .ok (0, none) ∧ ¬ Inv toy2 s' := by
  have r1 : Reach toy2 { userid := [5, 22, 11], head := [1, 0], next := [2, -1, -1], number := 3, loaded := 1 } [] :=
    Reach.cold (resetSt toy2) [5, 22, 11] _ .ok (resetSt_shape _) rfl rfl (resetSt_allEmpty rfl) (by decide) (by rfl)
  have r2 : Reach toy2 { userid := [13, 22, 11], head := [1, 2], next := [-1, -1, 0], number := 3, loaded := 1 } [] :=
    Reach.set _ [] _ .ok 0 13 r1 (by decide) (by rfl)
  have h4 : searchUserRaw toy2 { userid := [13, 22, 12], head := [1, 2], next := [-1, 2, -1], number := 3, loaded := 1 } 13 =
      .ok (0, none) := by rfl
  refine ⟨_, _, r2, by rfl, rfl, h4, fun hinv => ?_⟩
  have := (search_sound_complete toy2_laws hinv (uniqueFold_of_pairwise (by decide)) 13).2.1 (by rfl) 0 13 rfl rfl
  rw [h4] at this
  cases this

/-- The instance "slot emptied on file" of the same class: the file is what `sweepFile` makes of the table when the
record of slot 2 has expired.  From the reachable state of `onfly_disagreeing_file_loses_slot` (odd chain 2 → 0) the
reload moves slot 2 to the even chain with `next = -1`, and the live id 13 in the LOWER slot 0, which sat behind it,
answers none.  An on-the-fly reload never unlinks, so this happens for every file that differs from the table in the id
of a slot; the production writers never reload from such a file, and a `load` op that does is recorded, not judged. -/
theorem reload_after_sweep_loses_live_id :
    ∃ s', loadUHash toy2 { userid := [13, 22, 11], head := [1, 2], next := [-1, -1, 0], number := 3, loaded := 1 }
        (some (sweepFile toy2 [2] [13, 22, 11], false)) = .ok (s', .ok) ∧
      sweepFile toy2 [2] [13, 22, 11] = [13, 22, 0] ∧
      s'.userid = [13, 22, 0] ∧ searchUserRaw toy2 s' 13 = .ok (0, none) :=
  ⟨_, by rfl, by rfl, rfl, by rfl⟩

end disagree

end PttVerif.C04
