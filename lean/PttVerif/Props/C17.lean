import PttVerif.Proofs.C17
/-
C17 — Big5 <-> UTF-8 conversion is total, table-exact and ASCII-transparent.
The property theorems; the lemmas under them, and the definitions some statements are written with, are in
Proofs/C17.lean.

  A–F  universal over the tables `b2u u2b : Table` (the lookup functions of the two Go maps) and over all byte strings
  G    the tables the modelled loader builds from rows (`b2uMap`/`u2bMap`, "last row wins") under the decidable
       well-formedness `wfB2U`/`wfU2B`
  H–K  from a table file to its rows to the map; I–K each with the fact about the two real files (`real_tables_*`,
       over the regenerated `Gen.Big5`) and a witness of what goes wrong otherwise
  L–N  configuration (`Gen.Big5.configReads`), repeated initialisation, start-up order (`Gen.Big5.initOrder`)
-/
namespace PttVerif.C17.Props
open PttVerif PttVerif.C17

/-! #### A. totality: both scanners return on every byte string

Twice: by a measure (`goFor_terminates`), the argument in the terms of the source, without a specification; and by the
closed form (`*_total`), which says more and is what everything below rests on. -/

/-- each execution of the Big5 loop body returns (no panic) and, unless it breaks, consumes at least one byte. -/
theorem b2uBody_advances (b2u : Table) (p out : Bytes) (hp : p ≠ []) :
    ∃ st, b2uBody b2u p out = .ok st ∧ ∀ p' o, st = .next p' o → p'.length < p.length := by
  rcases b2uBody_step b2u p out hp with ⟨p', w, hb, hl, _⟩ | ⟨hb, _⟩
  · exact ⟨_, hb, fun _ _ e => by cases e; exact hl⟩
  · exact ⟨_, hb, fun _ _ e => by cases e⟩

/-- each execution of the UTF-8 loop body returns, never breaks, and consumes one, two or three bytes
(the final else-branch of commit 50179c3 is what makes the malformed cases advance). -/
theorem u2bBody_advances (u2b : Table) (p out : Bytes) (hp : p ≠ []) :
    ∃ p' o, u2bBody u2b p out = .ok (.next p' o) ∧ p'.length < p.length ∧ p.length ≤ p'.length + 3 := by
  obtain ⟨p', w, hb, hl, h3, _⟩ := u2bBody_step u2b p out hp
  exact ⟨p', _, hb, hl, h3⟩

/-- termination by a measure, for any loop body: if every iteration returns and shortens the remaining
input, the loop returns within `len(p)` iterations — for EVERY fuel above the input length, so the
fuel chosen in `big5ToUtf8`/`utf8ToBig5` hides nothing. -/
theorem goFor_terminates (body : Bytes → Bytes → M Step)
    (hadv : ∀ p out, p ≠ [] → ∃ st, body p out = .ok st ∧ ∀ p' o, st = .next p' o → p'.length < p.length) :
    ∀ (fuel : Nat) (p out : Bytes), p.length < fuel → ∃ r, goFor body fuel p out = .ok r := by
  intro fuel
  induction fuel with
  | zero => intro p out h; omega
  | succ n ih =>
    intro p out h
    match p, h with
    | [], _ => exact ⟨out, by simp [goFor]⟩
    | a :: rest, h =>
      obtain ⟨st, hst, hlen⟩ := hadv (a :: rest) out (by simp)
      simp only [goFor, List.length_cons, Nat.zero_lt_succ, if_true, hst]
      match st, hlen with
      | .stop o, _ => exact ⟨o, rfl⟩
      | .next p' o, hlen =>
        have := hlen p' o rfl
        simp only [List.length_cons] at this h
        exact ih p' o (by omega)

/-- `Big5ToUtf8` returns on every input (no panic, no divergence), and what it returns is `b2uSpec`. -/
theorem big5ToUtf8_total (b2u : Table) (s : Bytes) : big5ToUtf8 b2u s = .ok (b2uSpec b2u s) :=
  goFor_b2u b2u (s.length + 1) s [] (Nat.lt_succ_self _)

/-- `Utf8ToBig5` returns on every input — including lone continuation bytes, 4-byte leads, truncated sequences — and
what it returns is `u2bSpec`. -/
theorem utf8ToBig5_total (u2b : Table) (s : Bytes) : utf8ToBig5 u2b s = .ok (u2bSpec u2b s) :=
  goFor_u2b u2b (s.length + 1) s [] (Nat.lt_succ_self _)

/-- any fuel above the input length gives the same answer. -/
theorem fuel_irrelevant (b2u u2b : Table) (s : Bytes) (fuel : Nat) (h : s.length < fuel) :
    goFor (b2uBody b2u) fuel s [] = big5ToUtf8 b2u s ∧ goFor (u2bBody u2b) fuel s [] = utf8ToBig5 u2b s := by
  rw [big5ToUtf8_total, utf8ToBig5_total, goFor_b2u b2u fuel s [] h, goFor_u2b u2b fuel s [] h]
  simp

/-- the loop body of `Utf8ToBig5` BEFORE commit 50179c3: no final else, the iteration changes nothing. -/
def u2bBodyBeforeFix (u2b : Table) (p out : Bytes) : M Step := do
  let c ← idx p 0
  if c < 0x80 then
    let p' ← sliceFrom p 1
    pure (.next p' (out ++ [c]))
  else if p.length ≥ 2 ∧ c &&& 0xe0 = 0xc0 then
    let k ← slice p 0 2
    let p' ← sliceFrom p 2
    pure (.next p' (out ++ (u2b k).getD repl))
  else if p.length ≥ 3 ∧ c &&& 0xf0 = 0xe0 then
    let k ← slice p 0 3
    let p' ← sliceFrom p 3
    pure (.next p' (out ++ (u2b k).getD repl))
  else pure (.next p out)

/-- the totality theorems are not true by construction of `goFor`: the loop without the final else-branch
diverges on a lone continuation byte whatever the fuel (the defect the fix repaired). -/
theorem before_fix_stalls (u2b : Table) (fuel : Nat) (out : Bytes) :
    goFor (u2bBodyBeforeFix u2b) fuel [0x80] out = .error .diverge := by
  induction fuel with
  | zero => rfl
  | succ n ih =>
    have : u2bBodyBeforeFix u2b [0x80] out = .ok (.next [0x80] out) := by
      simp [u2bBodyBeforeFix, idx, bind, Except.bind, pure, Except.pure]
    simp only [goFor, List.length_cons, List.length_nil, Nat.zero_add, Nat.zero_lt_one, if_true, this]
    exact ih

/-! #### B. ASCII transparency -/

theorem big5ToUtf8_ascii (b2u : Table) (s : Bytes) (h : ∀ b ∈ s, b < 0x80) : big5ToUtf8 b2u s = .ok s := by
  rw [big5ToUtf8_total]
  congr 1
  induction s with
  | nil => simp
  | cons a rest ih =>
    rw [b2uSpec_ascii _ _ _ (h a (by simp)), ih (fun b hb => h b (by simp [hb]))]

theorem utf8ToBig5_ascii (u2b : Table) (s : Bytes) (h : ∀ b ∈ s, b < 0x80) : utf8ToBig5 u2b s = .ok s := by
  rw [utf8ToBig5_total]
  congr 1
  induction s with
  | nil => simp
  | cons a rest ih =>
    rw [u2bSpec_ascii _ _ _ (h a (by simp)), ih (fun b hb => h b (by simp [hb]))]

/-- in place: the scanners are compositional at unit boundaries — whatever precedes (as long as it ends at a
unit boundary) and whatever follows, each part converts independently … -/
theorem big5ToUtf8_append (b2u : Table) (pre post : Bytes) (h : b2uAligned pre = true) :
    big5ToUtf8 b2u (pre ++ post) = .ok (b2uSpec b2u pre ++ b2uSpec b2u post) := by
  rw [big5ToUtf8_total, b2uSpec_append b2u pre post h]

theorem utf8ToBig5_append (u2b : Table) (pre post : Bytes) (h : u2bAligned pre = true) :
    utf8ToBig5 u2b (pre ++ post) = .ok (u2bSpec u2b pre ++ u2bSpec u2b post) := by
  rw [utf8ToBig5_total, u2bSpec_append u2b pre post h]

/-- … so an ASCII byte at a unit boundary comes out as itself, in place, in both directions. -/
theorem ascii_in_place (b2u u2b : Table) (pre post : Bytes) (a : Nat) (ha : a < 0x80) :
    (b2uAligned pre = true → big5ToUtf8 b2u (pre ++ a :: post) = .ok (b2uSpec b2u pre ++ a :: b2uSpec b2u post)) ∧
    (u2bAligned pre = true → utf8ToBig5 u2b (pre ++ a :: post) = .ok (u2bSpec u2b pre ++ a :: u2bSpec u2b post)) := by
  constructor
  · intro h; rw [big5ToUtf8_append b2u pre _ h, b2uSpec_ascii _ _ _ ha]
  · intro h; rw [utf8ToBig5_append u2b pre _ h, u2bSpec_ascii _ _ _ ha]

/-! #### C. exactness, and what happens to unmapped / malformed input -/

/-- a two-byte unit (lead byte ≥ 0x80) yields exactly the table's bytes — nothing when the code has no entry —
and the scan continues behind it. -/
theorem big5ToUtf8_unit (b2u : Table) (a b : Nat) (rest : Bytes) (ha : 0x80 ≤ a) :
    big5ToUtf8 b2u (a :: b :: rest) = .ok ((b2u [a, b]).getD [] ++ b2uSpec b2u rest) := by
  rw [big5ToUtf8_total, b2uSpec_pair _ _ _ _ (by omega)]

theorem big5ToUtf8_exact (b2u : Table) (a b : Nat) (v : Bytes) (ha : 0x80 ≤ a) (hv : b2u [a, b] = some v) :
    big5ToUtf8 b2u [a, b] = .ok v := by
  rw [big5ToUtf8_unit b2u a b [] ha, hv]; simp

/-- a lead byte at the very end is dropped. -/
theorem big5ToUtf8_lone_lead (b2u : Table) (pre : Bytes) (a : Nat) (ha : 0x80 ≤ a) (h : b2uAligned pre = true) :
    big5ToUtf8 b2u (pre ++ [a]) = .ok (b2uSpec b2u pre) := by
  rw [big5ToUtf8_append b2u pre _ h, b2uSpec_lone _ _ (by omega)]; simp

/-- the UTF-8 encoding of a BMP code point ≥ 0x80 yields exactly the table's bytes, the replacement FF FD when
the code point has no entry. -/
theorem utf8ToBig5_unit (u2b : Table) (cp : Nat) (rest : Bytes) (h1 : 0x80 ≤ cp) (h2 : cp < 0x10000) :
    utf8ToBig5 u2b (utf8enc cp ++ rest) = .ok ((u2b (utf8enc cp)).getD repl ++ u2bSpec u2b rest) := by
  rw [utf8ToBig5_total, u2bSpec_utf8enc u2b cp rest h1 h2]

theorem utf8ToBig5_exact (u2b : Table) (cp : Nat) (v : Bytes) (h1 : 0x80 ≤ cp) (h2 : cp < 0x10000)
    (hv : u2b (utf8enc cp) = some v) : utf8ToBig5 u2b (utf8enc cp) = .ok v := by
  have := utf8ToBig5_unit u2b cp [] h1 h2
  simpa [hv] using this

/-- malformed input never stalls: a lone continuation byte (80..BF) and a byte F0..FF (4-byte leads, F5+)
become one replacement code and exactly that byte is consumed … -/
theorem utf8ToBig5_malformed_byte (u2b : Table) (c : Nat) (rest : Bytes)
    (h : (0x80 ≤ c ∧ c < 0xC0) ∨ (0xF0 ≤ c ∧ c < 256)) :
    utf8ToBig5 u2b (c :: rest) = .ok (repl ++ u2bSpec u2b rest) := by
  rw [utf8ToBig5_total, u2bSpec_bad u2b c rest h]

/-- … and so does a truncated sequence: a 2-byte lead as the last byte, a 3-byte lead with fewer than two bytes
behind it. -/
theorem utf8ToBig5_truncated (u2b : Table) (c : Nat) (rest : Bytes) :
    (0xC0 ≤ c → c < 0xE0 → utf8ToBig5 u2b [c] = .ok repl) ∧
    (0xE0 ≤ c → c < 0xF0 → rest.length < 2 → utf8ToBig5 u2b (c :: rest) = .ok (repl ++ u2bSpec u2b rest)) := by
  constructor
  · intro h1 h2; rw [utf8ToBig5_total, u2bSpec_trunc2 u2b c h1 h2]
  · intro h1 h2 h3; rw [utf8ToBig5_total, u2bSpec_trunc3 u2b c rest h1 h2 h3]

/-- a complete 4-byte sequence (e.g. an emoji) becomes four replacement codes. -/
theorem utf8ToBig5_four_byte (u2b : Table) (a b c d : Nat) (rest : Bytes) (ha : 0xF0 ≤ a ∧ a < 256)
    (hb : isCont b = true) (hc : isCont c = true) (hd : isCont d = true) :
    utf8ToBig5 u2b (a :: b :: c :: d :: rest) = .ok (repl ++ repl ++ repl ++ repl ++ u2bSpec u2b rest) := by
  have cont : ∀ x, isCont x = true → (0x80 ≤ x ∧ x < 0xC0) ∨ (0xF0 ≤ x ∧ x < 256) := by
    intro x hx; simp [isCont] at hx; omega
  rw [utf8ToBig5_total, u2bSpec_bad u2b a _ (Or.inr ha), u2bSpec_bad u2b b _ (cont b hb),
    u2bSpec_bad u2b c _ (cont c hc), u2bSpec_bad u2b d _ (cont d hd)]
  simp

/-! #### D. the output of Big5ToUtf8 is well-formed UTF-8 -/

/-- for EVERY input (mapped, unmapped, truncated), as soon as every table value is well-formed UTF-8. -/
theorem big5ToUtf8_valid_utf8 (b2u : Table) (hT : TableValid b2u) (s : Bytes) :
    ∃ out, big5ToUtf8 b2u s = .ok out ∧ validUtf8 out = true :=
  ⟨_, big5ToUtf8_total b2u s, b2uSpec_valid b2u hT s⟩

/-- the hypothesis is needed: one ill-formed table value (here a lone continuation byte) shows up in the output. -/
example : ∃ (b2u : Table) (s : Bytes), ∀ out, big5ToUtf8 b2u s = .ok out → validUtf8 out = false :=
  ⟨fun _ => some [0x80], [0xA4, 0x40], by
    intro out h
    rw [big5ToUtf8_exact _ 0xA4 0x40 [0x80] (by omega) rfl] at h
    cases h; decide⟩

/-! #### E. round trip for codes the two tables map to each other -/

/-- `s` consists of ASCII bytes and two-byte codes that `b2u` maps to the encoding of a code point which `u2b`
maps back to the same code. -/
inductive MutualBig5 (b2u u2b : Table) : Bytes → Prop where
  | nil : MutualBig5 b2u u2b []
  | ascii (a : Nat) (rest : Bytes) : a < 0x80 → MutualBig5 b2u u2b rest → MutualBig5 b2u u2b (a :: rest)
  | code (a b cp : Nat) (rest : Bytes) : 0x80 ≤ a → 0x80 ≤ cp → cp < 0x10000 →
      b2u [a, b] = some (utf8enc cp) → u2b (utf8enc cp) = some [a, b] →
      MutualBig5 b2u u2b rest → MutualBig5 b2u u2b (a :: b :: rest)

/-- the same, seen from the UTF-8 side. -/
inductive MutualUtf8 (b2u u2b : Table) : Bytes → Prop where
  | nil : MutualUtf8 b2u u2b []
  | ascii (a : Nat) (rest : Bytes) : a < 0x80 → MutualUtf8 b2u u2b rest → MutualUtf8 b2u u2b (a :: rest)
  | code (a b cp : Nat) (rest : Bytes) : 0x80 ≤ a → 0x80 ≤ cp → cp < 0x10000 →
      b2u [a, b] = some (utf8enc cp) → u2b (utf8enc cp) = some [a, b] →
      MutualUtf8 b2u u2b rest → MutualUtf8 b2u u2b (utf8enc cp ++ rest)

/-- Big5 → UTF-8 → Big5 is the identity on strings of ASCII and mutually mapped codes. -/
theorem roundtrip_big5 (b2u u2b : Table) (s : Bytes) (h : MutualBig5 b2u u2b s) :
    (big5ToUtf8 b2u s >>= utf8ToBig5 u2b) = .ok s := by
  rw [big5ToUtf8_total]
  show utf8ToBig5 u2b (b2uSpec b2u s) = .ok s
  rw [utf8ToBig5_total]
  congr 1
  induction h with
  | nil => simp
  | ascii a rest ha _ ih => rw [b2uSpec_ascii _ _ _ ha, u2bSpec_ascii _ _ _ ha, ih]
  | code a b cp rest ha h1 h2 hb hu _ ih =>
    rw [b2uSpec_pair _ _ _ _ (by omega), hb]
    simp only [Option.getD_some]
    rw [u2bSpec_utf8enc u2b cp _ h1 h2, hu, ih]
    simp

/-- UTF-8 → Big5 → UTF-8 likewise. -/
theorem roundtrip_utf8 (b2u u2b : Table) (s : Bytes) (h : MutualUtf8 b2u u2b s) :
    (utf8ToBig5 u2b s >>= big5ToUtf8 b2u) = .ok s := by
  rw [utf8ToBig5_total]
  show big5ToUtf8 b2u (u2bSpec u2b s) = .ok s
  rw [big5ToUtf8_total]
  congr 1
  induction h with
  | nil => simp
  | ascii a rest ha _ ih => rw [u2bSpec_ascii _ _ _ ha, b2uSpec_ascii _ _ _ ha, ih]
  | code a b cp rest ha h1 h2 hb hu _ ih =>
    rw [u2bSpec_utf8enc u2b cp _ h1 h2, hu]
    simp only [Option.getD_some, List.cons_append, List.nil_append]
    rw [b2uSpec_pair _ _ _ _ (by omega), hb, ih]
    simp

/-- the property's last sentence ("codes that the two tables map to each other round-trip unchanged") for one code. -/
theorem roundtrip_code (b2u u2b : Table) (a b cp : Nat) (ha : 0x80 ≤ a) (h1 : 0x80 ≤ cp) (h2 : cp < 0x10000)
    (hb : b2u [a, b] = some (utf8enc cp)) (hu : u2b (utf8enc cp) = some [a, b]) :
    (big5ToUtf8 b2u [a, b] >>= utf8ToBig5 u2b) = .ok [a, b] :=
  roundtrip_big5 b2u u2b [a, b] (.code a b cp [] ha h1 h2 hb hu .nil)

/-- non-vacuity: a pair of tables with a mutually mapped code (A4 40 ↔ U+4E00) and a string over it. -/
example : ∃ b2u u2b : Table, MutualBig5 b2u u2b [0x41, 0xA4, 0x40, 0x42] :=
  ⟨fun k => if k = [0xA4, 0x40] then some (utf8enc 0x4E00) else none,
   fun u => if u = utf8enc 0x4E00 then some [0xA4, 0x40] else none,
   .ascii _ _ (by omega) (.code 0xA4 0x40 0x4E00 _ (by omega) (by omega) (by omega) (by simp) (by simp)
     (.ascii _ _ (by omega) .nil))⟩

/-! #### F. the standard UTF-8 encoder, and the hand-written one of `initToUtf8` against it -/

/-- the standard encoding of every Unicode scalar value is accepted by `validUtf8` (sanity of the definition). -/
theorem validUtf8_scalar (cp : Nat) (h : cp < 0x110000) (hs : isSurrogate cp = false) : validUtf8 (utf8enc cp) = true := by
  have hs' : ¬ (0xD800 ≤ cp ∧ cp ≤ 0xDFFF) := by simpa [isSurrogate] using hs
  unfold utf8enc
  by_cases h1 : cp < 0x80
  · rw [if_pos h1, validUtf8_ascii cp [] h1]
    rfl
  · rw [if_neg h1]
    by_cases h2 : cp < 0x800
    · rw [if_pos h2, validUtf8_two _ _ _ (by omega), isCont_add_mod64]
      rfl
    · rw [if_neg h2]
      by_cases h3 : cp < 0x10000
      · -- E0 is followed by A0..BF (no overlong form), ED by 80..9F (no surrogate)
        have f : (0xE0 ≤ 224 + cp / 4096 ∧ 224 + cp / 4096 ≤ 0xEF) ∧
            (224 + cp / 4096 = 0xE0 → 0xA0 ≤ 128 + cp / 64 % 64) ∧
            (224 + cp / 4096 = 0xED → 128 + cp / 64 % 64 ≤ 0x9F) := by omega
        rw [if_pos h3, validUtf8_three _ _ _ _ f.1, isCont_add_mod64, isCont_add_mod64, bne_or_decide _ _ _ f.2.1,
          bne_or_decide _ _ _ f.2.2]
        rfl
      · -- F0 is followed by 90..BF (no overlong form), F4 by 80..8F (at most U+10FFFF)
        have f : (0xF0 ≤ 240 + cp / 262144 % 8 ∧ 240 + cp / 262144 % 8 ≤ 0xF4) ∧
            (240 + cp / 262144 % 8 = 0xF0 → 0x90 ≤ 128 + cp / 4096 % 64) ∧
            (240 + cp / 262144 % 8 = 0xF4 → 128 + cp / 4096 % 64 ≤ 0x8F) := by omega
        rw [if_neg h3, validUtf8_four _ _ _ _ _ f.1, isCont_add_mod64, isCont_add_mod64, isCont_add_mod64,
          bne_or_decide _ _ _ f.2.1, bne_or_decide _ _ _ f.2.2]
        rfl

/-- for every code point in 0x80 … 0xFFFF the hand encoder produces the standard UTF-8 bytes
(surrogates included: there it produces the generalised form, which is not valid UTF-8 — see below). -/
theorem encodeUcs2_correct (cp : Nat) (h1 : 0x80 ≤ cp) (h2 : cp < 0x10000) : encodeUcs2 cp = utf8enc cp :=
  encodeUcs2_eq cp h1 h2

/-- … and the result is well-formed UTF-8 exactly when the code point is not a surrogate. -/
theorem encodeUcs2_valid_iff (cp : Nat) (h1 : 0x80 ≤ cp) (h2 : cp < 0x10000) :
    validUtf8 (encodeUcs2 cp) = true ↔ isSurrogate cp = false := by
  rw [encodeUcs2_correct cp h1 h2]
  constructor
  · intro hv
    cases hs : isSurrogate cp with
    | false => rfl
    | true => rw [validUtf8_surrogate cp hs] at hv; cases hv
  · intro hs
    exact validUtf8_scalar cp (by omega) hs

/-- the `< 0x80` branch returns one NUL byte instead of the character (harmless under `wfB2U`/`wfU2B`, which
exclude such rows; the real tables have none). -/
theorem encodeUcs2_ascii_wrong (cp : Nat) (h : cp < 0x80) : encodeUcs2 cp = [0] := by
  rw [encodeUcs2, if_pos ((Nat.shiftRight_eq_div_pow cp 7).trans (Nat.div_eq_of_lt h))]

/-- distinct code points have distinct encodings (so a `u2b` key identifies its code point). -/
theorem utf8enc_inj (cp cp' : Nat) (h1 : 0x80 ≤ cp) (h2 : cp < 0x10000) (h1' : 0x80 ≤ cp') (h2' : cp' < 0x10000)
    (e : utf8enc cp = utf8enc cp') : cp = cp' := utf8enc_injective cp cp' h1 h2 h1' h2' e

/-! #### G. the tables the loader builds: "last row wins", and what WF gives -/

/-- the map built from rows answers with the LAST row of a key (Go map assignment in file order). -/
theorem b2uMap_last_row_wins (rows : List Row) (k : Bytes) :
    tableOf (b2uMap rows) k = (lastByKey rows k).map encodeUcs2 := by
  unfold tableOf b2uMap lastByKey
  rw [foldl_insert_get (fun r => r.1) (fun r => encodeUcs2 r.2)]
  simp [Function.comp_def]

theorem u2bMap_last_row_wins (rows : List Row) (u : Bytes) :
    tableOf (u2bMap rows) u = lastByUtf8 rows u := by
  unfold tableOf u2bMap lastByUtf8
  rw [foldl_insert_get (fun r => encodeUcs2 r.2) (fun r => r.1)]
  simp

/-- WF rows give a table all of whose values are well-formed UTF-8 … -/
theorem wfB2U_tableValid (rows : List Row) (hwf : wfB2U rows = true) : TableValid (tableOf (b2uMap rows)) := by
  intro k v hv
  rw [b2uMap_last_row_wins] at hv
  cases hl : lastByKey rows k with
  | none => simp [hl] at hv
  | some cp =>
    simp [hl] at hv
    have hr := wfB2U_lastByKey rows hwf k cp hl
    rw [← hv, encodeUcs2_correct cp hr.2.2.1 hr.2.2.2.1]
    exact validUtf8_scalar cp (Nat.lt_trans hr.2.2.2.1 (by decide)) hr.2.2.2.2

/-- … hence: with a WF b2u table, `Big5ToUtf8` returns well-formed UTF-8 on every byte string. -/
theorem big5ToUtf8_table_valid_utf8 (rows : List Row) (hwf : wfB2U rows = true) (s : Bytes) :
    ∃ out, big5ToUtf8 (tableOf (b2uMap rows)) s = .ok out ∧ validUtf8 out = true :=
  big5ToUtf8_valid_utf8 _ (wfB2U_tableValid rows hwf) s

/-- table exactness, Big5 side: a code whose last row says `cp` converts to exactly the standard UTF-8 of `cp`. -/
theorem b2u_table_exact (rows : List Row) (hwf : wfB2U rows = true) (a b cp : Nat)
    (hrow : lastByKey rows [a, b] = some cp) :
    big5ToUtf8 (tableOf (b2uMap rows)) [a, b] = .ok (utf8enc cp) := by
  have hr := wfB2U_lastByKey rows hwf _ cp hrow
  have ha : 0x80 ≤ a := by simpa using hr.2.1
  apply big5ToUtf8_exact _ a b _ ha
  rw [b2uMap_last_row_wins, hrow]
  simp [encodeUcs2_correct cp hr.2.2.1 hr.2.2.2.1]

/-- a code without a row is dropped. -/
theorem b2u_table_unmapped (rows : List Row) (a b : Nat) (ha : 0x80 ≤ a) (hrow : lastByKey rows [a, b] = none) :
    big5ToUtf8 (tableOf (b2uMap rows)) [a, b] = .ok [] := by
  rw [big5ToUtf8_unit _ a b [] ha, b2uMap_last_row_wins, hrow]; simp

/-- table exactness, UTF-8 side: the standard UTF-8 of a code point that has a row converts to exactly the Big5
bytes of the last row with that code point; without a row, to the replacement code. -/
theorem u2b_table_exact (rows : List Row) (hwf : wfU2B rows = true) (cp : Nat) (h1 : 0x80 ≤ cp) (h2 : cp < 0x10000) :
    utf8ToBig5 (tableOf (u2bMap rows)) (utf8enc cp) = .ok ((lastByCp rows cp).getD repl) := by
  have := utf8ToBig5_unit (tableOf (u2bMap rows)) cp [] h1 h2
  simp only [List.append_nil, u2bSpec_nil] at this
  rw [this, u2bMap_last_row_wins, lastByUtf8_eq_lastByCp rows hwf cp h1 h2]

/-- round trip through the loaded tables: a code whose last b2u row says `cp`, while the last u2b row of `cp` says
that code, converts to UTF-8 and back unchanged. -/
theorem table_roundtrip (rowsB rowsU : List Row) (hB : wfB2U rowsB = true) (hU : wfU2B rowsU = true) (a b cp : Nat)
    (hb : lastByKey rowsB [a, b] = some cp) (hu : lastByCp rowsU cp = some [a, b]) :
    (big5ToUtf8 (tableOf (b2uMap rowsB)) [a, b] >>= utf8ToBig5 (tableOf (u2bMap rowsU))) = .ok [a, b] := by
  have hr := wfB2U_lastByKey rowsB hB _ cp hb
  rw [b2u_table_exact rowsB hB a b cp hb]
  show utf8ToBig5 _ (utf8enc cp) = _
  rw [u2b_table_exact rowsU hU cp hr.2.2.1 hr.2.2.2.1, hu]
  rfl

/-- non-vacuity of the WF hypotheses and of `table_roundtrip`. -/
example : wfB2U [([0xA4, 0x40], 0x4E00)] = true ∧ wfU2B [([0xA4, 0x40], 0x4E00)] = true ∧
    lastByKey [([0xA4, 0x40], 0x4E00)] [0xA4, 0x40] = some 0x4E00 ∧
    lastByCp [([0xA4, 0x40], 0x4E00)] 0x4E00 = some [0xA4, 0x40] := by decide

/-! #### H. the loader on files in the UAO format -/

/-- one well-formed line `0xKKKK 0xCCCC` (with or without CR) parses to its row. -/
theorem parseLine_row (k cp : Nat) (cr : Bool) (hk : k < 65536) (hc : cp < 65536) :
    parseLine (renderRow k cp cr) = .ok (some ([k / 256, k % 256], cp)) := parseLine_renderRow k cp cr hk hc

/-- the loader returns exactly the rows of a file in the UAO format (header line, one row per line, LF or CR LF):
the header is dropped, the empty piece behind the last newline is skipped, nothing panics. -/
theorem parseTable_uao_file (header : Bytes) (rows : List (Nat × Nat)) (cr : Bool) (hh : 10 ∉ header)
    (hr : ∀ r ∈ rows, r.1 < 65536 ∧ r.2 < 65536) :
    parseTable (renderFile header rows cr) = .ok (rows.map rowOf) := by
  unfold parseTable renderFile
  rw [split_piece 10 header _ hh, sliceFrom_ok _ 1 (Nat.le_add_left 1 _)]
  simp only [List.drop_succ_cons, List.drop_zero, bind, Except.bind]
  rw [mapM_parseLine_rows rows cr hr]
  simp [pure, Except.pure, List.filterMap_append, List.filterMap_map]

/-- the loader is NOT total on arbitrary files: a first field shorter than "0x" makes `lineList[0][2:]` panic
(so does the real loader, which the `tbl` ops of the harness drive through such lines; outside the property). -/
theorem parseLine_short_field_panics : parseLine [48, 32, 48, 120, 52, 49] = .error .panic := by rfl

/-! #### I. the header line: the loader drops line 1 unconditionally -/

/-- what the unconditional `lines = lines[1:]` does, for EVERY file content: the loaded rows are all rows of the file
when the first line is not a row; when the first line IS a row, exactly that row is lost. -/
theorem loader_drops_exactly_first_line (content : Bytes) (all : List Row) (h : parseAllRows content = .ok all) :
    (parseLine (firstLine content) = .ok none → parseTable content = .ok all) ∧
    (∀ r, parseLine (firstLine content) = .ok (some r) → ∃ rows, parseTable content = .ok rows ∧ all = r :: rows) := by
  unfold parseAllRows at h
  unfold parseTable firstLine
  cases hs : split 10 content with
  | nil => exact absurd hs (split_ne_nil 10 content)
  | cons first rest =>
    rw [hs] at h
    simp only [List.mapM_cons, bind, Except.bind] at h
    have hsl : sliceFrom (first :: rest) 1 = .ok rest := sliceFrom_ok _ 1 (Nat.le_add_left 1 _)
    simp only [List.headD_cons, hsl, bind, Except.bind]
    cases h1 : parseLine first with
    | error e => simp [h1] at h
    | ok o =>
      simp only [h1] at h
      cases h2 : List.mapM parseLine rest with
      | error e => simp [h2] at h
      | ok rs =>
        simp only [h2, pure, Except.pure] at h
        cases h
        constructor
        · intro ho; cases ho; simp [pure, Except.pure]
        · intro r ho; cases ho; exact ⟨_, rfl, by simp⟩

/-- kernel evaluation over the regenerated first lines: neither real table file starts with a data row, so the
loader loses nothing (removing the header line from a file breaks this theorem). -/
theorem real_tables_first_line_is_no_row :
    parseLine Gen.Big5.b2uFirstLine = .ok none ∧ parseLine Gen.Big5.u2bFirstLine = .ok none := by
  constructor <;> rfl

/-- witness of the broken combination: a file in UAO format WITHOUT a header line loses its first row. -/
theorem headerless_file_loses_first_row (k cp : Nat) (rows : List (Nat × Nat)) (cr : Bool) (hk : k < 65536) (hc : cp < 65536)
    (hr : ∀ r ∈ rows, r.1 < 65536 ∧ r.2 < 65536) :
    parseTable (renderRow k cp cr ++ 10 :: (rows.map fun r => renderRow r.1 r.2 cr ++ [10]).flatten) = .ok (rows.map rowOf) :=
  parseTable_uao_file (renderRow k cp cr) rows cr (newline_not_in_renderRow k cp cr) hr

/-! #### J. the loader's accept rule (exactly two ' '-separated fields) against rows by content -/

/-- the loader's rule as it is: a line that does not split into exactly two pieces at ' ' is skipped — silently. -/
theorem parseLine_skips_unless_two_fields (line : Bytes) (h : (split 32 line).length ≠ 2) : parseLine line = .ok none :=
  parseLine_not_two_pieces line h

/-- counts over the regenerated table files (translator): every line that is a row by content (first two fields
`0xHHHH 0xHHHH`, whatever follows) is also a row by the loader's rule — no row of the real files is silently dropped.
(An inline comment behind a row breaks this theorem.) -/
theorem real_tables_no_row_dropped :
    Gen.Big5.b2uRowsByContent = Gen.Big5.b2uRowsByLoaderRule ∧ Gen.Big5.u2bRowsByContent = Gen.Big5.u2bRowsByLoaderRule := by
  decide

/-- witness of the broken combination, for every row: the row followed by an inline comment is a row by content, and
the loader skips it. -/
theorem commented_row_is_dropped (k cp : Nat) (hk : k < 65536) (hc : cp < 65536) (comment : Bytes) :
    parseLine (renderRow k cp false ++ [32, 35] ++ comment) = .ok none ∧
    rowByContent (renderRow k cp false ++ [32, 35, 99]) = some ([k / 256, k % 256], cp) := by
  constructor
  · rw [List.append_assoc]
    exact parseLine_renderRow_extra k cp false (35 :: comment)
  · exact rowByContent_renderRow_extra k cp false hk hc [35, 99]

/-! #### K. the table file as a FUNCTION: no key twice -/

/-- when no key occurs twice among the rows, EVERY row of the file is what the loaded map answers for its key
(with a duplicated key the map is last-wins and the earlier row is lost — and whatever key was meant is missing). -/
theorem nodup_keys_every_row_loaded (rows : List Row) (hn : (rows.map (·.1)).Nodup) (k : Bytes) (cp : Nat)
    (hm : (k, cp) ∈ rows) : tableOf (b2uMap rows) k = some (encodeUcs2 cp) := by
  rw [b2uMap_last_row_wins]
  unfold lastByKey
  cases hf : rows.reverse.find? (fun r => r.1 == k) with
  | none =>
    have := List.find?_eq_none.1 hf (k, cp) (by simpa using hm)
    simp at this
  | some r =>
    obtain ⟨hr, hk⟩ := mem_of_find?_reverse rows _ r hf
    rw [key_unique_of_nodup rows hn r hr (k, cp) hm (eq_of_beq hk)]
    rfl

/-- witness: a duplicated key loses the earlier row. -/
theorem duplicate_key_loses_first_row (k : Bytes) (cp cp' : Nat) (h : encodeUcs2 cp ≠ encodeUcs2 cp') :
    tableOf (b2uMap [(k, cp), (k, cp')]) k ≠ some (encodeUcs2 cp) := by
  rw [b2uMap_last_row_wins]
  simp [lastByKey, Ne.symm h]

/-- counts over the regenerated table files: both files are functions — as many distinct keys (Big5 code in the b2u
file, code point in the u2b file) as rows. (A mistyped key that repeats another one breaks this theorem.) -/
theorem real_tables_have_no_duplicate_key :
    Gen.Big5.b2uDistinctKeys = Gen.Big5.b2uRowsByContent ∧ Gen.Big5.u2bDistinctKeys = Gen.Big5.u2bRowsByContent := by
  decide

/-! #### L. the configured table paths (types/config.go, regenerated data) -/

/-- `config()` assigns each of the two table-path variables exactly once, through `setStringConfig`, from the ini
key of its OWN name and with its OWN previous value as default (kernel evaluation over the regenerated list:
a copy-paste slip in a key or a default breaks this theorem). -/
theorem config_reads_pinned :
    Gen.Big5.configReads.filter (fun r => r.var == "BIG5_TO_UTF8" || r.var == "UTF8_TO_BIG5") =
      [⟨"BIG5_TO_UTF8", "setStringConfig", "BIG5_TO_UTF8", "go-pttbbs:types.big5_to_utf8", "BIG5_TO_UTF8"⟩,
       ⟨"UTF8_TO_BIG5", "setStringConfig", "UTF8_TO_BIG5", "go-pttbbs:types.utf8_to_big5", "UTF8_TO_BIG5"⟩] := by
  decide

/-- hence, for EVERY ini content and every initial value: after `config()` each table path is the ini value of its
own key when that key is set, and its default otherwise — the two tables cannot be swapped or doubled by configuration. -/
theorem config_resolves (ini env : Env) :
    cfgVar (runConfig Gen.Big5.configReads ini env) "BIG5_TO_UTF8" =
      (ini.lookup "go-pttbbs:types.big5_to_utf8").getD (cfgVar env "BIG5_TO_UTF8") ∧
    cfgVar (runConfig Gen.Big5.configReads ini env) "UTF8_TO_BIG5" =
      (ini.lookup "go-pttbbs:types.utf8_to_big5").getD (cfgVar env "UTF8_TO_BIG5") := by
  simp only [runConfig, Gen.Big5.configReads, List.foldl_cons, List.foldl_nil, cfgStep, cfgVar]
  constructor
  · simp [List.lookup]
    cases ini.lookup "go-pttbbs:types.big5_to_utf8" <;> simp
  · simp [List.lookup]
    cases ini.lookup "go-pttbbs:types.utf8_to_big5" <;> simp

/-! #### M. the loader across several initialisations (error path: a table file cannot be read) -/

/-- whenever `initBig5` reports success, EACH map is loaded: it was non-empty before and is unchanged, or it has just
been filled from the file at its configured path.  (A loader that reports success without having loaded the second
table — see `single_guard_skips_second_table` — violates the second conjunct.) -/
theorem initBig5_success_means_loaded (fs : FS) (pb pu : String) (st st' : Loader)
    (h : initBig5 fs pb pu st = .ok (st', false)) :
    ((0 < st.b2u.size ∧ st'.b2u = st.b2u) ∨
      ∃ c rows, fs pb = some c ∧ parseTable c = .ok rows ∧ st'.b2u = b2uMapFrom st.b2u rows) ∧
    ((0 < st.u2b.size ∧ st'.u2b = st.u2b) ∨
      ∃ c rows, fs pu = some c ∧ parseTable c = .ok rows ∧ st'.u2b = u2bMapFrom st.u2b rows) := by
  rcases initBig5_ok fs pb pu st st' false h with ⟨_, he⟩ | ⟨st1, h1, h2⟩
  · cases he
  · obtain ⟨hu1, hb1⟩ := initB2U_false fs pb st st1 h1
    obtain ⟨hb2, hu2⟩ := initU2B_false fs pu st1 st' h2
    rw [hb2, ← hu1]
    exact ⟨hb1, hu2⟩

/-- an error is only reported when a table that is still missing cannot be read, and a table loaded before (or
during) the failing call stays loaded. -/
theorem initBig5_failure (fs : FS) (pb pu : String) (st st' : Loader)
    (h : initBig5 fs pb pu st = .ok (st', true)) :
    (st.b2u.size = 0 ∧ fs pb = none ∧ st' = st) ∨
    (st.u2b.size = 0 ∧ fs pu = none ∧ st'.u2b = st.u2b ∧
      ((0 < st.b2u.size ∧ st'.b2u = st.b2u) ∨
        ∃ c rows, fs pb = some c ∧ parseTable c = .ok rows ∧ st'.b2u = b2uMapFrom st.b2u rows)) := by
  rcases initBig5_ok fs pb pu st st' true h with ⟨h1, _⟩ | ⟨st1, h1, h2⟩
  · exact Or.inl (initB2U_true fs pb st st' h1)
  · obtain ⟨hu1, hb1⟩ := initB2U_false fs pb st st1 h1
    obtain ⟨hz, hf, he⟩ := initU2B_true fs pu st1 st' h2
    rw [he, ← hu1]
    exact Or.inr ⟨hz, hf, rfl, hb1⟩

/-- a failed start and a retry, for ALL file contents: the first initialisation loads the Big5→UTF-8
table and fails on the other one (unreadable); ANY later initialisation under which the UTF-8→Big5 file is readable
succeeds — whatever the first path is by then — and afterwards BOTH lookups are those of the tables built from the
two files. -/
theorem retry_after_failed_second_table (fs fs' : FS) (pb pu pb' pu' : String) (st0 : Loader) (cb cu : Bytes)
    (rb ru : List Row) (h0 : st0.b2u.size = 0) (h0' : st0.u2b.size = 0)
    (hb : fs pb = some cb) (hpb : parseTable cb = .ok rb) (hne : rb ≠ []) (hu : fs pu = none)
    (hu' : fs' pu' = some cu) (hpu : parseTable cu = .ok ru) :
    ∃ st1 st2, initBig5 fs pb pu st0 = .ok (st1, true) ∧ initBig5 fs' pb' pu' st1 = .ok (st2, false) ∧
      tableOf st2.b2u = tableOf (b2uMap rb) ∧ tableOf st2.u2b = tableOf (u2bMap ru) := by
  have hpos : 0 < (b2uMapFrom st0.b2u rb).size := size_foldl_insert_pos _ _ rb st0.b2u hne
  refine ⟨{ st0 with b2u := b2uMapFrom st0.b2u rb }, { b2u := b2uMapFrom st0.b2u rb, u2b := u2bMapFrom st0.u2b ru }, ?_, ?_, ?_, ?_⟩
  · simp [initBig5, initB2U, initU2B, h0, h0', hb, hpb, hu, bind, Except.bind, pure, Except.pure]
  · simp [initBig5, initB2U, initU2B, hpos, h0', hu', hpu, bind, Except.bind, pure, Except.pure]
  · exact tableOf_b2uMapFrom _ h0 rb
  · exact tableOf_u2bMapFrom _ h0' ru

/-- the loader with ONE guard on the first map only (one routine for both tables behind a single "already loaded" test): -/
def initBig5SingleGuard (fs : FS) (pb pu : String) (st : Loader) : M (Loader × Bool) :=
  if st.b2u.size > 0 then .ok (st, false)
  else match fs pb with
    | none => .ok (st, true)
    | some cb => do
      let rb ← parseTable cb
      let st1 := { st with b2u := b2uMapFrom st.b2u rb }
      match fs pu with
      | none => .ok (st1, true)
      | some cu => do
        let ru ← parseTable cu
        pure ({ st1 with u2b := u2bMapFrom st1.u2b ru }, false)

/-- … after the same failed first call it reports success forever without ever loading the second table: every
lookup in it is a miss, so `Utf8ToBig5` answers FF FD for every code point. -/
theorem single_guard_skips_second_table (fs fs' : FS) (pb pu pb' pu' : String) (st0 : Loader) (cb : Bytes)
    (rb : List Row) (h0 : st0.b2u.size = 0) (h0' : st0.u2b.size = 0)
    (hb : fs pb = some cb) (hpb : parseTable cb = .ok rb) (hne : rb ≠ []) (hu : fs pu = none) :
    ∃ st1, initBig5SingleGuard fs pb pu st0 = .ok (st1, true) ∧
      initBig5SingleGuard fs' pb' pu' st1 = .ok (st1, false) ∧ ∀ k, tableOf st1.u2b k = none := by
  have hpos : 0 < (b2uMapFrom st0.b2u rb).size := size_foldl_insert_pos _ _ rb st0.b2u hne
  refine ⟨{ st0 with b2u := b2uMapFrom st0.b2u rb }, ?_, ?_, ?_⟩
  · simp [initBig5SingleGuard, h0, hb, hpb, hu, bind, Except.bind]
  · simp [initBig5SingleGuard, hpos]
  · intro k; exact getElem?_of_size_zero _ h0' k

/-- table exactness after the retry: with WF rows, every code point converts to the Big5 bytes of its last row. -/
theorem utf8ToBig5_exact_after_retry (st2 : Loader) (ru : List Row) (hT : tableOf st2.u2b = tableOf (u2bMap ru))
    (hwf : wfU2B ru = true) (cp : Nat) (h1 : 0x80 ≤ cp) (h2 : cp < 0x10000) :
    utf8ToBig5 (tableOf st2.u2b) (utf8enc cp) = .ok ((lastByCp ru cp).getD repl) := by
  rw [hT]
  exact u2b_table_exact ru hwf cp h1 h2

/-! #### N. the start-up sequence -/

/-- with both files readable, `types.InitConfig` succeeds from any state and leaves the UTF-8→Big5 lookups of the file —
provided the map was empty or already held them. -/
theorem initBig5_readable (fs : FS) (pb pu : String) (cb cu : Bytes) (rb ru : List Row) (st : Loader)
    (hb : fs pb = some cb) (hpb : parseTable cb = .ok rb) (hu : fs pu = some cu) (hpu : parseTable cu = .ok ru)
    (hpre : st.u2b.size = 0 ∨ tableOf st.u2b = tableOf (u2bMap ru)) :
    ∃ st', initBig5 fs pb pu st = .ok (st', false) ∧ tableOf st'.u2b = tableOf (u2bMap ru) := by
  unfold initBig5 initB2U initU2B
  by_cases h1 : st.b2u.size > 0 <;> by_cases h2 : st.u2b.size > 0
  · refine ⟨st, by simp [h1, h2, bind, Except.bind], ?_⟩
    exact hpre.resolve_left (by omega)
  · refine ⟨{ st with u2b := u2bMapFrom st.u2b ru }, by simp [h1, h2, hu, hpu, bind, Except.bind, pure, Except.pure], ?_⟩
    exact tableOf_u2bMapFrom _ (by omega) ru
  · refine ⟨{ st with b2u := b2uMapFrom st.b2u rb }, by simp [h1, h2, hb, hpb, bind, Except.bind, pure, Except.pure], ?_⟩
    exact hpre.resolve_left (by omega)
  · refine ⟨{ b2u := b2uMapFrom st.b2u rb, u2b := u2bMapFrom st.u2b ru },
      by simp [h1, h2, hb, hpb, hu, hpu, bind, Except.bind, pure, Except.pure], ?_⟩
    exact tableOf_u2bMapFrom _ (by omega) ru

/-- once the tables are loaded, whatever is initialised afterwards (in any order, any number of times) succeeds, and a
site name converted then is converted with the file's table. -/
theorem boot_after_types (fs : FS) (pb pu : String) (cb cu : Bytes) (rb ru : List Row) (name : Bytes)
    (hb : fs pb = some cb) (hpb : parseTable cb = .ok rb) (hu : fs pu = some cu) (hpu : parseTable cu = .ok ru) :
    ∀ (order : List String) (b : Boot), tableOf b.loader.u2b = tableOf (u2bMap ru) →
      ∃ b', boot fs pb pu name order b = .ok (b', false) ∧ tableOf b'.loader.u2b = tableOf (u2bMap ru) ∧
        b'.bbsnameBig5 = if "ptttype" ∈ order then some (u2bSpec (tableOf (u2bMap ru)) name) else b.bbsnameBig5 := by
  intro order
  induction order with
  | nil => intro b hT; exact ⟨b, rfl, hT, by simp⟩
  | cons p ps ih =>
    intro b hT
    by_cases ht : p = "types"
    · obtain ⟨st', h1, h2⟩ := initBig5_readable fs pb pu cb cu rb ru b.loader hb hpb hu hpu (Or.inr hT)
      rw [ht, boot_types fs pb pu name ps b st' h1]
      obtain ⟨b', e1, e2, e3⟩ := ih { b with loader := st' } h2
      exact ⟨b', e1, e2, by rw [e3]; simp⟩
    · by_cases hp : p = "ptttype"
      · rw [hp, boot_ptttype, hT]
        obtain ⟨b', e1, e2, e3⟩ := ih { b with bbsnameBig5 := some (u2bSpec (tableOf (u2bMap ru)) name) } hT
        exact ⟨b', e1, e2, by rw [e3]; simp⟩
      · rw [boot_other fs pb pu name p ps b ht hp]
        obtain ⟨b', e1, e2, e3⟩ := ih b hT
        exact ⟨b', e1, e2, by rw [e3]; simp [Ne.symm hp]⟩

/-- the property clause for the start-up: in a FRESH process (empty maps), for every order of the `InitConfig` calls in
which `types` comes before the last `ptttype` (the order is split at its first `types`) the site name kept for the
lifetime of the process is the table-exact conversion of the configured name. -/
theorem startup_converts_with_loaded_tables (fs : FS) (pb pu : String) (cb cu : Bytes) (rb ru : List Row) (name : Bytes)
    (hb : fs pb = some cb) (hpb : parseTable cb = .ok rb) (hu : fs pu = some cu) (hpu : parseTable cu = .ok ru) :
    ∀ (pre rest : List String) (b : Boot), "types" ∉ pre → "ptttype" ∈ rest → b.loader.u2b.size = 0 →
      ∃ b', boot fs pb pu name (pre ++ "types" :: rest) b = .ok (b', false) ∧
        b'.bbsnameBig5 = some (u2bSpec (tableOf (u2bMap ru)) name) := by
  intro pre
  induction pre with
  | nil =>
    intro rest b _ hin h0
    obtain ⟨st', h1, h2⟩ := initBig5_readable fs pb pu cb cu rb ru b.loader hb hpb hu hpu (Or.inl h0)
    rw [List.nil_append, boot_types fs pb pu name rest b st' h1]
    obtain ⟨b', e1, _, e3⟩ := boot_after_types fs pb pu cb cu rb ru name hb hpb hu hpu rest { b with loader := st' } h2
    exact ⟨b', e1, by rw [e3]; simp [hin]⟩
  | cons p ps ih =>
    intro rest b hnot hin h0
    have hps := List.not_mem_of_not_mem_cons hnot
    by_cases hpt : p = "ptttype"
    · rw [hpt, List.cons_append, boot_ptttype]
      exact ih rest _ hps hin h0
    · rw [List.cons_append, boot_other fs pb pu name p _ b (List.ne_of_not_mem_cons hnot).symm hpt]
      exact ih rest b hps hin h0

/-- kernel evaluation over the regenerated call order of initgin.InitAllConfig: `types.InitConfig` is called before
`ptttype.InitConfig`, and `ptttype` is not called before it (moving ptttype to the front breaks this theorem). -/
theorem startup_order_pinned :
    ∃ pre rest, Gen.Big5.initOrder = pre ++ "types" :: rest ∧ "types" ∉ pre ∧ "ptttype" ∉ pre ∧ "ptttype" ∈ rest :=
  ⟨["api"], ["ptttype", "boardd"], by decide, by decide, by decide, by decide⟩

/-- the only conversion performed outside package types is the one of the site name (regenerated list of call sites:
a new start-up conversion shows up here and has to be driven). -/
theorem conversion_callers_pinned : Gen.Big5.conversionCallers = [("ptttype", "setBBSName", "Utf8ToBig5")] := by decide

/-- the real start-up (the order of `startup_order_pinned`), for every site name and all table contents. -/
theorem real_startup_bbsname_exact (fs : FS) (pb pu : String) (cb cu : Bytes) (rb ru : List Row) (name : Bytes) (b : Boot)
    (hb : fs pb = some cb) (hpb : parseTable cb = .ok rb) (hu : fs pu = some cu) (hpu : parseTable cu = .ok ru)
    (h0 : b.loader.u2b.size = 0) :
    ∃ b', boot fs pb pu name Gen.Big5.initOrder b = .ok (b', false) ∧
      b'.bbsnameBig5 = some (u2bSpec (tableOf (u2bMap ru)) name) := by
  obtain ⟨pre, rest, e, h1, _, h3⟩ := startup_order_pinned
  rw [e]
  exact startup_converts_with_loaded_tables fs pb pu cb cu rb ru name hb hpb hu hpu pre rest b h1 h3 h0

/-- witness of the broken rule: with `ptttype` first (and not again after `types`), a fresh process converts the
site name against EMPTY tables — every lookup misses, every non-ASCII character becomes FF FD — and keeps that. -/
theorem startup_ptttype_first_uses_empty_table (fs : FS) (pb pu : String) (cb cu : Bytes) (rb ru : List Row) (name : Bytes)
    (b : Boot) (hb : fs pb = some cb) (hpb : parseTable cb = .ok rb) (hu : fs pu = some cu) (hpu : parseTable cu = .ok ru)
    (h0 : b.loader.u2b.size = 0) (h0' : b.loader.b2u.size = 0) :
    ∃ b', boot fs pb pu name ["ptttype", "api", "types", "boardd"] b = .ok (b', false) ∧
      b'.bbsnameBig5 = some (u2bSpec (fun _ => none) name) := by
  have hT : tableOf b.loader.u2b = fun _ => none := by
    funext k; exact getElem?_of_size_zero _ h0 k
  obtain ⟨st', h1, _⟩ := initBig5_readable fs pb pu cb cu rb ru b.loader hb hpb hu hpu (Or.inl h0)
  refine ⟨{ loader := st', bbsnameBig5 := some (u2bSpec (fun _ => none) name) }, ?_, rfl⟩
  rw [boot_ptttype, hT, boot_other fs pb pu name "api" _ _ (by decide) (by decide),
    boot_types fs pb pu name _ { b with bbsnameBig5 := some (u2bSpec (fun _ => none) name) } st' h1,
    boot_other fs pb pu name "boardd" _ _ (by decide) (by decide)]
  rfl

end PttVerif.C17.Props
