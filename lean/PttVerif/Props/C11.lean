import PttVerif.Proofs.C11Walk
/-
C11 — Board lookup and board listings equal a scan of the board table.
Property theorems only (helper lemmas and the specifications `specFind`, `specAuto`, `pagesOf`, `visible*`,
`subclasses`: Proofs/C11.lean, C11Auto.lean, C11Walk.lean; model: Model/C11.lean).

Vocabulary
  `es : List Entry`       a sorted view `BCache[BSorted[k][i]]`, i < BNumber (any length);
  `low s`                 the C string of `s`, ASCII lower-cased — what `Cstrcasecmp` compares;
  `nkey e`, `ckey e`      the sort keys: `low name`, resp. `(C string of Title[:4], low name)`;
  `SortedBy cmp key es`   non-decreasing keys (what sort.Sort with the corresponding `Less` establishes; the harness
                          checks it on the real BSorted after every reload; `sorted_of_adjacent_*` below);
  `scanFirst P es 0`, `scanLast P es`   position of the first / last entry satisfying `P`, `-1` if none
                          (`scanFirst_means`, `scanLast_means`);
  `pagesOf n l.length l`  `l` cut into pages of `n` (`pages_concat`, `pages_full`).

Hypotheses — the property's domain is the board tables the system can produce (C12), always explicit:
  `DistinctNames es`      no two NON-vacated boards have names equal up to case (vacated slots may repeat);
  `ClassOK e`             `Title.BoardClass()` reads as the same C string as `Title[:4]` (title byte 4 is a blank);
  `NoAtFF es`             no name contains `'@'` or `0xff` (implied by `ValidNames`: letters, digits, `_ - .`);
  `NamesLen nameLen es`   every Brdname is an array of `nameLen` = IDLEN+1 bytes;
  `∀ e ∈ es, e.bid + 1 ≤ maxBoard`   the bids of the view are valid (BNumber ≤ MAX_BOARD);
  `ClassView t`           the above for the by-class view of `t` as one structure, with `'@'`-free names;
  `KwOK nameLen kw`       the keyword is non-empty, NUL-free and at most IDLEN bytes; `LastOK x`: its last byte has a
                          usable successor (not `0xff`, not `'@'`).
What happens outside them is shown by the witnesses at the end of the file.
-/
namespace PttVerif.C11.Props
open PttVerif PttVerif.C18 PttVerif.C11

/-! ## (i) the two orders are total preorders; adjacent order suffices -/

/-- the by-name comparison (lexicographic on `low name`) is a total preorder whose kernel is equality of keys. -/
theorem cmp_total_preorder_name : OrdLaws lexCmp := lexLaws

/-- the by-class comparison (C string of `Title[:4]`, then `low name`) likewise. -/
theorem cmp_total_preorder_class : OrdLaws cmpC := classLaws

/-- `Cstrcasecmp(q, Brdname)` never faults and its sign is the comparison of the keys. -/
theorem cmpName_is_key_order (q : List Nat) (e : Entry) :
    ∃ v, cmpName q e = .ok v ∧ (v < 0 ↔ lexCmp (low q) (nkey e) = .lt) ∧ (v = 0 ↔ lexCmp (low q) (nkey e) = .eq) ∧
      (0 < v ↔ lexCmp (low q) (nkey e) = .gt) :=
  ⟨_, cmpName_eq q e, cmpNameP_sign q e⟩

/-- `cmpBoardByClass` agrees with the order the table is sorted in — provided `ClassOK` (see `class5_witness`). -/
theorem cmpClass_is_key_order (cls q : List Nat) (e : Entry) (h : ClassOK e) :
    ∃ v, cmpClass cls q e = .ok v ∧ (v < 0 ↔ cmpC (cstr cls, low q) (ckey e) = .lt) ∧
      (v = 0 ↔ cmpC (cstr cls, low q) (ckey e) = .eq) ∧ (0 < v ↔ cmpC (cstr cls, low q) (ckey e) = .gt) :=
  ⟨_, cmpClass_eq cls q e, cmpClassP_sign cls q e h⟩

/-- checking neighbours (what the harness does on the real `BSorted` after every reload) gives sortedness. -/
theorem sorted_of_adjacent_name (es : List Entry)
    (h : ∀ i (h : i + 1 < es.length), lexCmp (nkey es[i]) (nkey es[i + 1]) ≠ .gt) : SortedBy lexCmp nkey es :=
  sortedBy_of_adjacent lexLaws nkey es h

theorem sorted_of_adjacent_class (es : List Entry)
    (h : ∀ i (h : i + 1 < es.length), cmpC (ckey es[i]) (ckey es[i + 1]) ≠ .gt) : SortedBy cmpC ckey es :=
  sortedBy_of_adjacent classLaws ckey es h

/-! ## loading: the table the lookups run on is `.BRD`, whatever the busy flag said -/

/-- cache.ReloadBCache on a segment nobody else is loading (a restarted daemon): for EVERY prior state of the segment
— `BBusyState` set or clear (set = the leftover of a loader that died between taking the flag and its deferred
release; the flag lives in SysV memory and survives the process), any stale records — the cache afterwards holds the
records of `.BRD`, both orders are rebuilt from them, and the flag is released. -/
theorem reload_loads_whatever_the_flag (maxBoard : Nat) (s : LoadState) (file : List Board) :
    reloadBCache maxBoard s file = { busy := false, boards := file.take maxBoard, sorted := true } := rfl

/-- a `.BRD` of ANY length: the number of boards the lookups and sorts run over never exceeds MAX_BOARD (the size of
`BCache`/`BSorted`), the loaded records are the first MAX_BOARD of the file, and a file that fits is loaded whole. -/
theorem reload_clamps_to_table (maxBoard : Nat) (s : LoadState) (file : List Board) :
    (reloadBCache maxBoard s file).boards.length ≤ maxBoard ∧
      (reloadBCache maxBoard s file).boards = file.take maxBoard ∧
      (file.length ≤ maxBoard → (reloadBCache maxBoard s file).boards = file) := by
  refine ⟨by simp [reloadBCache]; omega, rfl, fun h => by simp [reloadBCache, List.take_of_length_le h]⟩

/-- without the clamp (seeded change C11-r7-2) 103 records give BNumber 103 over a 100-slot table. -/
theorem reload_unclamped_witness : ¬ ((List.replicate 103 (default : Board)).length ≤ 100) ∧
    (reloadBCache 100 ⟨false, [], false⟩ (List.replicate 103 default)).boards.length = 100 := by
  constructor
  · rw [List.length_replicate]
    decide
  · show ((List.replicate 103 default).take 100).length = 100
    rw [List.length_take, List.length_replicate]
    rfl

/-- the rule "still busy after the wait ⇒ give up" (seeded change C11-r6-1) leaves a restarted daemon without a
board table for ever: the flag is never released, nothing is loaded, nothing is sorted. -/
def reloadGiveUp (s : LoadState) (file : List Board) : LoadState := if s.busy then s else reloadBCache 100 s file

theorem reload_give_up_witness (file : List Board) :
    reloadGiveUp { busy := true, boards := [], sorted := false } file = { busy := true, boards := [], sorted := false } ∧
      ∀ k, (Nat.repeat (fun s => reloadGiveUp s file) k { busy := true, boards := [], sorted := false }).busy = true := by
  refine ⟨rfl, ?_⟩
  intro k
  induction k with
  | zero => rfl
  | succ k ih =>
    simp only [Nat.repeat]
    generalize Nat.repeat (fun s => reloadGiveUp s file) k { busy := true, boards := [], sorted := false } = x at ih ⊢
    unfold reloadGiveUp
    rw [if_pos ih]; exact ih

/-! ## the bisection terminates and lands -/

/-- getBidByNameCore / getBidByClassCore on ANY non-empty sorted view and ANY query: the unbounded `for` ends within
`n + 1` iterations (`Fault.diverge` unreachable), reads inside the table only, and returns either an entry equal to
the query or a landing position `p` with every entry before `p` below the query and every entry behind `p` above it
(the three-way step, the `idx == start` jump and the fix 8b5eb5b included). -/
theorem bisect_terminates_and_lands (cmp : Entry → M Int) (c : Entry → Int) (hc : ∀ e, cmp e = .ok (c e))
    (es : List Entry) (Mn : Mono c es) (hne : es ≠ []) : ∃ r, bisect cmp es = .ok r ∧ BPost c es r :=
  bisect_post hc Mn hne

/-- the comparator of a name query is monotone along a by-name view … -/
theorem mono_name (q : List Nat) (es : List Entry) (S : SortedBy lexCmp nkey es) : Mono (cmpNameP q) es :=
  mono_cmpName q es S

/-- … and of a (class, name) query along a by-class view whose boards satisfy `ClassOK`. -/
theorem mono_class (cls q : List Nat) (es : List Entry) (S : SortedBy cmpC ckey es) (C : ∀ e ∈ es, ClassOK e) :
    Mono (cmpClassP cls q) es :=
  mono_of_sorted classLaws ckey (cstr cls, low q) (cmpClassP cls q) es (fun e he => cmpClassP_sign cls q e (C e he)) S

/-! ## (ii) GetBid -/

/-- GetBid on any by-name view, any query, in any letter case: the bid of SOME board whose name equals the query up
to case, or 0 when there is none.  (A vacated slot has the empty name: `GetBid("")` may return one.) -/
theorem getBid_eq_scan (es : List Entry) (q : List Nat) (S : SortedBy lexCmp nkey es) :
    ∃ b, getBid es q = .ok b ∧
      ((b = 0 ∧ ∀ e ∈ es, nkey e ≠ low q) ∨ (∃ e ∈ es, b = e.bid + 1 ∧ nkey e = low q)) := by
  have Mn := mono_name q es S
  by_cases hne : es = []
  · subst hne; exact ⟨0, rfl, Or.inl ⟨rfl, by simp⟩⟩
  · obtain ⟨r, hr, hp⟩ := bisect_post (cmpName_eq q) Mn hne
    unfold getBid
    rw [hr]
    cases r with
    | empty => exact absurd hp (by simp [BPost])
    | hit i b =>
      obtain ⟨hi, h0, hb⟩ := hp
      exact ⟨b + 1, rfl, Or.inr ⟨es[i], List.getElem_mem hi, by rw [hb], (cmpNameP_eq_zero q _).mp h0⟩⟩
    | miss p =>
      obtain ⟨hpl, h0, hB, hA⟩ := hp
      exact ⟨0, rfl, Or.inl ⟨rfl, fun e he hk => ne_zero_of_landing hpl h0 hB hA e he ((cmpNameP_eq_zero q e).mpr hk)⟩⟩

/-- the sorted view of a board table: `BSorted[k]` is a permutation of the slots. -/
def IsView (boards : List Board) (es : List Entry) : Prop :=
  ∃ perm : List Nat, perm.Perm (List.range boards.length) ∧ es = perm.map (fun i => ⟨i, boards.getD i default⟩)

theorem mem_view {boards : List Board} {es : List Entry} (h : IsView boards es) (e : Entry) :
    e ∈ es ↔ ∃ i, ∃ hi : i < boards.length, e = ⟨i, boards[i]⟩ := by
  obtain ⟨perm, hp, rfl⟩ := h
  simp only [List.mem_map]
  constructor
  · rintro ⟨i, hi, rfl⟩
    have : i < boards.length := List.mem_range.mp (hp.mem_iff.mp hi)
    exact ⟨i, this, by simp [List.getD_eq_getElem?_getD, this]⟩
  · rintro ⟨i, hi, rfl⟩
    exact ⟨i, hp.mem_iff.mpr (List.mem_range.mpr hi), by simp [List.getD_eq_getElem?_getD, hi]⟩

/-- (ii) in terms of the board TABLE (slot order, vacated slots included): `GetBid q` is 0 and no slot carries the
name, or it is the 1-based number of a slot whose name equals `q` up to case. -/
theorem getBid_table (boards : List Board) (es : List Entry) (V : IsView boards es) (q : List Nat)
    (S : SortedBy lexCmp nkey es) :
    ∃ b, getBid es q = .ok b ∧
      ((b = 0 ∧ ∀ brd ∈ boards, low brd.name ≠ low q) ∨
        (∃ i, ∃ hi : i < boards.length, b = i + 1 ∧ low boards[i].name = low q)) := by
  obtain ⟨b, hb, h⟩ := getBid_eq_scan es q S
  refine ⟨b, hb, ?_⟩
  rcases h with ⟨rfl, hno⟩ | ⟨e, he, rfl, hk⟩
  · left
    refine ⟨rfl, ?_⟩
    intro brd hbrd
    obtain ⟨i, hi, rfl⟩ := List.getElem_of_mem hbrd
    exact hno ⟨i, boards[i]⟩ ((mem_view V _).mpr ⟨i, hi, rfl⟩)
  · right
    obtain ⟨i, hi, rfl⟩ := (mem_view V e).mp he
    exact ⟨i, hi, rfl, hk⟩

/-- with pairwise distinct names the board is unique: two slots answering to `q` are the same slot. -/
theorem getBid_unique (es : List Entry) (q : List Nat) (D : DistinctNames es) (hq : low q ≠ [])
    (i j : Nat) (hi : i < es.length) (hj : j < es.length) (h1 : nkey es[i] = low q) (h2 : nkey es[j] = low q) : i = j :=
  unique0_of_distinct q es D hq i j hi hj ((cmpNameP_eq_zero q _).mpr h1) ((cmpNameP_eq_zero q _).mpr h2)

/-! ## (iii) FindBoardIdxByName / FindBoardIdxByClass -/

/-- what the scans mean. -/
theorem scanFirst_means (P : Entry → Bool) (es : List Entry) :
    (scanFirst P es 0 = -1 ∧ ∀ e ∈ es, P e = false) ∨
      (∃ d, ∃ h : d < es.length, scanFirst P es 0 = Int.ofNat d ∧ P es[d] = true ∧
        ∀ k (hk : k < d), P (es[k]'(by omega)) = false) := scanFirst_spec P es

theorem scanLast_means (P : Entry → Bool) (es : List Entry) :
    (scanLast P es = -1 ∧ ∀ e ∈ es, P e = false) ∨
      (∃ p, ∃ hp : p < es.length, scanLast P es = Int.ofNat p ∧ P es[p] = true ∧
        ∀ k (hk : k < es.length), p < k → P es[k] = false) := scanLast_spec P es

/-- FindBoardIdxByName, every by-name view, every query (present, absent, below the first, above the last, the empty
name), both directions, WITHOUT assuming distinct names: never faults; the answer is the 1-based position of an
entry equal to the query, or — when no entry equals it — the least position above it (asc) / the greatest position
below it (desc), or -1. -/
theorem findIdx_name_post (maxBoard : Nat) (es : List Entry) (q : List Nat) (S : SortedBy lexCmp nkey es)
    (hv : ∀ e ∈ es, e.bid + 1 ≤ maxBoard) (isAsc : Bool) :
    ∃ r, findIdx maxBoard (cmpName q) es isAsc = .ok r ∧
      ((∃ i, ∃ h : i < es.length, r = Int.ofNat i + 1 ∧ cmpNameP q es[i] = 0) ∨
        ((∀ e ∈ es, cmpNameP q e ≠ 0) ∧
          r = if nearest (cmpNameP q) es isAsc = -1 then -1 else nearest (cmpNameP q) es isAsc + 1)) :=
  findIdx_post (cmpName_eq q) hv (mono_name q es S) isAsc

/-- with distinct names: FindBoardIdxByName = the linear scan `specFind` (the entry itself if present, else the
nearest entry in the requested direction, else -1). -/
theorem findIdx_eq_scan_name (maxBoard : Nat) (es : List Entry) (q : List Nat) (S : SortedBy lexCmp nkey es)
    (hv : ∀ e ∈ es, e.bid + 1 ≤ maxBoard) (D : DistinctNames es) (hq : low q ≠ []) (isAsc : Bool) :
    findIdx maxBoard (cmpName q) es isAsc = .ok (specFind (cmpNameP q) es isAsc) :=
  findIdx_eq_specFind (cmpName_eq q) hv (mono_name q es S) (unique0_of_distinct q es D hq) isAsc

/-- FindBoardIdxByClass, same statement for the (class, name) order. -/
theorem findIdx_class_post (maxBoard : Nat) (es : List Entry) (cls q : List Nat) (S : SortedBy cmpC ckey es)
    (C : ∀ e ∈ es, ClassOK e) (hv : ∀ e ∈ es, e.bid + 1 ≤ maxBoard) (isAsc : Bool) :
    ∃ r, findIdx maxBoard (cmpClass cls q) es isAsc = .ok r ∧
      ((∃ i, ∃ h : i < es.length, r = Int.ofNat i + 1 ∧ cmpClassP cls q es[i] = 0) ∨
        ((∀ e ∈ es, cmpClassP cls q e ≠ 0) ∧
          r = if nearest (cmpClassP cls q) es isAsc = -1 then -1 else nearest (cmpClassP cls q) es isAsc + 1)) :=
  findIdx_post (cmpClass_eq cls q) hv (mono_class cls q es S C) isAsc

/-- with distinct names: FindBoardIdxByClass = `specFind` in the (class, name) order. -/
theorem findIdx_eq_scan_class (maxBoard : Nat) (es : List Entry) (cls q : List Nat) (S : SortedBy cmpC ckey es)
    (C : ∀ e ∈ es, ClassOK e) (hv : ∀ e ∈ es, e.bid + 1 ≤ maxBoard) (D : DistinctNames es) (hq : low q ≠ [])
    (isAsc : Bool) :
    findIdx maxBoard (cmpClass cls q) es isAsc = .ok (specFind (cmpClassP cls q) es isAsc) :=
  findIdx_eq_specFind (cmpClass_eq cls q) hv (mono_class cls q es S C) (unique0_of_distinct_class cls q es C D hq) isAsc

/-- the answer of a positional search is -1 or a position of the table. -/
theorem findIdx_in_range (c : Entry → Int) (es : List Entry) (isAsc : Bool) :
    specFind c es isAsc = -1 ∨ (1 ≤ specFind c es isAsc ∧ specFind c es isAsc ≤ Int.ofNat es.length) :=
  specFind_range c es isAsc

/-! ## (iv) FindBoardAutoCompleteStartIdx -/

/-- ascending: for every non-empty NUL-free keyword of at most IDLEN bytes, the first board (in by-name order) whose
name carries the keyword as a prefix up to case, else -1.  The ≤3-step probe always suffices (2 steps are used). -/
theorem autocomplete_eq_scan_asc (maxBoard nameLen : Nat) (es : List Entry) (kw : List Nat) (ok : KwOK nameLen kw)
    (hv : ∀ e ∈ es, e.bid + 1 ≤ maxBoard) (hn : NamesLen nameLen es) (S : SortedBy lexCmp nkey es)
    (D : DistinctNames es) : autoStart maxBoard nameLen es kw true = .ok (specAuto kw es true) :=
  autoStart_asc ⟨hv, hn, S, D⟩ ok

/-- descending — THE HYPOTHESIS THE PROOF FORCES: the successor keyword `CcharTolower(last) + 1` is the least string
above everything carrying the prefix only when the last byte is neither `0xff` (uint8 wrap to NUL) nor `'@'`
(`'A'` folds to `'a'`, skipping `[ \ ] ^ _ \``); `'Z'` was a third exception before fix b555081.  Under `LastOK`
the last board carrying the prefix is found, for tables with arbitrary name bytes. -/
theorem autocomplete_eq_scan_desc (maxBoard nameLen : Nat) (es : List Entry) (kw0 : List Nat) (x : Nat)
    (ok : KwOK nameLen (kw0 ++ [x])) (hx : LastOK x)
    (hv : ∀ e ∈ es, e.bid + 1 ≤ maxBoard) (hn : NamesLen nameLen es) (S : SortedBy lexCmp nkey es)
    (D : DistinctNames es) : autoStart maxBoard nameLen es (kw0 ++ [x]) false = .ok (specAuto (kw0 ++ [x]) es false) :=
  autoStart_desc ⟨hv, hn, S, D⟩ ok hx

/-- descending, EVERY keyword byte (keywords are client input), over tables whose names contain neither `'@'` nor
`0xff` (all tables C12 can produce): a keyword ending in such a byte is carried by no board, and the probe loop
never answers with a board that does not carry the prefix. -/
theorem autocomplete_eq_scan_desc_all (maxBoard nameLen : Nat) (es : List Entry) (kw : List Nat) (ok : KwOK nameLen kw)
    (hb : ∀ x ∈ kw, x < 256)
    (hv : ∀ e ∈ es, e.bid + 1 ≤ maxBoard) (hn : NamesLen nameLen es) (S : SortedBy lexCmp nkey es)
    (D : DistinctNames es) (V : NoAtFF es) : autoStart maxBoard nameLen es kw false = .ok (specAuto kw es false) :=
  autoStart_desc_all ⟨hv, hn, S, D⟩ ok hb V

/-- names made of letters, digits, `_`, `-`, `.` (what C12 accepts) contain neither `'@'` nor `0xff`. -/
def ValidNames (es : List Entry) : Prop :=
  ∀ e ∈ es, ∀ b ∈ cstr e.b.name, (48 ≤ b ∧ b ≤ 57) ∨ (65 ≤ b ∧ b ≤ 90) ∨ (97 ≤ b ∧ b ≤ 122) ∨ b = 95 ∨ b = 45 ∨ b = 46

theorem noAtFF_of_valid (es : List Entry) (h : ValidNames es) : NoAtFF es := by
  intro e he b hb
  unfold nkey low at hb
  obtain ⟨a, ha, rfl⟩ := List.mem_map.mp hb
  have := h e he a ha
  unfold ccharTolower
  split <;> omega

/-- the empty keyword (fix b555081): every board carries it — position 1 ascending, the last position descending. -/
theorem autocomplete_empty (maxBoard nameLen : Nat) (es : List Entry) (hl : 1 ≤ nameLen) (isAsc : Bool) :
    autoStart maxBoard nameLen es [] isAsc = .ok (specAuto [] es isAsc) := autoStart_empty maxBoard nameLen es hl isAsc

/-- a keyword longer than IDLEN (fix b555081; before it the code panicked) is answered -1, which is what the scan
gives when every name is NUL-terminated inside its array. -/
theorem autocomplete_long (maxBoard nameLen : Nat) (es : List Entry) (kw : List Nat) (isAsc : Bool)
    (h0 : ∀ x ∈ kw, x ≠ 0) (h : nameLen ≤ kw.length) (ht : ∀ e ∈ es, (nkey e).length < nameLen) :
    autoStart maxBoard nameLen es kw isAsc = .ok (specAuto kw es isAsc) := by
  rw [autoStart_long maxBoard nameLen es kw isAsc h, specAuto_long nameLen es kw isAsc h0 h ht]

/-- no keyword makes FindBoardAutoCompleteStartIdx fault. -/
theorem autocomplete_never_faults (maxBoard nameLen : Nat) (es : List Entry) (kw : List Nat) (isAsc : Bool)
    (hv : ∀ e ∈ es, e.bid + 1 ≤ maxBoard) (hn : NamesLen nameLen es) (S : SortedBy lexCmp nkey es)
    (D : DistinctNames es) (V : NoAtFF es) (h0 : ∀ x ∈ kw, x ≠ 0) (hb : ∀ x ∈ kw, x < 256) (hl : 1 ≤ nameLen) :
    ∃ r, autoStart maxBoard nameLen es kw isAsc = .ok r := by
  by_cases hlong : nameLen ≤ kw.length
  · exact ⟨_, autoStart_long maxBoard nameLen es kw isAsc hlong⟩
  · exact ⟨_, autoStart_short ⟨hv, hn, S, D⟩ V h0 hb hl (Nat.lt_of_not_le hlong) isAsc⟩

/-! ## (v) paging a listing through its next-cursor -/

/-- cutting into pages loses, repeats and reorders nothing … -/
theorem pages_concat {α : Type} (n f : Nat) (l : List α) : (pagesOf n f l).flatten = l := pagesOf_flatten n f l

/-- … and every page but the last is full. -/
theorem pages_full {α : Type} (n : Nat) (hn : 1 ≤ n) (l : List α) :
    ∀ p ∈ (pagesOf n l.length l).dropLast, p.length = n := pagesOf_sizes n hn l.length l (Nat.le_refl _)

/-- bbs.LoadGeneralBoards by name, caller SYSOP, no filters, any page size `n ≥ 1`, both directions: following the
next-cursor from the first page ends (within `len + 2` requests) and returns exactly the listable boards (not
vacated, not group boards) of the view, each once, in sorted order (reverse order descending), in pages of `n`. -/
theorem listing_pagewalk_complete_name (t : Tbl) (hn : NamesLen t.nameLen t.byName)
    (hv : ∀ e ∈ t.byName, e.bid + 1 ≤ t.maxBoard) (S : SortedBy lexCmp nkey t.byName) (D : DistinctNames t.byName)
    (n : Nat) (h1 : 1 ≤ n) (isAsc : Bool) :
    walkGeneral t .name (n : Int) isAsc = .ok (pagesOf n (visible t.byName isAsc).length (visible t.byName isAsc)) :=
  walk_cursors t .name listable _ n isAsc (fun _ => rfl) name_of_listable
    (fun p hp hne => startOfCursor_name_self ⟨hv, hn, S, D⟩ p hp hne isAsc) h1

/-- bbs.LoadGeneralBoards by class. -/
theorem listing_pagewalk_complete_class (t : Tbl) (H : ClassView t) (n : Nat) (h1 : 1 ≤ n) (isAsc : Bool) :
    walkGeneral t .cls (n : Int) isAsc = .ok (pagesOf n (visible t.byClass isAsc).length (visible t.byClass isAsc)) :=
  walk_cursors t .cls listable _ n isAsc (fun _ => rfl) name_of_listable
    (fun p hp hne => startOfCursor_class_self H p hp hne isAsc) h1

/-- bbs.LoadAutoCompleteBoards: every listable board carrying the keyword, once, in order — for every NUL-free
keyword (empty, over-long, any last byte) over tables without `'@'`/`0xff` in names. -/
theorem listing_pagewalk_complete_auto (t : Tbl) (kw : List Nat) (h0 : ∀ x ∈ kw, x ≠ 0) (hb : ∀ x ∈ kw, x < 256)
    (hl : 1 ≤ t.nameLen) (hn : NamesLen t.nameLen t.byName) (ht : ∀ e ∈ t.byName, (nkey e).length < t.nameLen)
    (hv : ∀ e ∈ t.byName, e.bid + 1 ≤ t.maxBoard) (S : SortedBy lexCmp nkey t.byName) (D : DistinctNames t.byName)
    (V : NoAtFF t.byName) (n : Nat) (h1 : 1 ≤ n) (isAsc : Bool) :
    walkAuto t (n : Int) kw isAsc =
      .ok (pagesOf n (visibleAuto kw t.byName isAsc).length (visibleAuto kw t.byName isAsc)) := by
  apply walkAuto_eq ⟨hv, hn, S, D⟩ kw h0 n h1 isAsc
  by_cases hlong : t.nameLen ≤ kw.length
  · exact autocomplete_long t.maxBoard t.nameLen t.byName kw isAsc h0 hlong ht
  · exact autoStart_short ⟨hv, hn, S, D⟩ V h0 hb hl (Nat.lt_of_not_le hlong) isAsc

/-! ### the cursor the bbs layer serialises resolves to its own entry; bbs.LoadGeneralBoardDetails -/

/-- by name: the cursor of the board at position `p` (its name as `NewBoardSummaryFromRaw` / `NewBoardDetailFromRaw`
serialise it) resolves to `p + 1` in both directions — for every non-vacated board, listable or not. -/
theorem cursor_resolves_name (t : Tbl) (hn : NamesLen t.nameLen t.byName)
    (hv : ∀ e ∈ t.byName, e.bid + 1 ≤ t.maxBoard) (S : SortedBy lexCmp nkey t.byName) (D : DistinctNames t.byName)
    (p : Nat) (hp : p < t.byName.length) (hne : nkey t.byName[p] ≠ []) (isAsc : Bool) :
    startOfCursor t .name (some (cursorOf t.byName[p])) isAsc = .ok (Int.ofNat p + 1) :=
  startOfCursor_name_self ⟨hv, hn, S, D⟩ p hp hne isAsc

/-- by class: the cursor carries the class column AS STORED — the C string of `Title[:4]`, blank padding included
(`"bb  "`), which is the key the table is sorted and searched by; it resolves to its own entry.  A cursor with the
padding stripped does not (`stripped_cursor_witness`). -/
theorem cursor_resolves_class (t : Tbl) (H : ClassView t) (p : Nat) (hp : p < t.byClass.length)
    (hne : nkey t.byClass[p] ≠ []) (isAsc : Bool) :
    startOfCursor t .cls (some (cursorOf t.byClass[p])) isAsc = .ok (Int.ofNat p + 1) :=
  startOfCursor_class_self H p hp hne isAsc

/-- bbs.LoadGeneralBoardDetails by name (no group / permission filter; since fix 6f287ee vacated slots are skipped and
skipped entries do not count against the page): for EVERY view — vacated slots anywhere — paging through the
next-cursor returns every non-vacated slot once, in order, and ends. -/
theorem listing_pagewalk_complete_details_name (t : Tbl) (hn : NamesLen t.nameLen t.byName)
    (hv : ∀ e ∈ t.byName, e.bid + 1 ≤ t.maxBoard) (S : SortedBy lexCmp nkey t.byName) (D : DistinctNames t.byName)
    (n : Nat) (h1 : 1 ≤ n) (isAsc : Bool) :
    walkDetails t .name (n : Int) isAsc =
      .ok (pagesOf n (visibleDetails t.maxBoard t.byName isAsc).length (visibleDetails t.maxBoard t.byName isAsc)) :=
  walk_cursors t .name (detailOK t.maxBoard) _ n isAsc (fun _ => rfl) (name_of_detailOK t.maxBoard)
    (fun p hp hne => startOfCursor_name_self ⟨hv, hn, S, D⟩ p hp hne isAsc) h1

/-- bbs.LoadGeneralBoardDetails by class, every view. -/
theorem listing_pagewalk_complete_details_class (t : Tbl) (H : ClassView t) (n : Nat) (h1 : 1 ≤ n) (isAsc : Bool) :
    walkDetails t .cls (n : Int) isAsc =
      .ok (pagesOf n (visibleDetails t.maxBoard t.byClass isAsc).length (visibleDetails t.maxBoard t.byClass isAsc)) :=
  walk_cursors t .cls (detailOK t.maxBoard) _ n isAsc (fun _ => rfl) (name_of_detailOK t.maxBoard)
    (fun p hp hne => startOfCursor_class_self H p hp hne isAsc) h1

/-- with valid bids, "kept by LoadGeneralBoardDetails" = "not a vacated slot". -/
theorem detailOK_iff (maxBoard : Nat) (e : Entry) (hv : e.bid + 1 ≤ maxBoard) :
    detailOK maxBoard e = (e.b.name.getD 0 0 != 0) := by
  simp [detailOK, validBid, hv]

/-! ### the class listings (slot order, paged by `next_bid`) -/

/-- bbs.LoadFullClassBoards: for every board table in slot order (`slots[i].bid = i`, at most MAX_BOARD slots) and
every page size `n ≥ 1`, following `next_bid` from bid 1 ends and returns every class (non-vacated group/symbolic
board) of the table exactly once, in slot order, in pages of `n` — in whichever slot the class sits. -/
theorem listing_pagewalk_complete_fullclass (maxBoard : Nat) (slots : List Entry)
    (hb : ∀ i (h : i < slots.length), slots[i].bid = i) (hlen : slots.length ≤ maxBoard) (hmb : 1 ≤ maxBoard)
    (n : Nat) (h1 : 1 ≤ n) :
    walkFullClass maxBoard slots (n : Int) = .ok (pagesOf n (slots.filter isClass).length (slots.filter isClass)) :=
  walkFullClass_eq maxBoard slots hb hlen hmb n h1

/-- in particular a class in the LAST slot of the table (where a newly created class lands) is returned. -/
theorem fullclass_returns_last_slot (maxBoard : Nat) (slots : List Entry) (e : Entry)
    (hb : ∀ i (h : i < (slots ++ [e]).length), (slots ++ [e])[i].bid = i) (hlen : (slots ++ [e]).length ≤ maxBoard)
    (hmb : 1 ≤ maxBoard) (he : isClass e = true) (n : Nat) (h1 : 1 ≤ n) :
    ∃ pages, walkFullClass maxBoard (slots ++ [e]) (n : Int) = .ok pages ∧ e ∈ pages.flatten := by
  refine ⟨_, walkFullClass_eq maxBoard (slots ++ [e]) hb hlen hmb n h1, ?_⟩
  rw [pagesOf_flatten]
  simp [he]

/-- an invalid start bid is refused. -/
theorem fullclass_invalid_bid (maxBoard : Nat) (slots : List Entry) (b n : Int)
    (h : ¬ (1 ≤ b ∧ b ≤ Int.ofNat maxBoard)) : loadFullClass maxBoard slots b n = .error .invalidBid := by
  unfold loadFullClass; rw [if_pos h]

/-- bbs.LoadClassBoards, first request after a (re)load (`FirstChild` zeroed by cache.SortBCache): whatever
`ChildCount` the record stored, the answer is every sub-class of the class — the non-vacated group boards whose
`Gid` is the class — once, in the order of the sorted view (by class for the root class 1).  No hypothesis "at most
ChildCount + 5 sub-classes" is needed: cache.ResolveBoardGroup runs and (fix ebc3be0) stores the number of children. -/
theorem loadClassBoards_eq_scan (t : Tbl) (links : List (Nat × Nat)) (c : Int) (by_ : SortBy)
    (hv : 1 ≤ c ∧ c ≤ Int.ofNat t.maxBoard) (hi : (c - 1).toNat < links.length)
    (hlen : ∀ c' b b', (childrenOf t links c' b).length = (childrenOf t links c' b').length) :
    ∃ st', loadClassBoards t (ClsState.fresh links) c by_ = .ok (subclasses t links c (byOf c by_), st') := by
  obtain ⟨st', h, _⟩ := loadClassBoards_step t (ClsState.fresh links) c by_ hv hi hlen (clsInv_fresh t links)
  exact ⟨st', h⟩

/-- … and for EVERY history of requests on the table (any classes, any sort keys, repeated): each request answers the
full list of sub-classes — in particular a second identical request answers the same.  (`hlen`: the two sorted views
hold the same boards, so a class has as many children by name as by class.)
Where the `ChildCount + 5` bound of the chain walk still applies: only when the resolve is skipped, i.e. `FirstChild`
is set and `ChildCount ≠ 0`; the invariant `ClsInv` shows that on an unchanging table `ChildCount` is then the number
of children.  A stale state needs a write to the cache that neither re-sorts nor re-resolves — cache.ResetBoard
without cache.SortBCache (its only caller, ptt.addBoardRecord, sorts right after); see docs/asbuilt/C11.md. -/
theorem loadClassBoards_history (t : Tbl) (links : List (Nat × Nat)) (calls : List (Int × SortBy))
    (hv : ∀ cb ∈ calls, 1 ≤ cb.1 ∧ cb.1 ≤ Int.ofNat t.maxBoard ∧ (cb.1 - 1).toNat < links.length)
    (hlen : ∀ c' b b', (childrenOf t links c' b).length = (childrenOf t links c' b').length) :
    runCalls t (ClsState.fresh links) calls = .ok (calls.map fun cb => subclasses t links cb.1 (byOf cb.1 cb.2)) :=
  runCalls_eq t links (ClsState.fresh links) calls (fun _ => rfl) rfl hv hlen (clsInv_fresh t links)

/-- `hlen` holds when both views are permutations of the same slots. -/
theorem children_count_of_perm (t : Tbl) (links : List (Nat × Nat)) (h : t.byName.Perm t.byClass) :
    ∀ c' b b', (childrenOf t links c' b).length = (childrenOf t links c' b').length := by
  intro c' b b'
  have key : (childrenOf t links c' .name).length = (childrenOf t links c' .cls).length :=
    (h.filter _).length_eq
  cases b <;> cases b' <;> first | rfl | exact key | exact key.symm

/-- every board visited exactly once: the concatenation of the pages is the visible list (all three listings). -/
theorem pagewalk_visits_all_name (t : Tbl) (hn : NamesLen t.nameLen t.byName)
    (hv : ∀ e ∈ t.byName, e.bid + 1 ≤ t.maxBoard) (S : SortedBy lexCmp nkey t.byName) (D : DistinctNames t.byName)
    (n : Nat) (h1 : 1 ≤ n) (isAsc : Bool) :
    ∃ pages, walkGeneral t .name (n : Int) isAsc = .ok pages ∧ pages.flatten = visible t.byName isAsc :=
  ⟨_, listing_pagewalk_complete_name t hn hv S D n h1 isAsc, pagesOf_flatten _ _ _⟩

/-! ## non-vacuity, and what happens outside the hypotheses (kernel evaluation of the model) -/

deriving instance DecidableEq for Except   -- the examples below decide equations between `Except` values

/-- a `Brdname`: `s` in a zeroed array of IDLEN+1 = 13 bytes. -/
def nm (s : List Nat) : List Nat := copyInto 13 s
/-- a board whose title is `cls`, then `c4`, then Big5 `◎` (A1 B7) and `x`: with a 4-byte `cls` that is the class column and
title byte 4 (a blank in a well-formed title). -/
def brd (name : List Nat) (cls : List Nat) (c4 : Nat) : Board := ⟨nm name, cls ++ [c4, 161, 183, 120], false⟩

/-- boards `ab`, vacated, `a_`, `B` (class `aaaa`), by name: vacated, `a_`, `ab`, `B`. -/
def exBoards : List Board := [brd [97, 98] [97, 97, 97, 97] 32, ⟨nm [], [0, 0, 0, 0, 0, 0, 0, 0], false⟩,
  brd [97, 95] [97, 97, 97, 98] 32, brd [66] [97, 97, 97, 97] 32]
def exByName : List Entry := [⟨1, exBoards[1]⟩, ⟨2, exBoards[2]⟩, ⟨0, exBoards[0]⟩, ⟨3, exBoards[3]⟩]
def exByClass : List Entry := [⟨1, exBoards[1]⟩, ⟨0, exBoards[0]⟩, ⟨3, exBoards[3]⟩, ⟨2, exBoards[2]⟩]
def exTbl : Tbl := ⟨100, 13, exByName, exByClass⟩

example : IsView exBoards exByName := ⟨[1, 2, 0, 3], by decide, by decide⟩
example : SortedBy lexCmp nkey exByName := by unfold SortedBy exByName; decide
example : SortedBy cmpC ckey exByClass := by unfold SortedBy exByClass; decide
example : DistinctNames exByName := by unfold DistinctNames exByName; decide
example : NamesLen 13 exByName := by unfold NamesLen exByName; decide
example : ∀ e ∈ exByClass, ClassOK e := by unfold exByClass; decide
example : ValidNames exByName := by
  unfold ValidNames exByName; decide
example : KwOK 13 [97] ∧ LastOK 97 ∧ LastOK 90 ∧ ¬ LastOK 64 ∧ ¬ LastOK 255 := by
  refine ⟨⟨by decide, by decide, by decide⟩, ?_, ?_, ?_, ?_⟩ <;> unfold LastOK <;> decide
example : getBid exByName (nm [65, 66]) = .ok 1 := by decide +kernel
example : getBid exByName (nm [98, 98]) = .ok 0 := by decide +kernel
example : findIdx 100 (cmpName (nm [48])) exByName true = .ok 2 := by decide +kernel
example : findIdx 100 (cmpName (nm [48])) exByName false = .ok 1 := by decide +kernel
example : findIdx 100 (cmpName (nm [122])) exByName true = .ok (-1) := by decide +kernel
example : autoStart 100 13 exByName [65] true = .ok 2 := by decide +kernel
example : autoStart 100 13 exByName [65] false = .ok 3 := by decide +kernel
example : (walkGeneral exTbl .name 1 true).map (·.map (·.map (·.bid))) = .ok [[2], [0], [3]] := by decide +kernel
example : (walkGeneral exTbl .cls 2 false).map (·.map (·.map (·.bid))) = .ok [[2, 3], [0]] := by decide +kernel
example : (walkAuto exTbl 1 [65] false).map (·.map (·.map (·.bid))) = .ok [[0], [2]] := by decide +kernel

/-- the defect repaired by 8b5eb5b, now answered correctly: the key sorts before the first entry. -/
example : findIdx 100 (cmpName (nm [48])) [⟨0, brd [97] [97] 32⟩, ⟨1, brd [98] [97] 32⟩, ⟨2, brd [99] [97] 32⟩] true
    = .ok 1 := by decide +kernel

/-- outside `DistinctNames`: boards `a`, `A`; the by-name page walk with page size 1 never ends (the cursor `A`
resolves to position 1 again). -/
theorem dupname_witness :
    walkGeneral ⟨100, 13, [⟨0, brd [97] [97] 32⟩, ⟨1, brd [65] [97] 32⟩], []⟩ .name 1 true = .error (.fault .diverge) := by
  decide +kernel

/-- outside `ClassOK`: title byte 4 is `'Z'` on board `a`: the by-class search for the exact cursor of board `b`
answers position 1 (board `a`) although `b` is at position 2. -/
theorem class5_witness :
    findIdx 100 (cmpClass [97, 98, 99, 100] (nm [98]))
      [⟨0, brd [97] [97, 98, 99, 100] 90⟩, ⟨1, brd [98] [97, 98, 99, 100] 32⟩] true = .ok 1 := by decide +kernel

/-- outside `LastOK`/`NoAtFF`: names with `'@'`: the descending search for `x@` misses board `x@a` (three boards
between it and the successor keyword `xA` exhaust the probe). -/
theorem lastAt_witness :
    autoStart 100 13 [⟨0, brd [120, 64, 97] [97] 32⟩, ⟨1, brd [120, 95, 49] [97] 32⟩, ⟨2, brd [120, 95, 50] [97] 32⟩,
      ⟨3, brd [120, 95, 51] [97] 32⟩] [120, 64] false = .ok (-1) := by decide +kernel

/-- boards `a`, `b`, both of the blank-padded class `"bb  "` (a class shorter than 4 bytes): page boundaries inside
the class are crossed correctly … -/
def padTbl : Tbl :=
  let v : List Entry := [⟨0, brd [97] [98, 98, 32, 32] 32⟩, ⟨1, brd [98] [98, 98, 32, 32] 32⟩]
  ⟨100, 13, v, v⟩

example : ClassView padTbl := by
  refine ⟨?_, ?_, ?_, ?_, ?_, ?_⟩ <;> simp only [padTbl] <;> first | decide | (unfold SortedBy; decide) | (unfold DistinctNames; decide) | (unfold NamesLen; decide)
example : (walkGeneral padTbl .cls 1 true).map (·.map (·.map (·.bid))) = .ok [[0], [1]] := by decide +kernel
example : (walkDetails padTbl .cls 1 false).map (·.map (·.map (·.bid))) = .ok [[1], [0]] := by decide +kernel
example : startOfCursor padTbl .cls (some (cursorOf ⟨1, brd [98] [98, 98, 32, 32] 32⟩)) true = .ok 2 := by decide +kernel

/-- … but only because the cursor carries the class as stored: with the blank padding stripped (`"bb"`) the cursor of
board `b` is an absent key below its whole class and resolves to board `a` (ascending: the same page for ever). -/
theorem stripped_cursor_witness :
    startOfCursor padTbl .cls (some ⟨[98, 98], [98]⟩) true = .ok 1 ∧
      startOfCursor padTbl .cls (some ⟨[98, 98], [98]⟩) false = .ok (-1) := ⟨by decide +kernel, by decide +kernel⟩

/-- the loop of ptt.LoadGeneralBoardDetails BEFORE fix 6f287ee: no filter, and an entry skipped for an invalid bid
still counted against `nBoards + 1`. -/
def collectDOld (maxBoard : Nat) : List Entry → Nat → List Entry
  | [], _ => []
  | _ :: _, 0 => []
  | e :: rest, cap + 1 =>
    if validBid maxBoard e then e :: collectDOld maxBoard rest cap else collectDOld maxBoard rest cap

def walkDetailsOld (t : Tbl) (by_ : SortBy) (nBoards : Int) (isAsc : Bool) : R (List (List Entry)) :=
  walkFrom (fun c => do
      let startIdx ← startOfCursor t by_ c isAsc
      if startIdx < 0 then pure ⟨[], none⟩
      else liftM (pttLoadG (collectDOld t.maxBoard) (t.view by_) startIdx nBoards isAsc))
    by_ (walkFuel (t.view by_).length) none

def vacTbl : Tbl :=
  let v : List Entry := [⟨0, ⟨nm [], [0, 0, 0, 0, 0, 0, 0, 0], false⟩⟩, ⟨1, ⟨nm [], [0, 0, 0, 0, 0, 0, 0, 0], false⟩⟩,
    ⟨2, brd [97] [97, 97, 97, 97] 32⟩, ⟨3, brd [98] [97, 97, 97, 97] 32⟩]
  ⟨100, 13, v, v⟩

/-- the defect repaired by 6f287ee (found by this check): two vacated slots, by name, page size 1: under the OLD rule
the look-ahead was a vacated slot, whose name serialises to the empty cursor = "no next page": the walk ended after the
first slot and boards `a`, `b` were never returned; by class all vacated slots share one key and the walk never
ended.  Keys `walk:details-name+vacated`, `walk:details-class+vacated`. -/
theorem details_vacated_witness :
    (walkDetailsOld vacTbl .name 1 true).map (·.map (·.map (·.bid))) = .ok [[0]] ∧
      walkDetailsOld ⟨100, 13, [], [⟨0, ⟨nm [], [0, 0, 0, 0, 0, 0, 0, 0], false⟩⟩, ⟨1, ⟨nm [], [0, 0, 0, 0, 0, 0, 0, 0], false⟩⟩,
        ⟨2, ⟨nm [], [0, 0, 0, 0, 0, 0, 0, 0], false⟩⟩]⟩ .cls 1 true = .error (.fault .diverge) := ⟨by decide +kernel, by decide +kernel⟩

/-- … and the repaired code on the same table. -/
example : (walkDetails vacTbl .name 1 true).map (·.map (·.map (·.bid))) = .ok [[2], [3]] := by decide +kernel
example : (walkDetails vacTbl .cls 1 false).map (·.map (·.map (·.bid))) = .ok [[3], [2]] := by decide +kernel

/-- the class listing on a table whose only (= last) slot is a class, and what a loop that stops one slot early
(seeded change C11-r4-1: the 1-based bid compared with the slot count) would return. -/
def oneClass : List Entry := [⟨0, ⟨nm [99, 97], [97, 97, 97, 97, 32, 161, 183, 120], true⟩⟩]
example : (walkFullClass 100 oneClass 1).map (·.map (·.map (·.bid))) = .ok [[0]] := by decide +kernel
theorem fullclass_off_by_one_witness :
    (walkFullClass 100 oneClass.dropLast 1).map (·.map (·.map (·.bid))) = .ok [[]] := by decide +kernel
example : loadFullClass 100 oneClass 0 1 = .error .invalidBid := by rfl
example : loadFullClass 100 oneClass 101 1 = .error .invalidBid := by rfl

/-- LoadClassBoards: class 2 with six sub-classes and stored `ChildCount` 0. -/
def sixSubs : List Entry :=
  (List.range 8).map fun i => ⟨i, ⟨nm [115, 48 + i], [97, 97, 97, 97, 32, 161, 183, 120], true⟩⟩
def sixLinks : List (Nat × Nat) := [(0, 0), (1, 0), (2, 0), (2, 0), (2, 0), (2, 0), (2, 0), (2, 0)]
def sixTbl : Tbl := ⟨100, 13, sixSubs, sixSubs⟩

/-- the walk of the chain BEFORE fix ebc3be0 (ResolveBoardGroup did not store the count: the bound was the stored
`ChildCount + 5`): only five of the six sub-classes were listed.  Key `list:children+cap`. -/
theorem children_cap_witness :
    (gather (fun _ => false) isClass (childrenOf sixTbl sixLinks 2 .name) (0 + 5)).map (·.bid) = [2, 3, 4, 5, 6] := by decide +kernel

/-- the repaired code lists all six, and again on the second request. -/
example : (runCalls sixTbl (ClsState.fresh sixLinks) [(2, .name), (2, .name), (2, .cls)]).map (·.map (·.map (·.bid))) =
    .ok [[2, 3, 4, 5, 6, 7], [2, 3, 4, 5, 6, 7], [2, 3, 4, 5, 6, 7]] := by decide +kernel

end PttVerif.C11.Props
