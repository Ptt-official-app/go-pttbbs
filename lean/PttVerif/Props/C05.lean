import PttVerif.Proofs.C05
/-
C05 — Record-file operations touch exactly the addressed record.

The property theorems, in the order of Model/C05.lean: the cmsys primitives and histories of them, then the callers
whose index arithmetic decides which record is addressed.  Each caller layer starts with the theorem that reads the
regenerated facts of the source, and all but the last hold a witness: what the rule does to a neighbouring record when
it is broken in the way named.

`record f sz k` is the byte range `[k*sz, (k+1)*sz)` of file `f`; byte `p` belongs to record `p / sz`.  A frame reads
"a byte of another record keeps its value" for the primitives, addBoardRecord and the .PASSWDS record writes, "a byte
that changed lies in a record carrying the requested name / id" for the request layer, and "a byte outside the
interval of the field keeps its value" for the .PASSWDS field writes.
-/
namespace PttVerif.C05.Props
open PttVerif PttVerif.C05

/-! #### the regenerated data: every record type fills its stride exactly -/

/-- packed size (what `encoding/binary` writes) = stride (what the seek arithmetic uses), for the four
record files.  This discharges the hypothesis `img.length = sz` of the append theorems per record type;
it is the statement that failed for `.post` before c0b4139 (99 ≠ 100). -/
theorem packed_eq_stride :
    Gen.RecFile.packedFileHeaderRaw = Gen.RecFile.FILE_HEADER_RAW_SZ ∧
    Gen.RecFile.packedBoardHeaderRaw = Gen.RecFile.BOARD_HEADER_RAW_SZ ∧
    Gen.RecFile.packedUserecRaw = Gen.RecFile.USEREC_RAW_SZ ∧
    Gen.RecFile.packedPostLog = Gen.RecFile.POSTLOG_SZ := by decide

/-- the safe-delete mark fits into one record of every stride, and all strides are positive. -/
theorem mark_fits_strides :
    safeDelMark.length ≤ Gen.RecFile.POSTLOG_SZ ∧ safeDelMark.length ≤ Gen.RecFile.FILE_HEADER_RAW_SZ ∧
    safeDelMark.length ≤ Gen.RecFile.BOARD_HEADER_RAW_SZ ∧ safeDelMark.length ≤ Gen.RecFile.USEREC_RAW_SZ ∧
    0 < Gen.RecFile.POSTLOG_SZ := by decide

/-! #### append -/

/-- AppendRecord on any file (any length, torn tail or not, absent or not): the result is the complete
records followed by the image, and the returned index is count+1. -/
theorem append_spec (s : FS) (sz : Nat) (img : List Nat) (hsz : 0 < sz) (himg : img.length = sz) :
    appendRecord s sz img =
      (⟨true, s.bytes.take (s.bytes.length / sz * sz) ++ img⟩, .idx .ok (s.bytes.length / sz + 1)) := by
  unfold appendRecord
  rw [if_neg (Nat.ne_of_gt hsz), appendBytes_eq hsz himg]

example : appendRecord ⟨true, [1, 2, 3, 4, 5]⟩ 2 [8, 9] = (⟨true, [1, 2, 3, 4, 8, 9]⟩, .idx .ok 3) := by decide

/-- the returned index is the new record count (and the old count plus one). -/
theorem append_returns_count_succ (s : FS) (sz : Nat) (img : List Nat) (hsz : 0 < sz) (himg : img.length = sz) :
    ∃ s', appendRecord s sz img = (s', .idx .ok (s.bytes.length / sz + 1)) ∧
      getNumRecords s' sz = .count (s.bytes.length / sz + 1) := by
  refine ⟨_, append_spec s sz img hsz himg, ?_⟩
  have hl : (s.bytes.take (s.bytes.length / sz * sz) ++ img).length = (s.bytes.length / sz + 1) * sz := by
    rw [List.length_append, List.length_take, Nat.min_eq_left (div_mul_le' _ _), himg, Nat.add_mul, Nat.one_mul]
  simp only [getNumRecords, Bool.not_true, Bool.false_eq_true, if_false]
  rw [if_neg (Nat.ne_of_gt hsz), hl, Nat.mul_div_cancel _ hsz]

/-- every acknowledged (complete) record is intact after an append — for ANY image length. -/
theorem append_preserves_prefix (s : FS) (sz : Nat) (img : List Nat) (k : Nat) (hk : k < s.bytes.length / sz) :
    record (appendRecord s sz img).1.bytes sz k = record s.bytes sz k ∧
    (appendRecord s sz img).1.bytes.take (s.bytes.length / sz * sz) = s.bytes.take (s.bytes.length / sz * sz) := by
  have hsz : sz ≠ 0 := by intro h; subst h; simp at hk
  have h1 := div_mul_le' s.bytes.length sz
  unfold appendRecord
  rw [if_neg hsz]
  simp only [appendBytes]
  refine ⟨?_, take_writeAt _ _ _ _ (Nat.le_refl _) h1⟩
  apply record_writeAt_other (mul_succ_le_of_lt_div hk)
  right; exact Nat.mul_le_mul_right sz hk

/-- the crash clause: a tail of any length `< sz` left by an interrupted append is overwritten by the
next append; the `n` acknowledged records `g` stay byte-identical. -/
theorem append_over_torn_tail (p : Bool) (g t img : List Nat) (sz n : Nat) (hsz : 0 < sz)
    (hg : g.length = n * sz) (ht : t.length < sz) (himg : img.length = sz) :
    appendRecord ⟨p, g ++ t⟩ sz img = (⟨true, g ++ img⟩, .idx .ok (n + 1)) := by
  rw [append_spec _ _ _ hsz himg]
  simp only [length_append_div hg ht]
  rw [← hg, List.take_left']
  rfl

example : appendRecord ⟨true, [1, 2, 3, 4] ++ [7]⟩ 2 [8, 9] = (⟨true, [1, 2, 3, 4] ++ [8, 9]⟩, .idx .ok 3) := by decide

/-- the record count ignores a torn tail. -/
theorem numRecords_ignores_tail (g t : List Nat) (sz n : Nat) (hsz : 0 < sz)
    (hg : g.length = n * sz) (ht : t.length < sz) :
    getNumRecords ⟨true, g ++ t⟩ sz = .count n ∧ getNumRecords ⟨true, g ++ t⟩ sz = getNumRecords ⟨true, g⟩ sz := by
  have hn := length_append_div hg ht
  have hn' : g.length / sz = n := by rw [hg, Nat.mul_div_cancel _ hsz]
  simp only [getNumRecords, Bool.not_true, Bool.false_eq_true, if_false, if_neg (Nat.ne_of_gt hsz), hn, hn', and_self]

/-! #### substitute / delete: only the addressed record -/

/-- SubstituteRecord with any (also negative, also far-beyond-EOF) index: the file never shrinks and no
byte that existed before and belongs to another record (`p / sz ≠ i`) changes. -/
theorem substitute_frame (s : FS) (sz : Nat) (i : Int) (img : List Nat) (hsz : 0 < sz) (himg : img.length ≤ sz) :
    s.bytes.length ≤ (substituteRecord s sz i img).1.bytes.length ∧
    ∀ p, p < s.bytes.length → ((p / sz : Nat) : Int) ≠ i →
      (substituteRecord s sz i img).1.bytes[p]? = s.bytes[p]? :=
  writeRecordAt_frame s sz i img hsz himg

/-- ... and the addressed record then holds the image. -/
theorem substitute_stores (s : FS) (sz i : Nat) (img : List Nat) (himg : img.length = sz) :
    substituteRecord s sz (i : Int) img = (⟨true, writeAt s.bytes (i * sz) img⟩, .unit .ok) ∧
    record (substituteRecord s sz (i : Int) img).1.bytes sz i = img := by
  unfold substituteRecord
  rw [writeRecordAt_nat]
  exact ⟨rfl, record_writeAt_same himg⟩

example : substituteRecord ⟨true, [1, 2, 3, 4, 5, 6, 7]⟩ 2 1 [8, 9] = (⟨true, [1, 2, 8, 9, 5, 6, 7]⟩, .unit .ok) := by decide
example : substituteRecord ⟨true, [1, 2, 3]⟩ 2 3 [8, 9] = (⟨true, [1, 2, 3, 0, 0, 0, 8, 9]⟩, .unit .ok) := by decide

/-- DeleteRecord: same frame (the mark is 2 bytes, see `mark_fits_strides`). -/
theorem delete_frame (s : FS) (sz : Nat) (i : Int) (hsz : 0 < sz) (hm : safeDelMark.length ≤ sz) :
    s.bytes.length ≤ (deleteRecord s sz i).1.bytes.length ∧
    ∀ p, p < s.bytes.length → ((p / sz : Nat) : Int) ≠ i →
      (deleteRecord s sz i).1.bytes[p]? = s.bytes[p]? :=
  writeRecordAt_frame s sz i safeDelMark hsz hm

/-- inside an existing addressed record only the mark bytes change. -/
theorem delete_marks (s : FS) (sz i : Nat) (hm : safeDelMark.length ≤ sz) (hi : i < s.bytes.length / sz) :
    record (deleteRecord s sz (i : Int)).1.bytes sz i = safeDelMark ++ (record s.bytes sz i).drop safeDelMark.length ∧
    (deleteRecord s sz (i : Int)).1.bytes.length = s.bytes.length := by
  unfold deleteRecord
  rw [writeRecordAt_nat]
  exact ⟨record_writeAt_prefix hm, length_writeAt_record hm hi⟩

example : deleteRecord ⟨true, [1, 2, 3, 4, 5, 6, 7, 8, 9]⟩ 4 1 = (⟨true, [1, 2, 3, 4, 46, 100, 7, 8, 9]⟩, .unit .ok) := by decide

/-! #### ModifyDirLite -/

/-- the pair (index, name) is stale when the record does not exist or carries another name. -/
def Stale (s : FS) (idx : Int) (name : List Nat) : Prop :=
  s.present = false ∨ idx < 1 ∨ (s.bytes.length : Int) < (dirSz : Int) * idx ∨
  cstr (field (record s.bytes dirSz (idx - 1).toNat) Gen.RecFile.offFilename Gen.RecFile.lenFilename) ≠ cstr name

/-- ModifyDirLite changes no byte outside record `idx` (1-based) and never changes the file length. -/
theorem modify_frame (s : FS) (idx : Int) (a : ModArgs) :
    (modifyDirLite s idx a).1.bytes.length = s.bytes.length ∧
    ∀ p, p < s.bytes.length → ((p / dirSz : Nat) : Int) ≠ idx - 1 →
      (modifyDirLite s idx a).1.bytes[p]? = s.bytes[p]? := by
  rcases modifyDirLite_cases s idx a with h | h | ⟨k, hk, _, hle, _, h⟩
  · rw [h]; exact ⟨rfl, fun _ _ _ => rfl⟩
  · rw [h]; exact ⟨rfl, fun _ _ _ => rfl⟩
  · rw [h]
    have hin := add_le_succ_mul k dirSz _ (Nat.le_of_eq (modifyRecord_length _ a (length_record_of_le _ _ _ hle)))
    refine ⟨length_writeAt_inside _ _ _ (Nat.le_trans hin hle), fun p hp hne => ?_⟩
    exact getElem?_writeAt_of_div_ne _ _ _ dirSz k p (Nat.le_refl _) hin hp (fun h' => hne (by rw [h', hk, Int.add_sub_cancel]))

/-- a stale (index, name) pair is refused and the file is left exactly as it was. -/
theorem modify_refuses_stale (s : FS) (idx : Int) (a : ModArgs) (h : Stale s idx a.name) :
    ∃ e, e ≠ Err.ok ∧ modifyDirLite s idx a = (s, .unit e) := by
  rcases modifyDirLite_cases s idx a with h' | h' | ⟨k, hk, hp, hle, hn, _⟩
  · exact ⟨.invalidIdx, by decide, h'⟩
  · exact ⟨.err, by decide, h'⟩
  · exfalso
    subst hk
    rcases h with h | h | h | h
    · rw [hp] at h; cases h
    · omega
    · exact succ_mul_dirSz_le_iff.1 hle h
    · rw [Int.add_sub_cancel, Int.toNat_natCast] at h
      exact h ((cstrcmpEq_iff _ _).1 hn)

/-- conversely a matching pair is accepted: the record is rewritten in place by `modifyRecord`. -/
theorem modify_accepts (s : FS) (k : Nat) (a : ModArgs) (h : ¬ Stale s ((k : Int) + 1) a.name) :
    modifyDirLite s ((k : Int) + 1) a =
      (⟨true, writeAt s.bytes (k * dirSz) (modifyRecord (record s.bytes dirSz k) a)⟩, .unit .ok) := by
  unfold Stale at h
  rw [Int.add_sub_cancel, Int.toNat_natCast] at h
  simp only [not_or, Decidable.not_not] at h
  obtain ⟨h1, _, h3, h4⟩ := h
  apply modifyDirLite_ok s k a (by simpa using h1)
  · exact succ_mul_dirSz_le_iff.2 h3
  · exact (cstrcmpEq_iff _ _).2 h4

/-- an accepted ModifyDirLite keeps the record's file name (so the (index, name) pair stays valid). -/
theorem modify_keeps_name (s : FS) (k : Nat) (a : ModArgs) (h : ¬ Stale s ((k : Int) + 1) a.name) :
    field (record (modifyDirLite s ((k : Int) + 1) a).1.bytes dirSz k) Gen.RecFile.offFilename Gen.RecFile.lenFilename =
      field (record s.bytes dirSz k) Gen.RecFile.offFilename Gen.RecFile.lenFilename := by
  have hle : (k + 1) * dirSz ≤ s.bytes.length :=
    succ_mul_dirSz_le_iff.2 fun h3 => h (Or.inr (Or.inr (Or.inl h3)))
  have hfull : (record s.bytes dirSz k).length = dirSz := length_record_of_le _ _ _ hle
  rw [modify_accepts s k a h]
  show field (record (writeAt s.bytes (k * dirSz) _) dirSz k) _ _ = _
  rw [record_writeAt_same (modifyRecord_length _ _ hfull)]
  -- the file name stands at offset 0: `field r 0 n` is `r.take n` by definition
  exact (modifyRecord_keeps _ _ hfull).2

/-- after the clamp the stored recommend byte denotes a value within ±MAX_RECOMMENDS whenever the delta is
non-zero (the int8 sum wraps first: mirrored). -/
theorem recommend_clamped (cur : Nat) (delta : Int) (hd : delta ≠ 0) :
    -maxRec ≤ toInt8 (recommendUpdate cur delta) ∧ toInt8 (recommendUpdate cur delta) ≤ maxRec := by
  have hm : maxRec = 100 := rfl
  unfold recommendUpdate
  rw [if_neg hd]
  simp only [hm]
  generalize addInt8 delta (toInt8 cur) = r
  by_cases h1 : r > 100
  · rw [if_pos h1, toInt8_int8Byte _ (by decide) (by decide)]; decide
  · rw [if_neg h1]
    by_cases h2 : r < -100
    · rw [if_pos h2, toInt8_int8Byte _ (by decide) (by decide)]; decide
    · rw [if_neg h2, toInt8_int8Byte _ (by omega) (by omega)]; omega

/-- non-vacuity: a one-record file, matching name, recommend 100 + 100 wraps in int8 to -56 (byte 200). -/
example :
    let r := (List.replicate 28 77) ++ [0, 0, 0, 0, 0, 100] ++ List.replicate 94 1
    (modifyDirLite ⟨true, r⟩ 1 ⟨List.replicate 28 77, 0, none, none, none, 100, none, 0, 0⟩).1.bytes[33]? = some 200 := by
  decide +kernel

/-! #### window read -/

/-- ascending window: records `start, start+1, …`, at most `n`, not beyond `cnt`. -/
def windowAsc (f : File) (cnt start n : Nat) : List (Nat × List Nat) :=
  (List.range' start (min n (cnt + 1 - start))).map (fun i => (i, record f dirSz (i - 1)))

/-- descending window: records `start, start-1, …, 1`, at most `n`; empty when `start` is beyond `cnt`. -/
def windowDesc (f : File) (cnt start n : Nat) : List (Nat × List Nat) :=
  if start > cnt then [] else (List.range (min n start)).map (fun j => (start - j, record f dirSz (start - j - 1)))

/-- GetRecords returns exactly the requested run of consecutive records in the requested direction,
clipped to `[1, count]` (count = complete records; a torn tail is never returned). -/
theorem getRecords_window (s : FS) (start n : Nat) (desc : Bool) (hp : s.present = true) (h1 : 1 ≤ start) :
    getRecords s (start : Int) (n : Int) desc =
      .recs .ok (if desc then windowDesc s.bytes (s.bytes.length / dirSz) start n
                 else windowAsc s.bytes (s.bytes.length / dirSz) start n) := by
  have hs : ¬ ((start : Nat) : Int) < 1 := Int.not_lt.2 (Int.ofNat_le.2 h1)
  simp only [getRecords, if_neg hs, hp, Bool.not_true, Bool.false_eq_true, if_false,
    if_neg (Int.not_lt.2 (Int.natCast_nonneg n)), Int.toNat_natCast]
  cases desc with
  | false => rw [if_neg Bool.false_ne_true, getLoop_asc _ _ _ _ (Nat.le_refl _) h1]; rfl
  | true =>
    rw [if_pos rfl]
    unfold windowDesc
    by_cases hc : start > s.bytes.length / dirSz
    · rw [if_pos hc, getLoop_out _ _ _ _ _ (Or.inr hc)]
    · rw [if_neg hc, getLoop_desc _ _ _ _ (Nat.le_refl _) (Nat.le_of_not_gt hc)]

theorem getRecords_invalid_start (s : FS) (start n : Int) (desc : Bool) (h : start < 1) :
    getRecords s start n desc = .recs .invalidIdx [] := by
  unfold getRecords; rw [if_pos h]

example : getRecords ⟨true, List.replicate 300 7⟩ 2 5 true =
    .recs .ok [(2, List.replicate 128 7), (1, List.replicate 128 7)] := by decide +kernel

/-! #### histories -/

/-- an operation is well-formed for a record file of stride `sz`: it uses that stride and writes at
most one record's worth of bytes (appends may carry any image: they never reach a complete record). -/
def OpAt (sz : Nat) : Op → Prop
  | .append sz' _ => sz' = sz
  | .subst sz' _ img => sz' = sz ∧ img.length ≤ sz
  | .delete sz' _ => sz' = sz ∧ safeDelMark.length ≤ sz
  | .modify _ _ => sz = dirSz
  | .num _ => True
  | .get _ _ _ => True

/-- the 0-based record an operation addresses explicitly (append addresses the slot behind the last
complete record, which is never an existing complete record). -/
def addressed : Op → Option Int
  | .subst _ i _ => some i
  | .delete _ i => some i
  | .modify idx _ => some (idx - 1)
  | _ => none

/-- one step: a complete record that is not addressed is byte-identical afterwards; the file never shrinks. -/
theorem step_frame (s : FS) (op : Op) (sz k : Nat) (hsz : 0 < sz) (hop : OpAt sz op)
    (hk : k < s.bytes.length / sz) (hne : addressed op ≠ some (k : Int)) :
    record (step s op).1.bytes sz k = record s.bytes sz k ∧ s.bytes.length ≤ (step s op).1.bytes.length := by
  cases op with
  | append sz' img =>
    obtain rfl : sz' = sz := hop
    refine ⟨(append_preserves_prefix s sz' img k hk).1, ?_⟩
    rw [step, appendRecord, if_neg (Nat.ne_of_gt hsz)]
    exact length_writeAt_ge _ _ _
  | subst sz' i img =>
    obtain ⟨rfl, himg⟩ := hop
    have hf := substitute_frame s sz' i img hsz himg
    exact ⟨record_eq_of_frame hk (fun h => hne (congrArg some h.symm)) hf.2, hf.1⟩
  | delete sz' i =>
    obtain ⟨rfl, hm⟩ := hop
    have hf := delete_frame s sz' i hsz hm
    exact ⟨record_eq_of_frame hk (fun h => hne (congrArg some h.symm)) hf.2, hf.1⟩
  | modify idx a =>
    obtain rfl : sz = dirSz := hop
    have hf := modify_frame s idx a
    exact ⟨record_eq_of_frame hk (fun h => hne (congrArg some h.symm)) hf.2, Nat.le_of_eq hf.1.symm⟩
  | num sz' => exact ⟨rfl, Nat.le_refl _⟩
  | get st n d => exact ⟨rfl, Nat.le_refl _⟩

/-- **history frame**: over an arbitrary sequence of well-formed operations, every complete record of
the initial file that no operation addresses is byte-identical at the end, and the file has not shrunk. -/
theorem history_frame (ops : List Op) (s : FS) (sz k : Nat) (hsz : 0 < sz)
    (hops : ∀ op ∈ ops, OpAt sz op) (hk : k < s.bytes.length / sz)
    (hne : ∀ op ∈ ops, addressed op ≠ some (k : Int)) :
    record (run s ops).bytes sz k = record s.bytes sz k ∧ s.bytes.length ≤ (run s ops).bytes.length := by
  induction ops generalizing s with
  | nil => exact ⟨rfl, Nat.le_refl _⟩
  | cons op ops ih =>
    obtain ⟨ho, hops⟩ := List.forall_mem_cons.1 hops
    obtain ⟨hn, hne⟩ := List.forall_mem_cons.1 hne
    have h1 := step_frame s op sz k hsz ho hk hn
    have h2 := ih (step s op).1 hops (Nat.lt_of_lt_of_le hk (Nat.div_le_div_right h1.2)) hne
    exact ⟨h2.1.trans h1.1, Nat.le_trans h1.2 h2.2⟩

/-- non-vacuity: a history that appends, overwrites record 1, deletes record 2 and extends the file leaves record 0 alone. -/
example : record (run ⟨true, [1, 2, 3, 4, 5, 6, 7]⟩
    [.append 2 [8, 9], .subst 2 1 [0, 0], .delete 2 2, .subst 2 9 [1, 1], .num 2]).bytes 2 0 = [1, 2] := by decide

/-! #### the file is the fold of the abstract record-list operations -/

/-- `present = false` means there are no bytes. -/
def FS.Valid (s : FS) : Prop := s.present = false → s.bytes = []

/-- the abstract operation on the list of complete records; `none` when the operation is not an
in-range, well-typed record operation at stride `sz` (out-of-range writes extend the file with zero
records / partial records and are covered by the frame theorems instead). -/
def absStep (sz : Nat) (rs : List (List Nat)) : Op → Option (List (List Nat))
  | .append sz' img => if sz' = sz ∧ img.length = sz then some (rs ++ [img]) else none
  | .subst sz' i img =>
    if sz' = sz ∧ img.length = sz ∧ 0 ≤ i ∧ i.toNat < rs.length then some (rs.set i.toNat img) else none
  | .delete sz' i =>
    if sz' = sz ∧ safeDelMark.length ≤ sz ∧ 0 ≤ i ∧ i.toNat < rs.length then
      some (rs.set i.toNat (safeDelMark ++ (rs.getD i.toNat []).drop safeDelMark.length))
    else none
  | .modify idx a =>
    if sz = dirSz ∧ 1 ≤ idx ∧ (idx - 1).toNat < rs.length ∧
        cstr (field (rs.getD (idx - 1).toNat []) Gen.RecFile.offFilename Gen.RecFile.lenFilename) = cstr a.name then
      some (rs.set (idx - 1).toNat (modifyRecord (rs.getD (idx - 1).toNat []) a))
    else none
  | .num _ => some rs
  | .get _ _ _ => some rs

def absRun (sz : Nat) (rs : List (List Nat)) : List Op → Option (List (List Nat))
  | [] => some rs
  | op :: ops => (absStep sz rs op).bind (fun rs' => absRun sz rs' ops)

theorem refine_step (s : FS) (op : Op) (sz : Nat) (rs : List (List Nat)) (hsz : 0 < sz) (hv : FS.Valid s)
    (h : absStep sz (recs s.bytes sz) op = some rs) :
    recs (step s op).1.bytes sz = rs ∧ FS.Valid (step s op).1 := by
  cases op with
  | append sz' img =>
    obtain ⟨⟨rfl, himg⟩, ⟨⟩⟩ := Option.ite_none_right_eq_some.1 h
    rw [step, appendRecord, if_neg (Nat.ne_of_gt hsz)]
    exact ⟨recs_append hsz himg, nofun⟩
  | subst sz' i img =>
    obtain ⟨⟨rfl, himg, hi0, hi⟩, ⟨⟩⟩ := Option.ite_none_right_eq_some.1 h
    obtain ⟨n, rfl⟩ := Int.eq_ofNat_of_zero_le hi0
    rw [length_recs, Int.toNat_natCast] at hi
    rw [step, substituteRecord, writeRecordAt_nat]
    exact ⟨recs_writeAt_full himg hi, nofun⟩
  | delete sz' i =>
    obtain ⟨⟨rfl, hm, hi0, hi⟩, ⟨⟩⟩ := Option.ite_none_right_eq_some.1 h
    obtain ⟨n, rfl⟩ := Int.eq_ofNat_of_zero_le hi0
    rw [length_recs, Int.toNat_natCast] at hi
    rw [step, deleteRecord, writeRecordAt_nat, Int.toNat_natCast, getD_recs hi]
    exact ⟨recs_writeAt hm hi, nofun⟩
  | modify idx a =>
    obtain ⟨⟨rfl, hi1, hi, hn⟩, ⟨⟩⟩ := Option.ite_none_right_eq_some.1 h
    obtain ⟨k, rfl⟩ := exists_natCast_succ hi1
    rw [Int.add_sub_cancel, Int.toNat_natCast] at hi hn ⊢
    rw [length_recs] at hi
    rw [getD_recs hi] at hn ⊢
    have hle := mul_succ_le_of_lt_div hi
    have hp : s.present = true :=
      (Bool.not_eq_false _).mp fun hpp => by rw [hv hpp] at hi; exact Nat.not_lt_zero k hi
    rw [step, modifyDirLite_ok s k a hp hle ((cstrcmpEq_iff _ _).2 hn)]
    exact ⟨recs_writeAt_full (modifyRecord_length _ _ (length_record_of_le _ _ _ hle)) hi, nofun⟩
  | num sz' => obtain rfl := Option.some.inj h; exact ⟨rfl, hv⟩
  | get st n d => obtain rfl := Option.some.inj h; exact ⟨rfl, hv⟩

/-- **refinement over histories**: whenever the abstract record-list run is defined, the complete
records of the real file after the run are exactly its result — for every initial file (torn tail or
not) and every operation sequence. -/
theorem history_refines (ops : List Op) (s : FS) (sz : Nat) (rs : List (List Nat)) (hsz : 0 < sz) (hv : FS.Valid s)
    (h : absRun sz (recs s.bytes sz) ops = some rs) :
    recs (run s ops).bytes sz = rs := by
  induction ops generalizing s with
  | nil => simp only [absRun] at h; injection h
  | cons op ops ih =>
    obtain ⟨rs', hs, h⟩ := Option.bind_eq_some_iff.1 h
    obtain ⟨h1, h2⟩ := refine_step s op sz rs' hsz hv hs
    exact ih (step s op).1 h2 (by rw [h1]; exact h)

/-- non-vacuity: the abstract run is defined on ordinary histories, e.g. -/
example : absRun 2 [[1, 2], [3, 4]] [.append 2 [5, 6], .subst 2 0 [9, 9], .delete 2 1, .num 2] =
    some [[9, 9], [46, 100], [5, 6]] := by decide

/-! #### callers: ptt.addBoardRecord on .BRD -/

/-- regenerated from ptt/admin.go: addBoardRecord converts the 1-based board id to the 0-based record index. -/
theorem addBoard_index_is_store_index : Gen.RecFile.addBoardIndexIsStoreIndex = true := by decide

/-- what `cache.GetBid("")` finds: a complete record with an empty board name, and no earlier one. -/
theorem vacatedSlot_spec (f : File) (k : Nat) (h : vacatedSlot f = some k) :
    k < f.length / brdSz ∧ (record f brdSz k).head? = some 0 := by
  unfold vacatedSlot at h
  have h1 := List.mem_of_find?_eq_some h
  have h2 := List.find?_some h
  exact ⟨List.mem_range.1 h1, by simpa using h2⟩

/-- a board created while slot `k` is vacated is written into exactly that record: same file length, the
slot holds the image, every other record — in particular the FOLLOWING (`k+1`) and the PRECEDING
(`k-1`) one — is byte-identical, and the returned board id is `k+1`. -/
theorem addBoard_reuses_vacated (s : FS) (img : List Nat) (k : Nat) (hv : vacatedSlot s.bytes = some k)
    (hmax : s.bytes.length / brdSz ≤ maxBoard) (himg : img.length = brdSz) :
    addBoardRecord s img = (⟨true, writeAt s.bytes (k * brdSz) img⟩, .idx .ok (k + 1)) ∧
    (addBoardRecord s img).1.bytes.length = s.bytes.length ∧
    record (addBoardRecord s img).1.bytes brdSz k = img ∧
    (∀ j, j < s.bytes.length / brdSz → j ≠ k →
      record (addBoardRecord s img).1.bytes brdSz j = record s.bytes brdSz j) ∧
    recs (addBoardRecord s img).1.bytes brdSz = (recs s.bytes brdSz).set k img := by
  obtain ⟨hk, _⟩ := vacatedSlot_spec _ _ hv
  have heq : addBoardRecord s img = (⟨true, writeAt s.bytes (k * brdSz) img⟩, .idx .ok (k + 1)) := by
    simp only [addBoardRecord, hv, if_pos (Nat.le_trans hk hmax), addBoardIndex, addBoard_index_is_store_index,
      if_true, substituteRecord, writeRecordAt_nat]
  refine ⟨heq, ?_⟩
  rw [heq]
  exact ⟨length_writeAt_record (Nat.le_of_eq himg) hk, record_writeAt_same himg,
    fun j hj hjk => record_writeAt_ne (Nat.le_of_eq himg) hj (Ne.symm hjk),
    recs_writeAt_full himg hk⟩

/-- without a vacated slot the board is appended: one more record, id = count + 1, all others intact. -/
theorem addBoard_appends (s : FS) (img : List Nat) (hv : vacatedSlot s.bytes = none)
    (hn : s.bytes.length / brdSz < maxBoard) (himg : img.length = brdSz) :
    addBoardRecord s img =
      (⟨true, s.bytes.take (s.bytes.length / brdSz * brdSz) ++ img⟩, .idx .ok (s.bytes.length / brdSz + 1)) ∧
    recs (addBoardRecord s img).1.bytes brdSz = recs s.bytes brdSz ++ [img] := by
  have heq : addBoardRecord s img = appendRecord s brdSz img := by
    simp only [addBoardRecord, hv, if_neg (Nat.not_le.2 hn)]
  rw [heq]
  refine ⟨append_spec s brdSz img brdSz_pos himg, ?_⟩
  unfold appendRecord
  rw [if_neg (Nat.ne_of_gt brdSz_pos)]
  exact recs_append brdSz_pos himg

/-- a full board table refuses the board and leaves `.BRD` as it is. -/
theorem addBoard_full (s : FS) (img : List Nat) (hv : vacatedSlot s.bytes = none)
    (hn : maxBoard ≤ s.bytes.length / brdSz) : addBoardRecord s img = (s, .idx .err 0) := by
  simp only [addBoardRecord, hv, if_pos hn]

/-- witness for the broken rule (the 1-based id handed to the 0-based SubstituteRecord): the record
FOLLOWING the vacated slot is replaced by the image and the slot itself stays as it was. -/
theorem one_based_index_overwrites_next (s : FS) (img : List Nat) (k : Nat) (himg : img.length = brdSz)
    (hk : k + 1 < s.bytes.length / brdSz) (hdiff : record s.bytes brdSz (k + 1) ≠ img) :
    record (substituteRecord s brdSz ((k : Int) + 1) img).1.bytes brdSz (k + 1) ≠ record s.bytes brdSz (k + 1) ∧
    record (substituteRecord s brdSz ((k : Int) + 1) img).1.bytes brdSz k = record s.bytes brdSz k := by
  have h1 : record (substituteRecord s brdSz ((k : Int) + 1) img).1.bytes brdSz (k + 1) = img :=
    (substitute_stores s brdSz (k + 1) img himg).2
  refine ⟨by rw [h1]; exact fun h => hdiff h.symm, ?_⟩
  exact record_eq_of_frame (Nat.lt_of_succ_lt hk) (by omega) (substitute_frame s brdSz _ img brdSz_pos (Nat.le_of_eq himg)).2

/-! #### callers: the .DIR.bottom count behind the board cache -/

/-- regenerated from cache/cache_board.go: both guards on the pinned-article count are strict (`n > 5`),
with the same limit — 5 pinned articles, the legal maximum, is NOT over the limit. -/
theorem bottom_guards :
    Gen.RecFile.setBottomStrict = true ∧ Gen.RecFile.reloadBottomStrict = true ∧
    Gen.RecFile.setBottomLimit = Gen.RecFile.reloadBottomLimit ∧ Gen.RecFile.setBottomLimit < 256 := by decide

def maxPinned : Nat := Gen.RecFile.setBottomLimit

/-- ReloadBCache never touches the file; with at most `maxPinned` records the cached count is the count. -/
theorem reloadBottom_frame (f : FS) :
    (reloadBottom f).file = f ∧ (reloadBottom f).cold = true ∧
    (bottomCount f ≤ maxPinned → (reloadBottom f).nBottom = bottomCount f) := by
  refine ⟨rfl, rfl, ?_⟩
  intro h
  obtain ⟨_, h2, h3, _⟩ := bottom_guards
  unfold maxPinned at h
  simp only [reloadBottom, h2, ← h3, overLimit_strict_of_le h, Bool.false_eq_true, if_false]

/-- SetBottomTotal (the cold path of every first read of a board) on a file with 0..maxPinned records —
the whole legal range, the full set of 5 included — leaves the file exactly as it is and caches its count. -/
theorem setBottomTotal_preserves (f : FS) (h : bottomCount f ≤ maxPinned) :
    setBottomTotal f = (f, bottomCount f) := by
  obtain ⟨h1, _, _, h4⟩ := bottom_guards
  unfold maxPinned at h
  unfold setBottomTotal setBottomTotalG
  simp only [Nat.mod_eq_of_lt (Nat.lt_of_le_of_lt h h4), h1, overLimit_strict_of_le h, Bool.false_eq_true, if_false]

/-- witness for the broken rule: with the non-strict guard (`n >= 5`) a first read of a board with the
full set of pinned articles unlinks .DIR.bottom. -/
theorem nonstrict_guard_destroys_full_set (f : FS) (h : bottomCount f = 5) :
    setBottomTotalG false 5 f = (FS.absent, 0) := by
  simp [setBottomTotalG, overLimit, h]

/-- `n` successive reads of the board (each goes through GetBTotalWithRetry). -/
def coldReads : Nat → Bottom → Bottom
  | 0, b => b
  | n + 1, b => coldReads n (coldRead b)

/-- any number of reads of the board after a reload: the file is byte-identical and the cached count is
the record count (legal range). -/
theorem bottom_reads_frame (f : FS) (h : bottomCount f ≤ maxPinned) (n : Nat) :
    (coldReads n (reloadBottom f)).file = f ∧
    (coldReads n (reloadBottom f)).nBottom = bottomCount f := by
  have hr := reloadBottom_frame f
  suffices hs : ∀ n (b : Bottom), b.file = f ∧ b.nBottom = bottomCount f →
      (coldReads n b).file = f ∧ (coldReads n b).nBottom = bottomCount f from
    hs n _ ⟨hr.1, hr.2.2 h⟩
  intro n
  induction n with
  | zero => exact fun b hb => hb
  | succ n ih =>
    intro b hb
    apply ih (coldRead b)
    unfold coldRead
    split
    · rw [hb.1, setBottomTotal_preserves f h]; exact ⟨rfl, rfl⟩
    · exact hb

/-- ... and the bottom window then returns exactly all pinned records, in order. -/
theorem loadBottom_window (f : FS) (h : bottomCount f ≤ maxPinned) (n : Nat) :
    loadBottom (coldReads n (reloadBottom f)) =
      .recs .ok ((List.range' 1 (bottomCount f)).map (fun i => (i, record f.bytes dirSz (i - 1)))) := by
  obtain ⟨h1, h2⟩ := bottom_reads_frame f h n
  unfold loadBottom
  rw [h1, h2]
  by_cases h0 : bottomCount f = 0
  · rw [if_pos h0, h0]; rfl
  · rw [if_neg h0]
    unfold bottomCount at h0 ⊢
    cases hp : f.present with
    | false => rw [hp] at h0; exact absurd rfl h0
    | true =>
      have hw := getRecords_window f 1 (f.bytes.length / dirSz) false hp (Nat.le_refl _)
      rw [if_neg Bool.false_ne_true] at hw
      rw [if_pos rfl, show (1 : Int) = ((1 : Nat) : Int) from rfl, hw]
      unfold windowAsc
      rw [Nat.add_sub_cancel, Nat.min_self]

example : loadBottom (coldRead (reloadBottom ⟨true, List.replicate 640 7⟩)) =
    .recs .ok ((List.range' 1 5).map (fun i => (i, List.replicate 128 7))) := by decide +kernel

/-! #### the request layer: a looked-up name is confirmed before its record is touched -/

/-- regenerated: cmsys.GetRecord compares the hit with the requested name; bbs.DeleteArticles compares
the article id of the hit with the requested id (not merely its create-time). -/
theorem lookup_confirmations :
    Gen.RecFile.getRecordConfirmsName = true ∧ Gen.RecFile.deleteConfirmsArticleID = true ∧
    Gen.RecFile.deleteConfirmsCreateTimeOnly = false := by decide

theorem getRecordReq_eq (s : FS) (name : List Nat) : getRecordReq s name = getRecordG true s name := by
  unfold getRecordReq; rw [lookup_confirmations.1]

theorem delConfirm_eq : delConfirm = .articleID := by
  unfold delConfirm; rw [lookup_confirmations.2.2]; rfl

/-- whatever index the search returns (it falls back to the nearest entry for an absent name), a hit of the
confirmed lookup is an existing complete record that carries the requested name. -/
theorem getRecord_hit_spec (s : FS) (name : List Nat) (i : Nat) (r : List Nat)
    (h : getRecordG true s name = .hit i r) :
    1 ≤ i ∧ i ≤ s.bytes.length / dirSz ∧ r = record s.bytes dirSz (i - 1) ∧ fnEq name (recName r) = true := by
  unfold getRecordG at h
  cases hp : s.present with
  | false => rw [hp] at h; cases h
  | true =>
    rw [hp, if_pos rfl] at h
    by_cases hc : s.bytes.length / dirSz = 0
    · rw [if_pos hc] at h; cases h
    · rw [if_neg hc] at h
      cases hct : C13.fnCreateTime name with
      | none => rw [hct] at h; cases h
      | some ct =>
        rw [hct] at h
        simp only [] at h
        generalize C06.findRecordStartIdx _ _ _ _ _ = res at h
        cases res with
        | error e => cases e <;> cases h
        | ok j =>
          simp only [] at h
          by_cases hj : 1 ≤ j ∧ j ≤ ((s.bytes.length / dirSz : Nat) : Int)
          · rw [if_pos hj, if_pos trivial] at h
            obtain ⟨n, rfl⟩ := exists_natCast_succ hj.1
            rw [Int.toNat_natCast_add_one] at h
            by_cases he : fnEq name (recName (record s.bytes dirSz (n + 1 - 1))) = true
            · rw [if_pos he] at h
              obtain ⟨rfl, rfl⟩ := Look.hit.inj h
              exact ⟨Nat.succ_pos n, Int.ofNat_le.1 hj.2, rfl, he⟩
            · rw [if_neg he] at h; cases h
          · rw [if_neg hj] at h; cases h

/-- ptt.Recommend for ANY requested name: the length of .DIR is unchanged and a byte changes only inside a
record that carries the requested name (`Filename_t.Eq`). -/
theorem recommend_request_frame (s : FS) (name : List Nat) (ctype : Nat) (mtime : Int) :
    (recommendReq s name ctype mtime).1.bytes.length = s.bytes.length ∧
    ∀ p, p < s.bytes.length → (recommendReq s name ctype mtime).1.bytes[p]? ≠ s.bytes[p]? →
      fnEq name (recName (record s.bytes dirSz (p / dirSz))) = true := by
  rcases recommendReq_cases s name ctype mtime with h | ⟨i, r, a, hl, h⟩
  · rw [h]; exact ⟨rfl, fun _ _ hne => absurd rfl hne⟩
  · rw [h]
    rw [getRecordReq_eq] at hl
    obtain ⟨h1, _, hr, he⟩ := getRecord_hit_spec s name i r hl
    have hf := modify_frame s (i : Int) a
    refine ⟨hf.1, fun p hp hne => ?_⟩
    have hk : ((p / dirSz : Nat) : Int) = (i : Int) - 1 := Decidable.by_contra fun hk => hne (hf.2 p hp hk)
    rw [Int.ofNat.inj (hk.trans (Int.ofNat_sub h1).symm), ← hr]; exact he

/-- ... so a request for a name that no record carries (stale, expired, forged) is refused and
changes nothing — whatever neighbour the search fell back to. -/
theorem recommend_absent_refused (s : FS) (name : List Nat) (ctype : Nat) (mtime : Int)
    (habs : ∀ k, k < s.bytes.length / dirSz → fnEq name (recName (record s.bytes dirSz k)) = false) :
    (recommendReq s name ctype mtime).1 = s ∧ (recommendReq s name ctype mtime).2 ≠ .unit .ok := by
  unfold recommendReq
  rw [getRecordReq_eq]
  cases hl : getRecordG true s name with
  | fault => exact ⟨rfl, by simp⟩
  | miss => exact ⟨rfl, by simp⟩
  | hit i r =>
    obtain ⟨h1, h2, hr, he⟩ := getRecord_hit_spec s name i r hl
    have := habs (i - 1) (Nat.lt_of_lt_of_le (Nat.sub_one_lt (Nat.ne_of_gt h1)) h2)
    rw [← hr, he] at this
    cases this

/-- the two ways bbs.DeleteArticles (article-id confirmation) can end for one id: nothing is written and
nothing is reported as deleted, or exactly the record whose article id IS the requested id is delete-marked. -/
theorem deleteReq_cases (s : FS) (aid : List Nat) :
    ((deleteReqG .articleID s aid).1.bytes = s.bytes ∧ (deleteReqG .articleID s aid).2 ≠ .idx .ok 1) ∨
    ∃ k, k < s.bytes.length / dirSz ∧ aid = C13.toArticleID (recName (record s.bytes dirSz k)) ∧
      (deleteReqG .articleID s aid).1 = (deleteRecord s dirSz (k : Int)).1 := by
  unfold deleteReqG
  cases C13.articleIDToRaw aid with
  | error e => exact Or.inl ⟨rfl, nofun⟩
  | ok fname =>
    simp only []
    cases C13.fnCreateTime fname with
    | none => exact Or.inl ⟨rfl, nofun⟩
    | some ct =>
      simp only []
      cases s.present with
      | false => exact Or.inl ⟨rfl, nofun⟩
      | true =>
        rw [if_pos rfl]
        by_cases hc : s.bytes.length / dirSz = 0
        · rw [if_pos hc]; exact Or.inl ⟨rfl, nofun⟩
        · rw [if_neg hc]
          generalize C06.findRecordStartIdx _ _ _ _ _ = res
          cases res with
          | error e => cases e <;> exact Or.inl ⟨rfl, nofun⟩
          | ok start =>
            simp only []
            generalize hst' : (if start = 0 then ((s.bytes.length / dirSz : Nat) : Int) else start) = st
            by_cases hst : 1 ≤ st ∧ st ≤ ((s.bytes.length / dirSz : Nat) : Int)
            · rw [if_pos hst]
              by_cases hsame : aid = C13.toArticleID (recName (record s.bytes dirSz (st.toNat - 1)))
              · rw [decide_eq_true hsame, if_pos rfl]
                by_cases h0 : start = 0
                · -- the search answered 0 ("newest"): DeleteRecord is handed index -1 and its seek fails
                  subst h0
                  unfold deleteRecord
                  rw [writeRecordAt_neg s dirSz (0 - 1) safeDelMark dirSz_pos (by decide)]
                  exact Or.inl ⟨rfl, nofun⟩
                · rw [if_neg h0] at hst'
                  subst hst'
                  obtain ⟨k, rfl⟩ := exists_natCast_succ hst.1
                  rw [Int.toNat_natCast_add_one, Nat.add_sub_cancel] at hsame
                  rw [Int.add_sub_cancel]
                  exact Or.inr ⟨k, Int.ofNat_le.1 hst.2, hsame, rfl⟩
              · rw [decide_eq_false hsame, if_neg Bool.false_ne_true]; exact Or.inl ⟨rfl, nofun⟩
            · rw [if_neg hst]; exact Or.inl ⟨rfl, nofun⟩

/-- bbs.DeleteArticles for ANY requested id: .DIR keeps its length and a byte changes only inside a record
whose article id is the requested id. -/
theorem delete_request_frame (s : FS) (aid : List Nat) :
    (deleteReq s aid).1.bytes.length = s.bytes.length ∧
    ∀ p, p < s.bytes.length → (deleteReq s aid).1.bytes[p]? ≠ s.bytes[p]? →
      C13.toArticleID (recName (record s.bytes dirSz (p / dirSz))) = aid := by
  unfold deleteReq
  rw [delConfirm_eq]
  rcases deleteReq_cases s aid with ⟨h, _⟩ | ⟨k, hk, hid, h⟩
  · rw [h]; exact ⟨rfl, fun _ _ hne => absurd rfl hne⟩
  · rw [h]
    refine ⟨(delete_marks s dirSz k mark_le_dirSz hk).2, ?_⟩
    intro p hp hne
    have hpk : ((p / dirSz : Nat) : Int) = (k : Int) :=
      Decidable.by_contra fun hpk => hne ((delete_frame s dirSz (k : Int) dirSz_pos mark_le_dirSz).2 p hp hpk)
    rw [Int.ofNat.inj hpk]; exact hid.symm

/-- a delete request for an id that no record carries (stale / forged id, e.g. a same-second sibling of
existing articles) delete-marks nothing and reports nothing as deleted. -/
theorem delete_absent_refused (s : FS) (aid : List Nat)
    (habs : ∀ k, k < s.bytes.length / dirSz → C13.toArticleID (recName (record s.bytes dirSz k)) ≠ aid) :
    (deleteReq s aid).1.bytes = s.bytes ∧ (deleteReq s aid).2 ≠ .idx .ok 1 := by
  unfold deleteReq
  rw [delConfirm_eq]
  rcases deleteReq_cases s aid with h | ⟨k, hk, hid, _⟩
  · exact h
  · exact absurd hid.symm (habs k hk)

/-- "M.1500000000.A.00" followed by one more suffix digit, as a 28-byte Filename_t. -/
def wName (d : Nat) : List Nat :=
  [77, 46, 49, 53, 48, 48, 48, 48, 48, 48, 48, 48, 46, 65, 46, 48, 48, d] ++ List.replicate 10 0

/-- a .DIR with two articles of the same second: suffixes 001 and 002. -/
def wDir : FS := ⟨true, wName 49 ++ List.replicate 100 0 ++ (wName 50 ++ List.replicate 100 0)⟩

/-- witness for the broken rule of C05-r4-1: without the `Eq` confirmation the lookup of the absent name
`…A.003` answers with a neighbour, with it the request is a miss. -/
theorem unconfirmed_lookup_hits_neighbour :
    getRecordG false wDir (wName 51) = .hit 2 (record wDir.bytes dirSz 1) ∧
    getRecordG true wDir (wName 51) = .miss := by
  decide +kernel

/-- witness for the broken rule of C05-r4-2: confirming the hit by its create-time only, a delete request
for the absent third sibling `…A.003` (id "1PQ2y003") delete-marks one of the two present siblings and
reports success; with the article-id confirmation nothing happens. -/
theorem createtime_confirmation_deletes_sibling :
    (deleteReqG .createTime wDir [49, 80, 81, 50, 121, 48, 48, 51]).2 = .idx .ok 1 ∧
    (deleteReqG .createTime wDir [49, 80, 81, 50, 121, 48, 48, 51]).1.bytes ≠ wDir.bytes ∧
    deleteReqG .articleID wDir [49, 80, 81, 50, 121, 48, 48, 51] = (wDir, .idx .ok 0) := by
  decide +kernel

/-! #### the .PASSWDS accessors of cmbbs: substitute-at-index for the user file -/

/-- regenerated from cmbbs/passwd.go and ptttype/types.go: every accessor starts with `!uid.IsValid()`,
`UID.IsValid` is `1 <= u <= MAX_USERS`, and the three fields lie inside one record. -/
theorem passwd_guard :
    Gen.RecFile.passwdGuardIsUidValid = true ∧ Gen.RecFile.uidValidIsRange = true ∧
    Gen.RecFile.uidLo = 1 ∧ Gen.RecFile.uidHi = Gen.RecFile.MAX_USERS ∧
    Gen.RecFile.pwOffPasswdHash + Gen.RecFile.pwLenPasswdHash ≤ Gen.RecFile.USEREC_RAW_SZ ∧
    Gen.RecFile.pwOffUserLevel + Gen.RecFile.pwLenUserLevel ≤ Gen.RecFile.USEREC_RAW_SZ ∧
    Gen.RecFile.pwOffEmail + Gen.RecFile.pwLenEmail ≤ Gen.RecFile.USEREC_RAW_SZ ∧
    Gen.RecFile.packedUserecRaw = Gen.RecFile.USEREC_RAW_SZ := by decide

theorem uidValid_iff (uid : Int) : uidValid uid = true ↔ 1 ≤ uid ∧ uid ≤ (maxUsers : Int) := by
  obtain ⟨_, _, h1, h2, _⟩ := passwd_guard
  unfold uidValid maxUsers
  rw [h1, h2]
  simp

/-- a uid that names no user record (≤ 0, MAX_USERS+1, MAX_USERS+2, …) is refused by every writer: no byte
of .PASSWDS changes and its length stays. -/
theorem passwd_refused_unchanged (s : FS) (uid : Int) (off : Nat) (bs : List Nat)
    (h : uid < 1 ∨ (maxUsers : Int) < uid) :
    passwdUpdate s uid off bs = (s, .unit .invalidIdx) := by
  have hv : uidValid uid = false := Bool.eq_false_iff.2 (mt (uidValid_iff uid).1 (by omega))
  simp [passwdUpdate, passwdUpdateG, hv]

theorem passwd_query_refused (s : FS) (uid : Int) (off len : Nat) (h : uid < 1 ∨ (maxUsers : Int) < uid) :
    passwdQuery s uid off len = .recs .invalidIdx [] := by
  have hv : uidValid uid = false := Bool.eq_false_iff.2 (mt (uidValid_iff uid).1 (by omega))
  simp [passwdQuery, hv]

/-- an accepted write of a field that lies inside one record (`off + |bs| ≤ USEREC_RAW_SZ`) changes no
existing byte of another user's record, never shrinks the file, and leaves the length of a file that holds
all MAX_USERS records exactly as it is. -/
theorem passwd_update_frame (s : FS) (uid : Int) (off : Nat) (bs : List Nat) (hin : off + bs.length ≤ pwSz) :
    s.bytes.length ≤ (passwdUpdate s uid off bs).1.bytes.length ∧
    (∀ p, p < s.bytes.length → ((p / pwSz : Nat) : Int) ≠ uid - 1 →
      (passwdUpdate s uid off bs).1.bytes[p]? = s.bytes[p]?) ∧
    (maxUsers * pwSz ≤ s.bytes.length → (passwdUpdate s uid off bs).1.bytes.length = s.bytes.length) := by
  unfold passwdUpdate
  rcases passwdUpdateG_cases uidValid s uid off bs with h | ⟨hv, hp, _, _⟩
  · rw [h]; exact ⟨Nat.le_refl _, fun _ _ _ => rfl, fun _ => rfl⟩
  · obtain ⟨h1, h2⟩ := (uidValid_iff uid).1 hv
    obtain ⟨k, rfl⟩ := exists_natCast_succ h1
    have hk : k + 1 ≤ maxUsers := Int.ofNat_le.1 h2
    rw [passwdUpdateG_succ uidValid s k off bs hv hp]
    have hin' : k * pwSz + off + bs.length ≤ (k + 1) * pwSz := by
      rw [Nat.add_assoc]; exact add_le_succ_mul k pwSz _ hin
    refine ⟨length_writeAt_ge _ _ _, fun p hpl hne => ?_, fun hfull => ?_⟩
    · exact getElem?_writeAt_of_div_ne _ _ _ pwSz k p (Nat.le_add_right _ _) hin' hpl
        (fun h' => hne (by rw [h', Int.add_sub_cancel]))
    · exact length_writeAt_inside _ _ _ (Nat.le_trans hin' (Nat.le_trans (Nat.mul_le_mul_right _ hk) hfull))

/-- witness for the broken rule (validating the in-file index with `> MAX_USERS` instead of `>=`): uid
MAX_USERS+1 is accepted and a full user file grows. -/
theorem off_by_one_uid_bound_grows_file (s : FS) (off : Nat) (bs : List Nat) (hp : s.present = true)
    (hfull : s.bytes.length = maxUsers * pwSz) (hbs : bs ≠ []) :
    s.bytes.length <
      (passwdUpdateG (fun u => decide (0 ≤ u - 1 ∧ u - 1 ≤ (maxUsers : Int))) s ((maxUsers : Int) + 1) off bs).1.bytes.length := by
  have hpos : 0 < bs.length := List.length_pos_iff.2 hbs
  rw [passwdUpdateG_succ _ s maxUsers off bs (by simp) hp, length_writeAt _ _ _ hbs]
  omega

/-! #### concurrent single-field updates and the session read-modify-write of a user record -/

/-- regenerated: ptt.pwcuStart refuses unless the user-ids are equal as C strings (case-sensitive); the
Money field lies inside the record. -/
theorem pwcu_compares_exact :
    Gen.RecFile.pwcuStartComparesExact = true ∧
    Gen.RecFile.pwOffMoney + Gen.RecFile.pwLenMoney ≤ Gen.RecFile.USEREC_RAW_SZ ∧ Gen.RecFile.pwLenMoney = 4 ∧
    Gen.RecFile.pwOffUserID + Gen.RecFile.pwLenUserID ≤ Gen.RecFile.pwOffMoney := by decide

/-- an in-place field update changes no existing byte outside the addressed field `[o, o+|bs|)`,
`o = USEREC_RAW_SZ*(uid-1) + off`, and never shrinks the file. -/
theorem passwd_update_field_frame (s : FS) (uid : Int) (off : Nat) (bs : List Nat) :
    s.bytes.length ≤ (passwdUpdate s uid off bs).1.bytes.length ∧
    ∀ p, p < s.bytes.length →
      ¬ ((pwSz : Int) * (uid - 1) + (off : Int) ≤ (p : Int) ∧ (p : Int) < (pwSz : Int) * (uid - 1) + (off : Int) + (bs.length : Int)) →
      (passwdUpdate s uid off bs).1.bytes[p]? = s.bytes[p]? := by
  unfold passwdUpdate
  rcases passwdUpdateG_cases uidValid s uid off bs with h | ⟨_, _, ho, h⟩
  · rw [h]; exact ⟨Nat.le_refl _, fun _ _ _ => rfl⟩
  · rw [h]
    refine ⟨length_writeAt_ge _ _ _, fun p hpl hout => ?_⟩
    apply getElem?_writeAt_outside _ _ _ _ hpl
    generalize (pwSz : Int) * (uid - 1) + (off : Int) = o at ho hout
    omega

/-- in whatever order a batch of money updates (cache.SetUMoney / DeUMoney of any users) is served: a byte
that lies in none of the addressed 4-byte Money fields keeps its value, and the file does not shrink. -/
theorem money_batch_frame (us : List (Int × Int)) (s : FS) (p : Nat) (hp : p < s.bytes.length)
    (hout : ∀ u ∈ us, ¬ ((pwSz : Int) * (u.1 - 1) + (Gen.RecFile.pwOffMoney : Int) ≤ (p : Int) ∧
      (p : Int) < (pwSz : Int) * (u.1 - 1) + (Gen.RecFile.pwOffMoney : Int) + 4)) :
    (moneyBatch s us).bytes[p]? = s.bytes[p]? ∧ s.bytes.length ≤ (moneyBatch s us).bytes.length := by
  induction us generalizing s with
  | nil => exact ⟨rfl, Nat.le_refl _⟩
  | cons u us ih =>
    obtain ⟨hu, hout⟩ := List.forall_mem_cons.1 hout
    have hf := passwd_update_field_frame s u.1 Gen.RecFile.pwOffMoney (le32 (u.2 % 4294967296).toNat)
    have h2 := ih (moneyUpdate s u.1 u.2).1 (Nat.lt_of_lt_of_le hp hf.1) hout
    -- the 4 of the statement is `(le32 _).length` (= `pwLenMoney`), by evaluation: `hu` is `hf.2`'s side condition
    exact ⟨h2.1.trans (hf.2 p hp hu), Nat.le_trans hf.1 h2.2⟩

/-- the session read-modify-write, for ANY comparison `same`: either nothing is written, or the record at
`uid` was read in full and `same` accepted the held user-id against the record's. -/
theorem pwcu_writes_only_if_same (same : List Nat → List Nat → Bool) (s : FS) (uid : Int) (held : List Nat)
    (m : Int) (f : List Nat → List Nat) :
    pwcuModifyG same s uid held m f = (s, .unit .invalidIdx) ∨ pwcuModifyG same s uid held m f = (s, .unit .err) ∨
    ∃ r, passwdQuery s uid 0 Gen.RecFile.packedUserecRaw = .recs .ok [(uid.toNat, r)] ∧
      same held (field r Gen.RecFile.pwOffUserID Gen.RecFile.pwLenUserID) = true := by
  unfold pwcuModifyG
  rcases passwdQuery_cases s uid 0 Gen.RecFile.packedUserecRaw with h | h | ⟨_, _, r, h⟩
  · rw [h]; exact Or.inl rfl
  · rw [h]; exact Or.inr (Or.inl rfl)
  · rw [h]
    simp only []
    by_cases hs : same held (field r Gen.RecFile.pwOffUserID Gen.RecFile.pwLenUserID) = true
    · exact Or.inr (Or.inr ⟨r, rfl, hs⟩)
    · rw [if_neg hs]; exact Or.inl rfl

/-- with the comparison the source has, a session whose held user-id is not (as a C string) the user-id in
the slot — the slot was reused by another account, e.g. one that differs only in letter case — is refused
and .PASSWDS is left exactly as it is. -/
theorem pwcu_stale_refused (s : FS) (uid : Int) (held : List Nat) (m : Int) (r : List Nat)
    (hq : passwdQuery s uid 0 Gen.RecFile.packedUserecRaw = .recs .ok [(uid.toNat, r)])
    (hne : cstr held ≠ cstr (field r Gen.RecFile.pwOffUserID Gen.RecFile.pwLenUserID)) :
    pwcuModify s uid held m = (s, .unit .invalidIdx) := by
  have hsame : pwcuSame held (field r Gen.RecFile.pwOffUserID Gen.RecFile.pwLenUserID) = false := by
    unfold pwcuSame
    rw [pwcu_compares_exact.1, if_pos rfl]
    exact Bool.eq_false_iff.2 (fun hc => hne ((cstrcmpEq_iff _ _).1 hc))
  simp only [pwcuModify, pwcuModifyG, hq, hsame, Bool.false_eq_true, if_false]

/-- witness for the broken rule: compared case-insensitively the held id "Chloe" equals the id "chloe" of
the account that now owns the slot; compared exactly it does not. -/
theorem case_insensitive_pair_accepts_other_account :
    cstrcmpEq [67, 104, 108, 111, 101, 0] [99, 104, 108, 111, 101, 0] = false ∧
    cstrcmpEq ([67, 104, 108, 111, 101, 0].map fun c => if 65 ≤ c ∧ c ≤ 90 then c + 32 else c)
      ([99, 104, 108, 111, 101, 0].map fun c => if 65 ≤ c ∧ c ≤ 90 then c + 32 else c) = true := by decide

/-! #### an acknowledged in-place field modify survives a later whole-record store of an earlier copy -/

/-- regenerated: ptt.passwdSyncUpdate, the funnel of every whole-record store, re-syncs Money from the
shared-memory cache before the write. -/
theorem store_funnel_resyncs_money : Gen.RecFile.storeFunnelResyncsMoney = true := by decide

theorem field_setField (r : List Nat) (off len : Nat) (bs : List Nat) (h : off ≤ r.length) (hb : bs.length = len) :
    field (setField r off len bs) off len = bs := by
  have hl : (r.take off).length = off := by rw [List.length_take]; exact Nat.min_eq_left h
  unfold field setField
  rw [List.append_assoc, List.drop_left' hl, copyInto_of_le _ _ (Nat.le_of_eq hb), hb, Nat.sub_self,
    List.replicate_zero, List.append_nil, List.take_left' hb]

/-- history "load the record of a valid `uid`; set its Money in place (acknowledged); store the EARLIER copy
with a new level": the record on disk afterwards carries the acknowledged money, not the stale one. -/
theorem store_keeps_acknowledged_money (s : FS) (k : Nat) (money : Int) (perm : Nat) (r : List Nat)
    (hk : (k : Int) + 1 ≤ (maxUsers : Int))
    (hq : passwdQuery s ((k : Int) + 1) 0 Gen.RecFile.packedUserecRaw = .recs .ok [(((k : Int) + 1).toNat, r)])
    (hr : r.length = pwSz) :
    field (record (storeEarlierCopy s ((k : Int) + 1) money perm).bytes pwSz k)
      Gen.RecFile.pwOffMoney Gen.RecFile.pwLenMoney = le32 (money % 4294967296).toNat := by
  have hv : uidValid ((k : Int) + 1) = true := (uidValid_iff _).2 ⟨by omega, hk⟩
  have hp : s.present = true := by
    rcases passwdQuery_cases s ((k : Int) + 1) 0 Gen.RecFile.packedUserecRaw with h | h | ⟨_, hp, _⟩
    · rw [h] at hq; cases hq
    · rw [h] at hq; cases hq
    · exact hp
  have hl1 := (length_setField r Gen.RecFile.pwOffUserLevel Gen.RecFile.pwLenUserLevel (le32 perm)
    (by rw [hr]; decide)).trans hr
  have hl2 := (length_setField _ Gen.RecFile.pwOffMoney Gen.RecFile.pwLenMoney (le32 (money % 4294967296).toNat)
    (by rw [hl1]; decide)).trans hl1
  simp only [storeEarlierCopy, hq, store_funnel_resyncs_money, if_true, moneyUpdate, passwdUpdate]
  rw [passwdUpdateG_succ uidValid s k _ _ hv hp, passwdUpdateG_succ uidValid _ k 0 _ hv rfl, Nat.add_zero,
    record_writeAt_same hl2]
  exact field_setField _ _ _ _ (by rw [hl1]; decide) rfl

end PttVerif.C05.Props
