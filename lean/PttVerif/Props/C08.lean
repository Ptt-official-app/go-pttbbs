/-
C08 — Posting, commenting, editing and cross-posting obey one authorisation rule set.

Spec  : `Spec/C08.lean`      the rule set `rules`, written from the property statement
Model : `Model/C08.lean`     the hand-modelled decisions + the interpreter of the regenerated bodies
Gen   : `Gen/WriteGuards.lean` the bodies of DoPostArticle / Recommend / EditPost / CrossPost as event lists,
                             the flood-limit table, masks, bits, reserved names (regenerated from /repo on every run)

FULL STATEMENT (kept visible; it is FALSE of the code in exactly three (operation, clause) cells, see below):

    theorem write_accepted_implies_rules (op : Op) (x : Row) : accepted op x → Spec.rulesFor op x

  refuted by `recommend_accepts_unverified`, `editpost_accepts_unverified`, `editpost_accepts_cooling_down`
  (known findings missing:recommend:verified, missing:editpost:verified, missing:editpost:cooldown — they mirror
  upstream pttbbs and are recorded, not repaired).  Proved instead:
    * `newpost_implies_rules`, `crosspost_implies_rules`      the statement at full strength for these two operations
    * `write_accepted_implies_rules_partial`                  every operation implies its own clause set `enforcedFor`
    * `rules_iff_enforced_and_missing`                        `enforcedFor` differs from `rulesFor` in exactly those cells
  "every permission refusal leaves the board index, the article files and the user's counters unchanged":
    * `guards_before_effects_<op>` (source shape) and `refused_untouched` (no refusal of the model happens after a
      persistent effect); that the effects are the only writers is C05's `step_frame` / `history_frame`.
-/
import PttVerif.Proofs.C08
namespace PttVerif.C08
open PttVerif

/-! ### what the translator read, against what the model and the specification assume -/

/-- the regenerated bits are those of pttbbs perm.h / pttstruct.h. -/
theorem source_constants :
    PERM_BASIC = Spec.PERM_BASIC ∧ PERM_POST = Spec.PERM_POST ∧ PERM_LOGINOK = Spec.PERM_LOGINOK ∧ PERM_BM = Spec.PERM_BM ∧
    PERM_SYSOP = Spec.PERM_SYSOP ∧ PERM_VIOLATELAW = Spec.PERM_VIOLATELAW ∧ PERM_POLICE_MAN = Spec.PERM_POLICE_MAN ∧
    PERM_POLICE = Spec.PERM_POLICE ∧ BRD_HIDE = Spec.BRD_HIDE ∧ BRD_POSTMASK = Spec.BRD_POSTMASK ∧
    BRD_RESTRICTEDPOST = Spec.BRD_RESTRICTEDPOST ∧ BRD_GUESTPOST = Spec.BRD_GUESTPOST ∧ BRD_COOLDOWN = Spec.BRD_COOLDOWN ∧
    BRD_OVER18 = Spec.BRD_OVER18 := by decide

/-- NewPost only delegates to DoPostArticle, CheckPostPerm2 is postpermMsg, and the configuration the model
mirrors (new ban system, flood rejection, cool-down) is the default one. -/
theorem source_wrappers :
    Gen.WriteGuards.newPostDelegates = true ∧ Gen.WriteGuards.checkPostPerm2IsPostpermMsg = true ∧
    Gen.WriteGuards.USE_NEW_BAN_SYSTEM = true ∧ Gen.WriteGuards.REJECT_FLOOD_POST = true ∧
    Gen.WriteGuards.USE_COOLDOWN = true := by decide

/-- the `limit` array of checkCooldown lists the pttbbs flood table, and the masks split the word 28/4. -/
theorem source_flood_table :
    Gen.WriteGuards.cooldownLimit = flattenPairs Spec.floodLimits ∧
    Gen.WriteGuards.cooldownTimeMask = 0x7FFFFFF0 ∧ Gen.WriteGuards.checkCooldownMask = 0x7FFFFFF0 ∧
    Gen.WriteGuards.posttimesMask = 0xF := by decide

/-! ### each Go decision is its declarative clause, for all inputs -/

/-- boardPermStat ≠ NBRD_INVALID exactly when the user may read the board. -/
theorem read_eq_spec (u : User) (b : Board) : boardPermStat u b ≠ 0 ↔ Spec.mayRead u b := by
  unfold boardPermStat boardPermStatNormally Spec.mayRead Spec.sysop Spec.police Spec.hidden Spec.postMask
    Spec.over18Board
  -- sysop, police on a BM-level board, moderator: NBRD_FAV; hidden or not; over-18 and level: NBRD_INVALID
  rw [ite_one_ne_zero, ite_one_ne_zero, ite_one_ne_zero, ite_ne_zero, ite_zero_ne_zero, ite_zero_ne_zero,
    ← isBMCache_iff]
  simp only [← has_iff, ← source_constants]
  refine or_congr Iff.rfl (or_congr ?_ (or_congr Iff.rfl (or_congr (and_congr Iff.rfl ?_)
    (and_congr Iff.rfl (and_congr ?_ ?_)))))
  · rw [Bool.and_eq_true, Bool.or_eq_true]
  · rw [has]
    cases b.friend <;> simp
  · exact not_and_not_eq_true _ _
  · rw [and_beq_zero]
    simp only [Bool.and_eq_true, Bool.not_eq_true', bne_iff_ne, Decidable.not_and_iff_not_or_not, Decidable.not_not,
      Bool.not_eq_false, or_assoc, ne_eq, Nat.succ_ne_zero, not_false_eq_true, and_true]

/-- bannedMsg (ban file + clock) exactly when a ban with a future expiry exists. -/
theorem banned_eq_spec (b : Board) (now : Nat) : bannedMsg b now = true ↔ Spec.banned b now := by
  unfold bannedMsg isBannedBy isBannedByRec Board.banRec Spec.banned
  cases hbr : b.banBroken
  · cases hb : b.ban with
    | none => simp
    | some e =>
      simp only [Option.some.injEq, exists_eq_left', Bool.false_eq_true, if_false, true_and]
      split <;> simp <;> omega
  · simp

theorem readonly_eq_spec (b : Board) : isReadonlyBoard b.name = true ↔ Spec.readOnly b := by
  have e1 : Gen.WriteGuards.bnSecurity = Spec.securityName := by decide
  have e2 : Gen.WriteGuards.bnAllpost = Spec.allpostName := by decide
  unfold isReadonlyBoard cstrCaseEq Spec.readOnly Spec.sameNameNoCase
  rw [e1, e2, lowerByte_eq]
  simp

theorem default_eq_spec (b : Board) : cstrEq b.name Gen.WriteGuards.defaultBoard = true ↔ Spec.defaultBoard b := by
  have e1 : cstr Gen.WriteGuards.defaultBoard = Spec.sysopName := by decide
  unfold cstrEq Spec.defaultBoard
  rw [e1]
  simp

/-- postpermMsg returns nil exactly when the board is not read-only and the posting rules hold. -/
theorem postperm_eq_spec (u : User) (b : Board) (now : Nat) :
    postpermMsg u b now = none ↔ (¬ Spec.readOnly b ∧ Spec.postRules u b now) := by
  simp only [postpermMsg, Spec.postRules, Spec.extraLevelOK, Spec.extraLevel, Spec.sysop, Spec.guestPost, Spec.hasPost,
    Spec.hidden, Spec.restrictedPost, Spec.violateLaw, Spec.boardAdmitsVL]
  -- in source order: read-only, sysop, banned, default board, guest-post, PERM_POST, hidden, restricted-post,
  -- the violate-law split with its board test, no extra level demanded, extra level held
  rw [ite_some_eq_none, ite_eq_then_iff, ite_some_eq_none, ite_eq_then_iff, ite_eq_then_iff, ite_some_eq_none,
    ite_eq_then_iff, ite_some_eq_none, ite_eq_none, ite_eq_then_iff, ite_eq_then_iff, ite_some_eq_none,
    ← readonly_eq_spec, ← banned_eq_spec, ← default_eq_spec]
  simp only [← has_iff, ← source_constants, not_and_not_eq_true, Bool.not_eq_true', Bool.not_eq_false, reduceCtorEq,
    or_false, and_true, beq_iff_eq]

/-- getBoardRestrictionReason (uint8/uint32 arithmetic) returns NONE exactly when the limits clause holds. -/
theorem restriction_eq_spec (u : User) (b : Board) :
    getBoardRestrictionReason u b = 0 ↔ Spec.limitsOK u b := by
  unfold getBoardRestrictionReason Spec.limitsOK
  rw [ite_eq_then_iff, ite_eq_then_iff, has_iff, isBMCache_iff, getRestrictionReason_eq]
  exact Iff.rfl

/-- checkCooldown returns true exactly when the user is cooling down on the board. -/
theorem cooldown_eq_spec (u : User) (b : Board) (w : UInt32) (now : Nat) :
    checkCooldown u b w now = true ↔ Spec.coolingDown u b w now := by
  unfold checkCooldown checkCooldownW Spec.coolingDown
  simp only [apply_ite Prod.fst, Bool.if_true_left, Bool.if_false_left, Bool.if_false_right,
    Bool.and_eq_true, Bool.or_eq_true, Bool.not_eq_true', decide_eq_true_eq, decide_eq_false_iff_not, Bool.and_true]
  rw [Nat.not_lt, cdTime_eq, has_iff _ PERM_SYSOP, posttimes_full,
    and_iff_right (show Gen.WriteGuards.REJECT_FLOOD_POST = true from rfl), postTimes_eq, floodHit_iff]
  exact and_congr Iff.rfl (and_congr Iff.rfl (or_congr (has_iff _ _) Iff.rfl))

/-- isFileOwner is "the article's author". -/
theorem owner_eq_spec (u : User) (a : Article) : isFileOwner a u = true ↔ Spec.isAuthor u a := by
  simp only [isFileOwner, Spec.isAuthor, cstrEq, Bool.if_false_left, Bool.and_eq_true, Bool.not_eq_true',
    Bool.not_eq_false, decide_eq_false_iff_not, decide_eq_true_eq, beq_iff_eq, Nat.not_le, ge_iff_le]

/-! ### exactly which clauses each operation enforces (derived from the regenerated bodies) -/

/-- NewPost is accepted exactly when the whole rule set holds. -/
theorem accepted_iff_newpost (x : Row) : accepted .newpost x ↔ Spec.rules x.u x.src x.cd x.now := by
  rw [accepted_newpost_model, read_eq_spec, postperm_eq_spec, restriction_eq_spec, has_iff, ← Bool.not_eq_true,
    cooldown_eq_spec, and_assoc, and_comm (b := Spec.hasBit _ _)]
  exact Iff.rfl

/-- Recommend: read, read-only, posting rules, limits, cool-down — NOT "verified"; then the content refusals
(empty index, entry not found, no-recommend board, link entry, marked∧solved). -/
theorem accepted_iff_recommend (x : Row) :
    accepted .recommend x ↔
      (Spec.mayRead x.u x.src ∧ (¬ Spec.readOnly x.src ∧ Spec.postRules x.u x.src x.now) ∧ Spec.limitsOK x.u x.src ∧
        ¬ Spec.coolingDown x.u x.src x.cd x.now) ∧
      (x.art.total0 = false ∧ x.art.found = true ∧ has x.src.attr BRD_NORECOMMEND = false ∧
        firstIs x.art.entName 76 = false ∧
        ¬ (has x.art.entMode.toUInt32 FILE_MARKED = true ∧ has x.art.entMode.toUInt32 FILE_SOLVED = true)) := by
  rw [accepted_iff_demands, demands, read_eq_spec, postperm_eq_spec, restriction_eq_spec,
    ← Bool.not_eq_true (checkCooldown _ _ _ _), cooldown_eq_spec,
    ← Bool.not_eq_true (has _ FILE_SOLVED), ← not_and]
  simp only [and_assoc]

/-- EditPost: read, read-only, posting rules, limits, author-or-sysop — NOT "verified", NOT "no cool-down"; plus
the content refusals (vote board, entry not found, vote entry, delete-marked entry) and PERM_BASIC. -/
theorem accepted_iff_editpost (x : Row) :
    accepted .editpost x ↔
      (Spec.mayRead x.u x.src ∧ (¬ Spec.readOnly x.src ∧ Spec.postRules x.u x.src x.now) ∧ Spec.limitsOK x.u x.src ∧
        (Spec.isAuthor x.u x.art ∨ Spec.sysop x.u)) ∧
      (has x.src.attr BRD_VOTEBOARD = false ∧ x.art.found = true ∧ has x.art.entMode.toUInt32 FILE_VOTE = false ∧
        firstIs x.art.entName 46 = false ∧ has x.u.level PERM_BASIC = true) := by
  rw [accepted_iff_demands, demands, read_eq_spec, postperm_eq_spec, restriction_eq_spec,
    ← Bool.not_eq_true (isReadonlyBoard _), readonly_eq_spec,
    ← Bool.not_eq_true (isFileOwner _ _), ← Decidable.or_iff_not_imp_left, owner_eq_spec, has_iff _ PERM_SYSOP]
  -- the read-only test of EditPost itself repeats what the posting decision says
  constructor
  · rintro ⟨h1, ⟨_, h2⟩, h3, h4, h5, h6, h7, h8, h9⟩
    exact ⟨⟨h1, h7, h8, h9⟩, h2, h3, h4, h5, h6⟩
  · rintro ⟨⟨h1, h7, h8, h9⟩, h2, h3, h4, h5, h6⟩
    exact ⟨h1, ⟨h7.1, h2⟩, h3, h4, h5, h6, h7, h8, h9⟩

/-- CrossPost: the whole rule set on the TARGET board; on the source board read access, and under BRD_CPLOG the
posting rules and limits; never for a violate-law user; the content refusals. -/
theorem accepted_iff_crosspost (x : Row) :
    accepted .crosspost x ↔
      Spec.rules x.u x.tgt x.cd x.now ∧
      (Spec.mayRead x.u x.src ∧ ¬ Spec.violateLaw x.u ∧
        (has x.src.attr BRD_CPLOG = true →
          (¬ Spec.readOnly x.src ∧ Spec.postRules x.u x.src x.now) ∧ Spec.limitsOK x.u x.src)) ∧
      (has x.src.attr BRD_VOTEBOARD = false ∧ x.art.found = true ∧ firstIs x.art.entOwner 45 = false ∧
        x.art.fileExists = true) := by
  rw [accepted_iff_demands, demands, read_eq_spec, read_eq_spec, postperm_eq_spec, postperm_eq_spec, restriction_eq_spec,
    restriction_eq_spec, has_iff _ PERM_LOGINOK, ← Bool.not_eq_true (has _ PERM_VIOLATELAW), has_iff _ PERM_VIOLATELAW,
    ← Bool.not_eq_true (checkCooldown _ _ _ _), cooldown_eq_spec]
  constructor
  · rintro ⟨h1, h2, h3, h4, h5, h6, h7, h8, h9, ⟨hr, hp⟩, h11, h12⟩
    exact ⟨⟨h9, hr, hp, h11, h7, h12⟩, ⟨h2, h6, h8⟩, h1, h3, h4, h5⟩
  · rintro ⟨⟨h9, hr, hp, h11, h7, h12⟩, ⟨h2, h6, h8⟩, h1, h3, h4, h5⟩
    exact ⟨h1, h2, h3, h4, h5, h6, h7, h8, h9, ⟨hr, hp⟩, h11, h12⟩

/-! ### the property -/

/-- the rule set with the clauses "verified" and "no cool-down" switchable. -/
def rulesWith (needVerified needCooldown : Bool) (u : User) (b : Board) (w : UInt32) (now : Nat) : Prop :=
  Spec.mayRead u b ∧ ¬ Spec.readOnly b ∧ Spec.postRules u b now ∧ Spec.limitsOK u b ∧
  (needVerified = true → Spec.verified u) ∧ (needCooldown = true → ¬ Spec.coolingDown u b w now)

/-- the clause set each operation enforces. -/
def enforcedFor (op : Op) (x : Row) : Prop :=
  match op with
  | .newpost => rulesWith true true x.u x.src x.cd x.now
  | .recommend => rulesWith false true x.u x.src x.cd x.now
  | .editpost => rulesWith false false x.u x.src x.cd x.now ∧ (Spec.isAuthor x.u x.art ∨ Spec.sysop x.u)
  | .crosspost => rulesWith true true x.u x.tgt x.cd x.now

/-- the (operation, clause) cells `enforcedFor` leaves out. -/
def missingFor (op : Op) (x : Row) : Prop :=
  match op with
  | .newpost => True
  | .recommend => Spec.verified x.u
  | .editpost => Spec.verified x.u ∧ ¬ Spec.coolingDown x.u x.src x.cd x.now
  | .crosspost => True

/-- `enforcedFor` is the rule set minus exactly: (recommend, verified), (editpost, verified), (editpost, cool-down). -/
theorem rules_iff_enforced_and_missing (op : Op) (x : Row) :
    Spec.rulesFor op x ↔ enforcedFor op x ∧ missingFor op x := by
  cases op <;> simp only [Spec.rulesFor, enforcedFor, missingFor, rulesWith, Spec.rules, forall_const,
    Bool.false_eq_true, false_imp_iff, true_and, and_true, and_assoc]
  -- recommend, editpost: behind the four clauses always enforced, the same conjuncts in another order
  · iterate 4 refine and_congr_right' ?_
    exact and_comm
  · iterate 4 refine and_congr_right' ?_
    exact and_rotate.symm

/-- every accepted write satisfies the clause set of its operation. -/
theorem write_accepted_implies_rules_partial (op : Op) (x : Row) : accepted op x → enforcedFor op x := by
  intro h
  cases op
  · exact ((rules_iff_enforced_and_missing .newpost x).mp ((accepted_iff_newpost x).mp h)).1
  · have ⟨⟨h1, ⟨h2, h3⟩, h4, h6⟩, _⟩ := (accepted_iff_recommend x).mp h
    exact ⟨h1, h2, h3, h4, nofun, fun _ => h6⟩
  · have ⟨⟨h1, ⟨h2, h3⟩, h4, ha⟩, _⟩ := (accepted_iff_editpost x).mp h
    exact ⟨⟨h1, h2, h3, h4, nofun, nofun⟩, ha⟩
  · exact ((rules_iff_enforced_and_missing .crosspost x).mp ((accepted_iff_crosspost x).mp h).1).1

/-- NewPost, full strength. -/
theorem newpost_implies_rules (x : Row) : accepted .newpost x → Spec.rulesFor .newpost x := by
  rw [accepted_iff_newpost]; exact id

/-- CrossPost, full strength (the rule set on the board written to). -/
theorem crosspost_implies_rules (x : Row) : accepted .crosspost x → Spec.rulesFor .crosspost x := by
  rw [accepted_iff_crosspost]; exact fun h => h.1

/-! ### the three recorded gaps: the negation of the full statement, with the witness rows
(`Model/C08.lean`; replayed on the real code on every run: ops `reset witness …`) -/

theorem witness_unverified_is_unverified : ¬ Spec.verified witnessUnverified.u := by
  unfold Spec.verified; decide

theorem witness_coolingdown_cools : Spec.coolingDown witnessCoolingDown.u witnessCoolingDown.src
    witnessCoolingDown.cd witnessCoolingDown.now := by
  rw [← cooldown_eq_spec]; decide

/-- known finding missing:recommend:verified. -/
theorem recommend_accepts_unverified : ∃ x, accepted .recommend x ∧ ¬ Spec.rulesFor .recommend x :=
  ⟨witnessUnverified, by decide +kernel, fun h => witness_unverified_is_unverified h.2.2.2.2.1⟩

/-- known finding missing:editpost:verified. -/
theorem editpost_accepts_unverified : ∃ x, accepted .editpost x ∧ ¬ Spec.rulesFor .editpost x :=
  ⟨witnessUnverified, by decide +kernel, fun h => witness_unverified_is_unverified h.1.2.2.2.2.1⟩

/-- known finding missing:editpost:cooldown. -/
theorem editpost_accepts_cooling_down : ∃ x, accepted .editpost x ∧ ¬ Spec.rulesFor .editpost x :=
  ⟨witnessCoolingDown, by decide +kernel, fun h => h.1.2.2.2.2.2 witness_coolingdown_cools⟩

/-- the same rows are refused by the two operations that do enforce the clause. -/
theorem witnesses_refused_elsewhere :
    ¬ accepted .newpost witnessUnverified ∧ ¬ accepted .crosspost witnessUnverified ∧
    ¬ accepted .newpost witnessCoolingDown ∧ ¬ accepted .recommend witnessCoolingDown ∧
    ¬ accepted .crosspost witnessCoolingDown := by decide +kernel

/-! ### refusals leave no trace -/

/-- in the body of DoPostArticle no refusal (other than a failing I/O call) follows the first persistent effect. -/
theorem guards_before_effects_newpost : guardsFirst Gen.WriteGuards.newpost = true := by decide
theorem guards_before_effects_recommend : guardsFirst Gen.WriteGuards.recommend = true := by decide
/-- EditPost: the only later refusal is the content-hash check (`oldsum != newsum`), not a permission test. -/
theorem guards_before_effects_editpost : guardsFirst Gen.WriteGuards.editpost = true := by decide
theorem guards_before_effects_crosspost : guardsFirst Gen.WriteGuards.crosspost = true := by decide

/-- a refused write has executed no persistent effect (Stampfile, WriteFile, AppendRecord, ModifyDirLite,
doAddRecommend, pwcu*, the cool-down word …). -/
theorem refused_untouched (op : Op) (x : Row) : (run op x).err ≠ none → (run op x).touched = false := by
  cases op
  · exact refused_untouched_of_guardsFirst x _ guards_before_effects_newpost
  · exact refused_untouched_of_guardsFirst x _ guards_before_effects_recommend
  · exact refused_untouched_of_guardsFirst x _ guards_before_effects_editpost
  · exact refused_untouched_of_guardsFirst x _ guards_before_effects_crosspost

/-! ### one step of history: the word an accepted post leaves behind -/

/-- After any accepted post (DoPostArticle / CrossPost tail: AddCooldownTime, AddPosttimes), for as long as the
cool-down time of the word lasts, a non-sysop is refused on every board with more than 4000 users
(first row of the flood table).  That the time part lasts ~5 minutes is tied by the `flood` ops only. -/
theorem busy_board_refuses_next_post (u : User) (b b' : Board) (w : UInt32) (now now' : Nat)
    (hs : ¬ Spec.sysop u) (hn : 4000 < b'.nuser) (hact : now' ≤ Spec.cdTime (afterPost b w now)) :
    checkCooldown u b' (afterPost b w now) now' = true := by
  rw [cooldown_eq_spec]
  refine ⟨hact, hs, Or.inr (Or.inr ⟨(4000, 1), by simp [Spec.floodLimits], hn, ?_⟩)⟩
  unfold afterPost
  exact one_le_postTimes_addPosttimes _

/-- non-vacuity: a post at `fixedNow` on a board with 4001 users opens a window that is still running 100 s later. -/
example : fixedNow + 100 ≤ Spec.cdTime (afterPost { plainBoard nameSrc with nuser := 4001 } 0 fixedNow) := by decide

/-! ### the friend list of a board: what a reload leaves in shared memory (histories on the list) -/

/-- cache.HbflReload builds the new list in a zeroed local array and copies it over the whole row. -/
theorem source_hbfl_replaces_row : Gen.WriteGuards.hbflReloadReplacesRow = true := by decide

/-- since fix 1b78546 a missing list file is an empty list: HbflReload does not return early. -/
theorem source_hbfl_missing_file_replaces : Gen.WriteGuards.hbflMissingFileKeepsRow = false := by decide

/-- after a reload the friend decision is membership among the first MAX_FRIEND names of the file that resolve to a
user (no file: nobody) — whatever the row held before. -/
theorem friend_after_reload (row : List Nat) (file : Option (List Nat)) (now uid : Nat) :
    hbflScan uid (((hbflReload true false row file now).drop 1).take MAX_FRIEND) = true ↔ uid ∈ hbflFill (file.getD []) := by
  rw [hbflScan_reload, decide_eq_true_iff]

/-- after a reload with the list file gone nobody is a friend. -/
theorem no_friend_after_reload_without_file (row : List Nat) (now uid : Nat) :
    hbflScan uid (((hbflReload true false row none now).drop 1).take MAX_FRIEND) = false := by
  rw [hbflScan_reload]
  rfl

/-- the look-up of an expired row (the reload inside IsHiddenBoardFriend) answers from the file alone. -/
theorem friend_lookup_after_expiry (row : List Nat) (file : Option (List Nat)) (now uid : Nat)
    (hexp : ((row.headD 0 : Nat) : Int) < (now : Int) - (HBFLexpire : Int)) :
    (isHiddenBoardFriend true false row file uid now).1 = true ↔ uid ∈ hbflFill (file.getD []) := by
  unfold isHiddenBoardFriend
  simp only [hexp, if_true]
  exact friend_after_reload row file now uid

/-- A user who is not among the (first MAX_FRIEND resolvable) names of the list file is refused by all four operations
on a restricted-post board once the list has been loaded again (or found gone) — whatever history the shared-memory row has behind
it (`row` is arbitrary) — unless one of the rule set's own exemptions applies (sysop, default board, guest-post,
hidden). -/
theorem removed_friend_refused (op : Op) (x : Row) (row : List Nat) (file : Option (List Nat)) (now uid : Nat)
    (hfriend : (op.written x).friend = hbflScan uid (((hbflReload true false row file now).drop 1).take MAX_FRIEND))
    (hnot : uid ∉ hbflFill (file.getD []))
    (hr : Spec.restrictedPost (op.written x)) (hh : ¬ Spec.hidden (op.written x))
    (hd : ¬ Spec.defaultBoard (op.written x)) (hg : ¬ Spec.guestPost (op.written x)) (hs : ¬ Spec.sysop x.u) :
    ¬ accepted op x := by
  intro hacc
  have hf : (op.written x).friend = false := by
    rw [hfriend, hbflScan_reload, decide_eq_false hnot]
  have hp : Spec.postRules x.u (op.written x) x.now :=
    ((postperm_eq_spec _ _ _).mp (accepted_postperm op x hacc)).2
  unfold Spec.postRules at hp
  rcases hp with h | ⟨_, h | h | ⟨_, h | ⟨h, _⟩⟩⟩
  · exact hs h
  · exact hd h
  · exact hg h
  · exact hh h
  · exact Bool.false_ne_true (hf ▸ h hr)

/-- non-vacuity: user 40 taken off the list [2, 40] -> [2]; the old row still names him. -/
example : (40 : Nat) ∉ hbflFill [2] ∧
    hbflScan 40 (((hbflReload true false (hbflReload true false (hbflFresh 5) (some [2, 40]) 6) (some [2]) 7).drop 1).take MAX_FRIEND) = false := by
  decide

/-- The broken rule, if the row were filled in place (what a regenerated `hbflReloadReplacesRow = false` means):
user 40 is taken off the list [2, 40] -> [2], the list is loaded again, and he is still found. -/
theorem stale_friend_if_filled_in_place :
    ∃ row es uid now, uid ≠ 0 ∧ uid ∉ hbflFill es ∧
      hbflScan uid (((hbflReload false false row (some es) now).drop 1).take MAX_FRIEND) = true :=
  ⟨hbflReload true false (hbflFresh 5) (some [2, 40]) 6, [2], 40, 7, by decide, by decide, by decide⟩

/-- BEFORE fix 1b78546 (finding stale-friendlist:file-removed; what a regenerated `hbflMissingFileKeepsRow = true`
means): when the list file no longer existed HbflReload left the row — friends and load time — as it was, so the
friends of a removed list were still found. -/
theorem before_fix_removed_list_kept_friends :
    (∀ r row now, hbflReload r true row none now = row) ∧
    ∃ row uid now, uid ≠ 0 ∧ hbflScan uid (((hbflReload true true row none now).drop 1).take MAX_FRIEND) = true :=
  ⟨fun _ _ _ => rfl, hbflReload true false (hbflFresh 5) (some [40]) 6, 40, 7, by decide, by decide⟩

/-! ### the ban record: the permission check only reads it -/

/-- ptt.isBannedBy removes the record only under `err == nil && now > expireTS`. -/
theorem source_ban_cleanup_only_readable : Gen.WriteGuards.banCleanupOnReadError = false := by decide

/-- the check changes the record exactly when it could be read and has expired (then it removes it). -/
theorem ban_check_removes_only_expired (r : BanRec) (now : Nat) :
    (isBannedByRec false r now).2 ≠ r ↔ ∃ e, r = .expiry e ∧ e < (now : Int) := by
  cases r with
  | absent => simp [isBannedByRec]
  | unreadable => simp [isBannedByRec]
  | expiry e =>
    simp only [isBannedByRec, BanRec.expiry.injEq, exists_eq_left']
    split <;> simp <;> omega

/-- a record that exists but cannot be read (empty, a directory, being written) survives any number of checks, and
nobody is banned by it. -/
theorem unreadable_record_survives (now : Nat) : isBannedByRec false .unreadable now = (0, .unreadable) := rfl

/-- `Spec.banned` in terms of the record. -/
theorem banned_iff_record (b : Board) (now : Nat) :
    Spec.banned b now ↔ ∃ e, b.banRec = .expiry e ∧ (now : Int) < e := by
  unfold Spec.banned Board.banRec
  cases b.banBroken <;> cases b.ban <;> simp

/-- once the record is complete — readable, expiry in the future — every one of the four operations refuses the
user on that board (unless sysop), whatever the other facts and whatever checks ran while it was incomplete. -/
theorem ban_in_force_refused (op : Op) (x : Row) (e : Int) (hrec : (op.written x).banRec = .expiry e)
    (hfut : (x.now : Int) < e) (hs : ¬ Spec.sysop x.u) : ¬ accepted op x := by
  intro hacc
  have hb : Spec.banned (op.written x) x.now := (banned_iff_record _ _).mpr ⟨e, hrec, hfut⟩
  have hp : Spec.postRules x.u (op.written x) x.now :=
    ((postperm_eq_spec _ _ _).mp (accepted_postperm op x hacc)).2
  unfold Spec.postRules at hp
  rcases hp with h | ⟨h, _⟩
  · exact hs h
  · exact h hb

/-- non-vacuity: the record `act` of the harness. -/
example : ({ plainBoard nameSrc with ban := some ((fixedNow : Int) + 3600) } : Board).banRec = .expiry ((fixedNow : Int) + 3600) := by
  decide

/-- The broken rule (clean-up `if err != nil || now > expireTS`): a check that meets the record while it cannot be read
removes it, so the ban the moderator is writing is lost. -/
theorem cleanup_on_read_error_loses_ban (now : Nat) : (isBannedByRec true .unreadable now).2 = .absent := rfl

/-! ### histories on one article: comments and edits move `Modified`, never the authorship -/

/-- isFileOwner does not look at the entry's `Modified`. -/
theorem owner_ignores_modified (a : Article) (u : User) (m : Int) :
    isFileOwner { a with entModified := m } u = isFileOwner a u := rfl

/-- whatever sequence of accepted comments / edits (each storing its file time in `Modified`) an article has been
through, its author is who it was. -/
theorem history_keeps_author (u : User) (a : Article) (ms : List Int) :
    Spec.isAuthor u (ms.foldl touch a) ↔ Spec.isAuthor u a := by
  induction ms generalizing a with
  | nil => exact Iff.rfl
  | cons m r ih =>
    -- `touch` changes `entModified` only, which `Spec.isAuthor` does not read
    exact (ih (touch a m)).trans Iff.rfl

/-- A LATER account carrying the author's id (FirstLogin after the creation time in the article's name) that is not
a sysop is refused by EditPost after any history of comments and edits on the article, whatever the other facts. -/
theorem later_account_never_edits (x : Row) (ms : List Int) (hs : ¬ Spec.sysop x.u)
    (hl : nameTime x.art.entName < x.u.firstLogin) :
    ¬ accepted .editpost { x with art := ms.foldl touch x.art } := by
  intro hacc
  obtain ⟨⟨_read, _post, _limits, h⟩, _⟩ := (accepted_iff_editpost _).mp hacc
  rcases h with h | h
  · exact Int.not_le.mpr hl ((history_keeps_author x.u x.art ms).mp h).2.2
  · exact hs h

/-- non-vacuity: the later account of the thread histories (FirstLogin 1550000000, article of 1500000000). -/
example : nameTime ownArticle.entName < (1550000000 : Int) := by decide

/-- The broken rule (what a regression taking the entry's time from `Modified` would do): after one comment at
`fixedNow` the later account passes the author test although it is not the author. -/
theorem modified_time_rule_admits_later_account :
    ∃ a u m, ¬ Spec.isAuthor u a ∧ isFileOwner (touch a m) u = false ∧ isFileOwnerByModified (touch a m) u = true :=
  ⟨ownArticle, { witnessCoolingDown.u with firstLogin := 1550000000 }, (fixedNow : Int),
    fun h => absurd h.2.2 (by decide), by decide, by decide⟩

/-! ### non-vacuity: the base row of the decision table is accepted by all four operations and satisfies the rules -/

def baseRow : Row := { witnessUnverified with u := { witnessUnverified.u with level := 0o31 } }

example : accepted .newpost baseRow ∧ accepted .recommend baseRow ∧ accepted .editpost baseRow ∧
    accepted .crosspost baseRow := by decide +kernel
example : Spec.rulesFor .editpost baseRow := by
  have h := (rules_iff_enforced_and_missing .editpost baseRow).mpr
    ⟨write_accepted_implies_rules_partial .editpost baseRow (by decide +kernel), by
      refine ⟨by unfold Spec.verified; decide, ?_⟩
      rw [← cooldown_eq_spec]; decide⟩
  exact h
example : ∃ x, ¬ accepted .newpost x := ⟨witnessUnverified, witnesses_refused_elsewhere.1⟩
example : (run .newpost witnessUnverified).err ≠ none := witnesses_refused_elsewhere.1

end PttVerif.C08
