import PttVerif.Proofs.C10
import PttVerif.Gen.PttConfig
/-
C10 — Comments are appended, never rewrite, and move the score by at most one.
Helper lemmas: Proofs/C10.lean; ModifyDirLite and its int8 arithmetic: Model/C05.lean.

Conventions: `find` is the search of cmsys.GetRecord that proposes an index entry (property C06); every
theorem holds for EVERY `find`, because GetRecord re-reads the proposed entry and compares its name.
`InRange b` : the stored byte `b` denotes a score in [-100, 100].   `scoreAfter t b` : the byte the comment
path stores (doAddRecommend's guarded update, then ModifyDirLite's int8 sum and clamp).
The literals 28..31, 33, 124, 128 in statements are the `Modified` field, `offRecommend`, `offFilemode` and `dirSz`;
`type_marks` states the regenerated values.
The board has an index file (`st.dir.present = true`) wherever a request is run.
-/
namespace PttVerif.C10.Props
open PttVerif PttVerif.C05 PttVerif.C10
open Gen.Comment Gen.RecFile

/-! #### regenerated data -/

/-- the type marks of `CommentType.Bytes()` are the pttbbs ones (white 推, red 噓, red →; Big5), every other
type value has no mark; the field offsets the frame theorem speaks about; the refusal bits. -/
theorem type_marks :
    typeBytes COMMENT_TYPE_RECOMMEND = [27, 91, 49, 59, 51, 55, 109, 177, 192] ∧
    typeBytes COMMENT_TYPE_BOO = [27, 91, 49, 59, 51, 49, 109, 188, 78] ∧
    typeBytes COMMENT_TYPE_COMMENT = [27, 91, 49, 59, 51, 49, 109, 161, 247] ∧
    (typeMarks.map (·.1)) = [COMMENT_TYPE_RECOMMEND, COMMENT_TYPE_BOO, COMMENT_TYPE_COMMENT] ∧
    offModified = 28 ∧ lenModified = 4 ∧ offRecommend = 33 ∧ lenRecommend = 1 ∧ offFilemode = 124 ∧
    offFilename = 0 ∧ lenFilename = 28 ∧ dirSz = 128 ∧
    Gen.Comment.FILE_MARKED = 2 ∧ Gen.Comment.FILE_SOLVED = 16 ∧ MAX_RECOMMENDS = 100 ∧ IDLEN = 12 ∧ IPV4LEN = 15 := by decide

/-- a type outside the table has no mark: its line starts with the blank. -/
theorem type_without_mark (t : Nat) (h : t ∉ typeMarks.map (·.1)) : typeBytes t = [] := by
  unfold typeBytes
  split
  · rename_i e he
    exfalso; apply h
    have h1 := List.mem_of_find?_eq_some he
    have h2 := List.find?_some he
    simp only [beq_iff_eq] at h2
    exact List.mem_map.2 ⟨e, h1, h2⟩
  · rfl

/-! #### score -/

/-- ModifyDirLite level: for a stored score in [-100,100] and a delta in {-1,0,1} the new
score is the saturated sum — the int8 addition does not wrap on this domain — and moves by at most one. -/
theorem score_step (cur : Nat) (d : Int) (hr : InRange cur) (hd : d = -1 ∨ d = 0 ∨ d = 1) :
    toInt8 (recommendUpdate cur d) = clamp (toInt8 cur + d) ∧
    -1 ≤ toInt8 (recommendUpdate cur d) - toInt8 cur ∧ toInt8 (recommendUpdate cur d) - toInt8 cur ≤ 1 := by
  rw [recommendUpdate_step cur d hr hd]
  exact ⟨rfl, clamp_add_near _ d hr.1 hr.2 (by omega) (by omega)⟩

example : InRange 100 ∧ toInt8 (recommendUpdate 100 1) = 100 ∧ toInt8 (recommendUpdate 156 (-1)) = -100 := by decide

/-- whole comment path: a push gives +1, a boo -1, every other type 0, saturating at ±100. -/
theorem comment_score (t cur : Nat) (hr : InRange cur) :
    toInt8 (scoreAfter t cur) = clamp (toInt8 cur + delta t) ∧ InRange (scoreAfter t cur) ∧
    (delta t = 1 ∨ delta t = -1 ∨ delta t = 0) ∧
    (t = COMMENT_TYPE_RECOMMEND → delta t = 1) ∧ (t = COMMENT_TYPE_BOO → delta t = -1) ∧
    (t ≠ COMMENT_TYPE_RECOMMEND → t ≠ COMMENT_TYPE_BOO → delta t = 0) := by
  refine ⟨scoreAfter_step t cur hr, scoreAfter_inRange t cur hr, ?_, ?_, ?_, ?_⟩
  · unfold delta; split
    · left; rfl
    · split
      · right; left; rfl
      · right; right; rfl
  · intro h; subst h; decide
  · intro h; subst h; decide
  · intro h1 h2; unfold delta; rw [if_neg h1, if_neg h2]

/-- any sequence of comments of any types, from any start in range, stays in range. -/
theorem score_seq_bounded (ts : List Nat) (cur : Nat) (hr : InRange cur) :
    InRange (ts.foldl (fun c t => scoreAfter t c) cur) := by
  induction ts generalizing cur with
  | nil => exact hr
  | cons t ts ih => exact ih _ (scoreAfter_inRange t cur hr)

example : (List.replicate 5 COMMENT_TYPE_RECOMMEND).foldl (fun c t => scoreAfter t c) 98 = 100 := by decide

/-- what happens outside the property's start range, kept explicit.
From an on-disk 127 ModifyDirLite(+1) wraps in int8 to -128 and is then clamped to -100; the comment path
itself does not get there: doAddRecommend's guard `fhdr.Recommend < MAX_RECOMMENDS` gives update 0, so a
push leaves 127 (still out of range), a boo gives 100; from -128 a push gives -100, a boo leaves -128. -/
theorem score_wraps_outside :
    toInt8 (recommendUpdate 127 1) = -100 ∧ toInt8 (recommendUpdate 128 (-1)) = 100 ∧
    scoreAfter COMMENT_TYPE_RECOMMEND 127 = 127 ∧ toInt8 (scoreAfter COMMENT_TYPE_BOO 127) = 100 ∧
    toInt8 (scoreAfter COMMENT_TYPE_RECOMMEND 128) = -100 ∧ scoreAfter COMMENT_TYPE_BOO 128 = 128 ∧
    ¬ InRange 127 ∧ ¬ InRange 128 := by decide

/-! #### the line -/

/-- type mark (new layout), commenter id, text, blanks, [IP], time, newline — in this
order; the old layout (OLDRECOMMEND) has the same fixed marks for every type. -/
theorem comment_line_shape (cfg : Cfg) (q : Req) :
    ∃ pre mid post,
      formatComment cfg q =
        pre ++ userBytes cfg q ++ mid ++ q.text ++ List.replicate (padLen cfg q) 32 ++ post ++ q.time ++ [10] ∧
      (cfg.oldRecommend = false →
        pre = typeBytes q.ctype ++ [32] ++ ansiColor c33 ∧ mid = ansiReset ++ ansiColor c33 ++ [58, 32] ∧
        post = ansiReset ++ (if isLogIP cfg then cstr q.ip else []) ++ [32]) ∧
      (cfg.oldRecommend = true →
        pre = ansiColor c131 ++ arrowGlyph ++ [32] ++ ansiColor c33 ∧ mid = ansiReset ++ ansiColor c33 ++ [58] ∧
        post = ansiReset ++ pushGlyph ++ (if isLogIP cfg then cstr q.ip else []) ++ [32]) := by
  -- `tail` is `[ip] ++ [32] ++ time`: what stands before the time moves over to the mark in front of it
  cases ho : cfg.oldRecommend with
  | false =>
    refine ⟨_, ansiReset ++ ansiColor c33 ++ [58] ++ [32], ansiReset ++ ((if isLogIP cfg then cstr q.ip else []) ++ [32]), ?_,
      fun _ => ⟨rfl, List.append_assoc _ _ _, (List.append_assoc _ _ _).symm⟩, fun h => (by cases h)⟩
    unfold formatComment tail
    rw [ho]
    exact congrArg (· ++ [10]) (append_shift _ _ _ _)
  | true =>
    refine ⟨_, _, ansiReset ++ pushGlyph ++ ((if isLogIP cfg then cstr q.ip else []) ++ [32]), ?_,
      fun h => (by cases h), fun _ => ⟨rfl, rfl, (List.append_assoc _ _ _).symm⟩⟩
    unfold formatComment tail
    rw [ho]
    exact congrArg (· ++ [10]) (append_shift _ _ _ _)

/-- the line always ends in a newline; when id, text, IP and time contain none it is the only one
(FormatCommentString itself writes the text as it is). -/
theorem comment_line_one_newline (cfg : Cfg) (q : Req) :
    (∃ body, formatComment cfg q = body ++ [10]) ∧
    (10 ∉ q.user → 10 ∉ q.text → 10 ∉ q.ip → 10 ∉ q.time → (formatComment cfg q).count 10 = 1) := by
  obtain ⟨body, hb, hn⟩ := formatComment_body cfg q
  refine ⟨⟨body, hb⟩, fun hu ht hi htm => ?_⟩
  rw [hb, List.count_append, List.count_eq_zero.2 (hn hu ht hi htm)]
  rfl

/-- before b012a03 Recommend passed every text on: this text made the file grow by two lines (key
`append:newline-injection`); kept as the witness of why the text test below is needed. -/
theorem line_break_before_fix :
    ∃ cfg q, 10 ∉ q.user ∧ 10 ∉ q.ip ∧ 10 ∉ q.time ∧ hasLineBreak q.text = true ∧ (formatComment cfg q).count 10 = 2 :=
  ⟨⟨0, false, true⟩, ⟨[65, 49, 0, 0, 0, 0, 0, 0, 0, 0, 0, 0, 0], [], 3, [97, 10, 98], [], [48], 1⟩, by decide⟩

/-- fixed width: when id and text fit, id + text + blanks fill exactly the budget (62 columns, 47 with the IP
log, two less in the old layout); when they do not fit nothing is truncated and there are no blanks. -/
theorem comment_line_width (cfg : Cfg) (q : Req) :
    let budget : Int := baseLen cfg - (if cfg.oldRecommend then 2 else 0)
    (baseLen cfg = if isLogIP cfg then 47 else 62) ∧
    (((userBytes cfg q).length + q.text.length : Nat) ≤ budget →
      (((userBytes cfg q).length + q.text.length + padLen cfg q : Nat) : Int) = budget) ∧
    (budget < ((userBytes cfg q).length + q.text.length : Nat) → padLen cfg q = 0) := by
  dsimp only
  refine ⟨by unfold baseLen; split <;> rfl, ?_⟩
  unfold padLen
  cases cfg.oldRecommend with
  | false =>
    rw [if_neg Bool.false_ne_true, if_neg Bool.false_ne_true, Int.sub_zero]
    exact toNat_fill _ _ _
  | true =>
    rw [if_pos rfl, if_pos rfl]
    exact toNat_fill _ _ _

/-! #### one request -/

/-- a request either fails and leaves index and files exactly as they were, or it is
accepted (the remaining theorems describe that case). -/
theorem comment_atomic (find : Bytes → Nat → Bytes → Option Nat) (cfg : Cfg) (st : St) (q : Req)
    (hp : st.dir.present = true) :
    (recommend find cfg st q).1 = st ∨ ∃ line idx, (recommend find cfg st q).2 = .ok line idx := by
  rcases recommend_cases find cfg st q hp with ⟨e, _, h⟩ | ⟨k, old, _, _, h⟩
  · left; rw [h]
  · right; rw [h]; exact ⟨_, _, rfl⟩

/-- an accepted request returns `formatComment`, and the article file of the addressed
entry is the old content followed by that line; every other file is untouched; the addressed entry is one
whose name equals the requested one from the third byte on. -/
theorem comment_appends (find : Bytes → Nat → Bytes → Option Nat) (cfg : Cfg) (st st' : St) (q : Req)
    (line : Bytes) (idx : Nat) (hp : st.dir.present = true)
    (h : recommend find cfg st q = (st', .ok line idx)) :
    line = formatComment cfg q ∧ 1 ≤ idx ∧ idx * dirSz ≤ st.dir.bytes.length ∧
    nameEq q.name (field (record st.dir.bytes dirSz (idx - 1)) offFilename lenFilename) = true ∧
    ∃ old, fileGet st.files (cstr (field (record st.dir.bytes dirSz (idx - 1)) offFilename lenFilename)) = some old ∧
      fileGet st'.files (cstr (field (record st.dir.bytes dirSz (idx - 1)) offFilename lenFilename)) = some (old ++ line) ∧
      ∀ m, m ≠ cstr (field (record st.dir.bytes dirSz (idx - 1)) offFilename lenFilename) →
        fileGet st'.files m = fileGet st.files m := by
  obtain ⟨k, old, hk, hf, rfl, rfl, rfl⟩ := recommend_ok hp h
  rw [Nat.add_sub_cancel]
  exact ⟨rfl, Nat.le_add_left 1 k, hk.complete, hk.name, old, hf, fileGet_fileSet_same _ _ _ _ hf,
    fun m hm => fileGet_fileSet_other _ _ _ _ hm⟩

/-- an accepted comment is exactly ONE line, for every text: the text of an accepted
request contains neither `\n` nor `\r` (Recommend refuses those, see `comment_refuses_line_break`), so with an
id, IP and clock string free of newlines the appended bytes contain exactly one newline, the final one. -/
theorem comment_one_line (find : Bytes → Nat → Bytes → Option Nat) (cfg : Cfg) (st st' : St) (q : Req)
    (line : Bytes) (idx : Nat) (hp : st.dir.present = true)
    (h : recommend find cfg st q = (st', .ok line idx)) :
    10 ∉ q.text ∧ 13 ∉ q.text ∧ (∃ body, line = body ++ [10]) ∧
    (10 ∉ q.user → 10 ∉ q.ip → 10 ∉ q.time → line.count 10 = 1) := by
  obtain ⟨k, old, hk, _, _, rfl, _⟩ := recommend_ok hp h
  obtain ⟨h10, h13⟩ := not_mem_of_hasLineBreak_false hk.text
  exact ⟨h10, h13, (comment_line_one_newline cfg q).1, fun hu hi ht => (comment_line_one_newline cfg q).2 hu h10 hi ht⟩

/-- a text with `\n` or `\r` is never accepted and leaves index and files as
they were (whatever else is wrong with the request). -/
theorem comment_refuses_line_break (find : Bytes → Nat → Bytes → Option Nat) (cfg : Cfg) (st : St) (q : Req)
    (hp : st.dir.present = true) (hb : 10 ∈ q.text ∨ 13 ∈ q.text) :
    (recommend find cfg st q).1 = st ∧ ∀ line idx, (recommend find cfg st q).2 ≠ .ok line idx := by
  rcases recommend_cases find cfg st q hp with ⟨e, he, h'⟩ | ⟨k, old, hk, _, _⟩
  · rw [h']; exact ⟨rfl, Res.ne_ok he⟩
  · exfalso
    obtain ⟨h10, h13⟩ := not_mem_of_hasLineBreak_false hk.text
    rcases hb with hb | hb
    · exact h10 hb
    · exact h13 hb

/-- an accepted request keeps the length of the index; bytes of every other entry
(and of a torn tail) are unchanged; inside the addressed entry only the four bytes of `Modified` (which then
hold the file's mtime) and the `Recommend` byte (which then holds `scoreAfter`) can differ. -/
theorem comment_index_frame (find : Bytes → Nat → Bytes → Option Nat) (cfg : Cfg) (st st' : St) (q : Req)
    (line : Bytes) (idx : Nat) (hp : st.dir.present = true)
    (h : recommend find cfg st q = (st', .ok line idx)) :
    st'.dir.bytes.length = st.dir.bytes.length ∧ st'.dir.present = true ∧
    (∀ p, p / dirSz ≠ idx - 1 → st'.dir.bytes[p]? = st.dir.bytes[p]?) ∧
    (∀ j, j < 128 → ¬(28 ≤ j ∧ j < 32) → j ≠ 33 →
      st'.dir.bytes[(idx - 1) * dirSz + j]? = st.dir.bytes[(idx - 1) * dirSz + j]?) ∧
    (q.mtime > 0 →
      st'.dir.bytes[(idx - 1) * dirSz + 33]? = some (scoreAfter q.ctype (st.dir.bytes.getD ((idx - 1) * dirSz + 33) 0)) ∧
      ∀ j, j < 4 → st'.dir.bytes[(idx - 1) * dirSz + 28 + j]? = (le32 q.mtime.toNat)[j]?) := by
  obtain ⟨k, old, hk, _, rfl, _, rfl⟩ := recommend_ok hp h
  have hle := hk.complete
  rw [Nat.add_sub_cancel]
  unfold accepted scoreAfter
  dsimp only
  refine ⟨commentDir_length _ _ _ _ _ hle, commentDir_present _ _ _ _ _ hp,
    fun p hpk => commentDir_other _ _ _ _ _ hle p hpk, ?_, ?_⟩
  · intro j hj h1 h2
    rw [commentDir_entry _ _ _ _ _ hle j hj, if_neg (fun h => h2 h.2), if_neg (fun h => h1 h.2)]
  · intro hm
    refine ⟨?_, fun j hj => ?_⟩
    · rw [commentDir_entry _ _ _ _ _ hle 33 (by decide), if_pos ⟨hm, rfl⟩, getD_record_recommend]
    · rw [Nat.add_assoc, commentDir_entry _ _ _ _ _ hle (28 + j) (by omega), if_neg (by omega),
        if_pos ⟨hm, by omega, by omega⟩, Nat.add_sub_cancel_left]

/-- on a no-comment board, for a link entry (the name in the index entry starts with `L`,
under whatever letter it was requested) and for an entry that is marked and solved, nothing is accepted and
index and files stay exactly as they were; when the lookup itself succeeds the answer is the refusal. -/
theorem comment_refusals (find : Bytes → Nat → Bytes → Option Nat) (cfg : Cfg) (st : St) (q : Req)
    (hp : st.dir.present = true)
    (hclass : hasBit cfg.attr BRD_NORECOMMEND = true ∨
      (∃ idx r, getRecord find st.dir (st.dir.bytes.length / dirSz) q.name = .ok (idx, r) ∧ r.getD offFilename 0 = 76) ∨
      ∃ idx r, getRecord find st.dir (st.dir.bytes.length / dirSz) q.name = .ok (idx, r) ∧
        hasBit (r.getD offFilemode 0) Gen.Comment.FILE_MARKED = true ∧ hasBit (r.getD offFilemode 0) Gen.Comment.FILE_SOLVED = true) :
    (recommend find cfg st q).1 = st ∧ (∀ line idx, (recommend find cfg st q).2 ≠ .ok line idx) ∧
    (∀ idx r, getRecord find st.dir (st.dir.bytes.length / dirSz) q.name = .ok (idx, r) →
      st.dir.bytes.length / dirSz ≠ 0 → recommend find cfg st q = (st, .refused)) := by
  have key : ∀ idx r, getRecord find st.dir (st.dir.bytes.length / dirSz) q.name = .ok (idx, r) →
      refusedBy cfg q r = true := by
    intro idx r hg
    unfold refusedBy
    dsimp only
    rcases hclass with h | ⟨idx', r', hg', h⟩ | ⟨idx', r', hg', h1, h2⟩
    · rw [h]; rfl
    · rw [hg] at hg'
      cases hg'
      rw [h, show ((76 : Nat) == 76) = true from rfl, Bool.or_true, Bool.true_or]
    · rw [hg] at hg'
      cases hg'
      rw [h1, h2]
      exact Bool.or_true _
  have third : ∀ idx r, getRecord find st.dir (st.dir.bytes.length / dirSz) q.name = .ok (idx, r) →
      st.dir.bytes.length / dirSz ≠ 0 → recommend find cfg st q = (st, .refused) := by
    intro idx r hg ht
    unfold recommend
    dsimp only
    rw [if_neg ht, hg]
    dsimp only
    rw [if_pos (key idx r hg)]
  rcases recommend_cases find cfg st q hp with ⟨e, he, h'⟩ | ⟨k, old, hk, _, _⟩
  · exact ⟨by rw [h'], by rw [h']; exact Res.ne_ok he, third⟩
  · -- an accepted request would have passed the refusal test on the entry GetRecord returned
    have := hk.allowed
    rw [key _ _ hk.lookup] at this
    cases this

/-! non-vacuity and the boundary of the refusal classes on a one-entry board (entry `M.1500000000.A.005`, or
`L.…`): an ordinary boo is accepted; a push on a no-comment board, on filemode marked|solved, and on the
`L` entry — requested under its own name or under the `M` name the lookup also accepts — is refused; an `M`
entry requested under the `L` name is an ordinary entry. -/

/-- a 128-byte index entry named `<letter>.1500000000.A.005`, with `Modified` = 1 2 3 4. -/
def exRec (letter mode score : Nat) : Bytes :=
  [letter, 46, 49, 53, 48, 48, 48, 48, 48, 48, 48, 48, 46, 65, 46, 48, 48, 53] ++ List.replicate 10 0 ++
  [1, 2, 3, 4, 0, score] ++ List.replicate 90 7 ++ [mode, 0, 0, 0]
def exName (letter : Nat) : Bytes := (exRec letter 0 0).take 28
def exSt (letter mode score : Nat) : St :=
  ⟨⟨true, exRec letter mode score⟩, [((exName letter).take 18, [104, 10])]⟩
def exReq (letter t : Nat) : Req :=
  ⟨[65, 49, 0, 0, 0, 0, 0, 0, 0, 0, 0, 0, 0], exName letter, t, [111, 107], List.replicate 16 0, List.replicate 11 48, 77⟩

example :
    (recommend findLinear ⟨0, false, true⟩ (exSt 77 0 100) (exReq 77 2)).2 = .ok (formatComment ⟨0, false, true⟩ (exReq 77 2)) 1 ∧
    (recommend findLinear ⟨0, false, true⟩ (exSt 77 0 100) (exReq 77 2)).1.dir.bytes.getD 33 0 = 99 ∧
    fileGet (recommend findLinear ⟨0, false, true⟩ (exSt 77 0 100) (exReq 77 2)).1.files ((exName 77).take 18) =
      some ([104, 10] ++ formatComment ⟨0, false, true⟩ (exReq 77 2)) := by
  decide +kernel
example : recommend findLinear ⟨BRD_NORECOMMEND, false, true⟩ (exSt 77 0 0) (exReq 77 1) = (exSt 77 0 0, .refused) := by
  decide +kernel
example : recommend findLinear ⟨0, false, true⟩ (exSt 77 18 0) (exReq 77 1) = (exSt 77 18 0, .refused) := by decide +kernel
example : recommend findLinear ⟨0, false, true⟩ (exSt 76 0 0) (exReq 76 1) = (exSt 76 0 0, .refused) := by decide +kernel
example : recommend findLinear ⟨0, false, true⟩ (exSt 76 0 0) (exReq 77 1) = (exSt 76 0 0, .refused) := by decide +kernel
example : (recommend findLinear ⟨0, false, true⟩ (exSt 77 0 0) (exReq 76 1)).2 =
    .ok (formatComment ⟨0, false, true⟩ (exReq 76 1)) 1 := by decide +kernel

/-- a carriage return is a line break too -/
example : recommend findLinear ⟨0, false, true⟩ (exSt 77 0 0) { exReq 77 1 with text := [97, 13] } = (exSt 77 0 0, .badText) := by
  decide +kernel

/-- the witness of the finding repaired by 0448f6d (`refusal:link-record`): the entry is a link entry, GetRecord
returns it for the request `M.…` (names are compared from the third byte on), the first byte of the REQUESTED
name — what the code tested before the fix — is not `L`; the fixed test refuses it. -/
theorem link_record_before_fix :
    getRecord findLinear (exSt 76 0 0).dir 1 (exReq 77 1).name = .ok (1, exRec 76 0 0) ∧
    (exRec 76 0 0).getD offFilename 0 = 76 ∧ (exReq 77 1).name.getD 0 0 ≠ 76 ∧
    recommend findLinear ⟨0, false, true⟩ (exSt 76 0 0) (exReq 77 1) = (exSt 76 0 0, .refused) := by
  decide +kernel

/-! #### histories -/

/-- the bytes a history appends to the article file `n`: the lines of its accepted requests that address
an entry of that name, in order. -/
def appended (find : Bytes → Nat → Bytes → Option Nat) (st : St) : List (Cfg × Req) → Bytes → Bytes
  | [], _ => []
  | (cfg, q) :: rest, n =>
    (match (recommend find cfg st q).2 with
      | .ok line idx =>
        if cstr (field (record st.dir.bytes dirSz (idx - 1)) offFilename lenFilename) = n then line else []
      | _ => []) ++ appended find (recommend find cfg st q).1 rest n

/-- after ANY sequence of requests (accepted or not, any types, texts, articles,
configurations) every article file is its original content followed by the lines of the accepted comments on
it in order, the index has its original length, and every entry whose score started in [-100,100] still has a
score in [-100,100]. -/
theorem comments_sequence (find : Bytes → Nat → Bytes → Option Nat) (ops : List (Cfg × Req)) (st : St)
    (hp : st.dir.present = true) :
    (run find st ops).dir.present = true ∧
    (run find st ops).dir.bytes.length = st.dir.bytes.length ∧
    (∀ n, fileGet (run find st ops).files n = (fileGet st.files n).map (· ++ appended find st ops n)) ∧
    (∀ k, (k + 1) * dirSz ≤ st.dir.bytes.length → InRange (st.dir.bytes.getD (k * dirSz + 33) 0) →
      InRange ((run find st ops).dir.bytes.getD (k * dirSz + 33) 0)) := by
  induction ops generalizing st with
  | nil =>
    refine ⟨hp, rfl, fun n => ?_, fun _ _ h => h⟩
    show fileGet st.files n = (fileGet st.files n).map (· ++ [])
    simp only [List.append_nil, Option.map_id']
  | cons op ops ih =>
    obtain ⟨cfg, q⟩ := op
    obtain ⟨hp', hl', hs'⟩ := recommend_dir_inv find cfg st q hp
    obtain ⟨a, b, c, d⟩ := ih (recommend find cfg st q).1 hp'
    refine ⟨a, b.trans hl', fun n => ?_, fun k hk hr => d k (by rw [hl']; exact hk) (hs' k hr)⟩
    refine (c n).trans ?_
    rw [recommend_files find cfg st q hp n]
    cases fileGet st.files n with
    | none => rfl
    | some x => exact congrArg some (List.append_assoc _ _ _)

/-- non-vacuity: three pushes on an entry at 99 (the second while the board is no-comment): the file grew by
two lines, the score is 100. -/
example :
    let ops := [((⟨0, false, true⟩ : Cfg), exReq 77 1), (⟨BRD_NORECOMMEND, false, true⟩, exReq 77 1), (⟨0, true, false⟩, exReq 77 1)]
    (run findLinear (exSt 77 0 99) ops).dir.bytes.getD 33 0 = 100 ∧
    appended findLinear (exSt 77 0 99) ops ((exName 77).take 18) =
      formatComment ⟨0, false, true⟩ (exReq 77 1) ++ formatComment ⟨0, true, false⟩ (exReq 77 1) := by
  decide +kernel

/-! #### interleaved commenters

Recommend reads the entry once (phase A) and updates the index later (phase B) from that copy; between the two
it may sleep on the article's lock while other commenters complete.  `Ticket` is what a commenter carries
across; `stepEv` is one scheduling step (a phase A, a write, an index update) of any number of commenters. -/

/-- the index update of phase B keeps every in-range score in range and moves it by
at most one, for EVERY ticket — whatever copy of the entry phase A saw, however stale its score.  This rests on
ModifyDirLite clamping the SUM of the score it re-reads and the delta (`score_step`); a score can only move
when the update succeeds and addresses that entry. -/
theorem stale_update_saturates (st : St) (t : Ticket) (j : Nat) (hj : (j + 1) * dirSz ≤ st.dir.bytes.length)
    (hr : InRange (st.dir.bytes.getD (j * dirSz + 33) 0)) :
    (phaseIndex st t).1.dir.bytes.length = st.dir.bytes.length ∧
    InRange ((phaseIndex st t).1.dir.bytes.getD (j * dirSz + 33) 0) ∧
    -1 ≤ scoreAt (phaseIndex st t).1.dir.bytes j - scoreAt st.dir.bytes j ∧
    scoreAt (phaseIndex st t).1.dir.bytes j - scoreAt st.dir.bytes j ≤ 1 ∧
    (scoreAt (phaseIndex st t).1.dir.bytes j ≠ scoreAt st.dir.bytes j →
      (phaseIndex st t).2.isOk = true ∧ t.idx = j + 1) := by
  unfold scoreAt
  rcases phaseIndex_cases st t with h | ⟨k, hidx, hle, hm, h⟩
  · rw [h, Int.sub_self]; exact ⟨rfl, hr, by decide, by decide, fun hne => absurd rfl hne⟩
  · rw [h]
    dsimp only
    refine ⟨commentDir_length _ _ _ _ _ hle, ?_⟩
    by_cases hjk : j = k
    · -- ModifyDirLite clamps the sum of the score ON DISK and a delta in {-1, 0, 1}
      subst hjk
      rw [commentDir_score _ _ _ _ _ hle, if_pos hm]
      have hstep := score_step _ _ hr (scoreUpdate_cases t.ctype (toInt8 (t.copy.getD offRecommend 0)))
      exact ⟨recommendUpdate_inRange _ _ hr (scoreUpdate_cases _ _), hstep.2.1, hstep.2.2, fun _ => ⟨rfl, hidx⟩⟩
    · rw [commentDir_score_other _ _ _ _ _ hle j hjk, Int.sub_self]
      exact ⟨hr, by decide, by decide, fun hne => absurd rfl hne⟩

/-- the rule of the seeded mutant (saturation tests on the OLD on-disk score instead of old + delta). -/
def recommendUpdateOldClamp (cur : Nat) (delta : Int) : Nat :=
  if delta = 0 then cur
  else
    let r := addInt8 delta (toInt8 cur)
    let r := if toInt8 cur > maxRec then maxRec else if toInt8 cur < -maxRec then -maxRec else r
    int8Byte r

/-- with that rule the theorem above is false, although nothing changes sequentially: for every stored byte
and every type the sequential comment path (delta decided from the SAME byte) stores the same value, but a
push decided from a stale 99 on an on-disk 100 stores 101 (and a boo from a stale -99 on -100 stores -101). -/
theorem old_value_clamp_fails :
    (∀ cur, cur < 256 → ∀ t, t < 4 →
      recommendUpdateOldClamp cur (scoreUpdate t (toInt8 cur)) = recommendUpdate cur (scoreUpdate t (toInt8 cur))) ∧
    InRange 100 ∧ toInt8 (recommendUpdateOldClamp 100 (scoreUpdate COMMENT_TYPE_RECOMMEND (toInt8 99))) = 101 ∧
    InRange 156 ∧ toInt8 (recommendUpdateOldClamp 156 (scoreUpdate COMMENT_TYPE_BOO (toInt8 157))) = -101 ∧
    toInt8 (recommendUpdate 100 (scoreUpdate COMMENT_TYPE_RECOMMEND (toInt8 99))) = 100 := by
  decide +kernel

/-- how many of the steps are successful index updates of entry `j` (successful comments on it). -/
def stepMoves (j : Nat) (s : Sys) : Ev → Nat
  | .index i =>
    match s.pending[i]? with
    | some t => if t.idx = j + 1 ∧ (phaseIndex s.st t).2.isOk = true then 1 else 0
    | none => 0
  | _ => 0

def moves (find : Bytes → Nat → Bytes → Option Nat) (j : Nat) : Sys → List Ev → Nat
  | _, [] => 0
  | s, ev :: rest => stepMoves j s ev + moves find j (stepEv find s ev) rest

theorem step_scores (find : Bytes → Nat → Bytes → Option Nat) (s : Sys) (ev : Ev) (j : Nat)
    (hj : (j + 1) * dirSz ≤ s.st.dir.bytes.length) (hr : InRange (s.st.dir.bytes.getD (j * dirSz + 33) 0)) :
    (stepEv find s ev).st.dir.bytes.length = s.st.dir.bytes.length ∧
    InRange ((stepEv find s ev).st.dir.bytes.getD (j * dirSz + 33) 0) ∧
    -(stepMoves j s ev : Int) ≤ scoreAt (stepEv find s ev).st.dir.bytes j - scoreAt s.st.dir.bytes j ∧
    scoreAt (stepEv find s ev).st.dir.bytes j - scoreAt s.st.dir.bytes j ≤ (stepMoves j s ev : Int) := by
  rcases stepEv_dir find s ev with h | ⟨i, t, rfl, hp, h⟩
  · rw [h, Int.sub_self]
    exact ⟨rfl, hr, Int.neg_nonpos_of_nonneg (Int.natCast_nonneg _), Int.natCast_nonneg _⟩
  · rw [h]
    obtain ⟨h1, h2, h3, h4, h5⟩ := stale_update_saturates s.st t j hj hr
    have hmv : stepMoves j s (.index i) = if t.idx = j + 1 ∧ (phaseIndex s.st t).2.isOk = true then 1 else 0 := by
      simp only [stepMoves, hp]
    rw [hmv]
    by_cases hc : t.idx = j + 1 ∧ (phaseIndex s.st t).2.isOk = true
    · rw [if_pos hc]
      exact ⟨h1, h2, h3, h4⟩
    · -- no successful update of entry `j`: its score has not moved
      have : scoreAt (phaseIndex s.st t).1.dir.bytes j = scoreAt s.st.dir.bytes j :=
        Classical.byContradiction fun hne => hc ⟨(h5 hne).2, (h5 hne).1⟩
      rw [if_neg hc, this, Int.sub_self]
      exact ⟨h1, h2, by decide, by decide⟩

/-- for EVERY interleaving of the phases of any number of commenters — any
event list, from any system state, with any tickets already pending (so with arbitrarily stale copies) — the
index keeps its length, every entry whose score is in [-100,100] keeps a score in [-100,100], and its score has
moved by at most the number of successful index updates (= successful comments) on that entry. -/
theorem interleaved_scores_bounded (find : Bytes → Nat → Bytes → Option Nat) (evs : List Ev) (s : Sys) (j : Nat)
    (hj : (j + 1) * dirSz ≤ s.st.dir.bytes.length) (hr : InRange (s.st.dir.bytes.getD (j * dirSz + 33) 0)) :
    (runEv find s evs).st.dir.bytes.length = s.st.dir.bytes.length ∧
    InRange ((runEv find s evs).st.dir.bytes.getD (j * dirSz + 33) 0) ∧
    -(moves find j s evs : Int) ≤ scoreAt (runEv find s evs).st.dir.bytes j - scoreAt s.st.dir.bytes j ∧
    scoreAt (runEv find s evs).st.dir.bytes j - scoreAt s.st.dir.bytes j ≤ (moves find j s evs : Int) := by
  induction evs generalizing s with
  | nil =>
    rw [show runEv find s [] = s from rfl, Int.sub_self]
    exact ⟨rfl, hr, Int.le_refl 0, Int.le_refl 0⟩
  | cons ev rest ih =>
    obtain ⟨a1, a2, a3, a4⟩ := step_scores find s ev j hj hr
    obtain ⟨b1, b2, b3, b4⟩ := ih (stepEv find s ev) (by rw [a1]; exact hj) a2
    exact ⟨by rw [← a1, ← b1]; rfl, b2, moves_add a3 a4 b3 b4⟩

/-- the sequential comment is the special case "phase A, write, index" with nothing in between. -/
theorem sequential_is_interleaving (find : Bytes → Nat → Bytes → Option Nat) (cfg : Cfg) (st : St) (q : Req) :
    recommend find cfg st q =
      match phaseA find cfg st q with
      | .error e => (st, e)
      | .ok t => phaseB st t :=
  recommend_eq_phases find cfg st q

/-- non-vacuity: two pushes on an entry at 99 whose lookups both happen before either index update: both
succeed, the score is 100 (not 101). -/
example :
    let s0 : Sys := ⟨exSt 77 0 99, []⟩
    let evs := [Ev.begin ⟨0, false, true⟩ (exReq 77 1), .begin ⟨0, false, true⟩ (exReq 77 1), .write 0, .index 0, .write 0, .index 0]
    (runEv findLinear s0 evs).st.dir.bytes.getD 33 0 = 100 ∧ moves findLinear 0 s0 evs = 2 ∧
    (runEv findLinear s0 evs).pending = [] := by
  decide +kernel

/-! #### never rewrite, under interleaving -/

/-- one step of any commenter or of another lock holder leaves every article file a prefix of what it becomes. -/
theorem step_files_prefix (find : Bytes → Nat → Bytes → Option Nat) (s : Sys) (ev : Ev) (n old : Bytes)
    (h : fileGet s.st.files n = some old) :
    ∃ suf, fileGet (stepEv find s ev).st.files n = some (old ++ suf) := by
  rcases stepEv_st find s ev with h' | ⟨_, t, _, _, h'⟩ | ⟨m, oldm, x, hm, h'⟩
  · exact ⟨[], by rw [h', h, List.append_nil]⟩
  · exact ⟨[], by rw [h', phaseIndex_files, h, List.append_nil]⟩
  · rw [h']
    rcases fileGet_fileSet_append _ _ _ x _ _ hm h with h1 | ⟨_, h1⟩
    · exact ⟨[], by rw [h1, List.append_nil]⟩
    · exact ⟨x, h1⟩

/-- for EVERY interleaving of commenters' phases and of other lock holders'
appends, every article file that existed is still there and starts with all the bytes it had: nothing that
was ever in an article is rewritten (every write is `content ++ line` evaluated at the time of the write). -/
theorem interleaved_files_prefix (find : Bytes → Nat → Bytes → Option Nat) (evs : List Ev) (s : Sys) (n old : Bytes)
    (h : fileGet s.st.files n = some old) :
    ∃ suf, fileGet (runEv find s evs).st.files n = some (old ++ suf) := by
  induction evs generalizing s old with
  | nil => exact ⟨[], by rw [List.append_nil]; exact h⟩
  | cons ev rest ih =>
    obtain ⟨x, hx⟩ := step_files_prefix find s ev n old h
    obtain ⟨y, hy⟩ := ih (stepEv find s ev) (old ++ x) hx
    exact ⟨x ++ y, by rw [← List.append_assoc]; exact hy⟩

/-- the append itself, at the level of its steps.  Any number of appenders of this
process (open; non-blocking lock that only succeeds on a free lock; write as holder, or without lock in the
NoSmartMerge branch; unlock) and another process taking the lock and appending, in ANY order: with the
O_APPEND rule every earlier content is a prefix of every later one. -/
theorem appends_preserve_bytes (evs : List AEv) (s : AState) :
    ∃ suf, (runA appendRule s evs).content = s.content ++ suf :=
  runA_content appendRule (fun _ a => ⟨a.line, rfl⟩) evs s

/-- the rule of seeded change C10-r3-2: when the position of the write is the end
of the file at OPEN time — a descriptor without O_APPEND that seeks to the end before it has the lock — an
appender that opens while another process holds the lock and appends writes over that process's line; with
the real rule both lines are there. -/
theorem stale_offset_overwrites :
    let s0 : AState := ⟨[104, 10], .free, []⟩
    let evs := [AEv.extLock, .open [99, 99, 10], .lock 0, .extAppend [120, 121, 10], .extUnlock, .lock 0, .write 0, .unlock 0]
    (runA appendRule s0 evs).content = [104, 10, 120, 121, 10, 99, 99, 10] ∧
    (runA staleOffsetRule s0 evs).content = [104, 10, 99, 99, 10] ∧
    ¬ ([104, 10, 120, 121, 10] <+: (runA staleOffsetRule s0 evs).content) := by
  decide

/-! #### a write that fails after the open (EFBIG / ENOSPC / EDQUOT), both append branches -/

theorem phaseA_line {find : Bytes → Nat → Bytes → Option Nat} {cfg : Cfg} {st : St} {q : Req} {t : Ticket}
    (h : phaseA find cfg st q = .ok t) : t.line = formatComment cfg q := by
  rcases phaseA_cases find cfg st q with ⟨e, _, hA⟩ | ⟨k, _, hA⟩
  · rw [hA] at h; cases h
  · rw [hA] at h
    cases h
    rfl

/-- when the whole line fits there is no fault: the request is the ordinary one. -/
theorem no_fault_is_recommend (find : Bytes → Nat → Bytes → Option Nat) (cfg : Cfg) (st : St) (q : Req) (room : Nat)
    (h : (formatComment cfg q).length ≤ room) : recommendFault find cfg st q room = recommend find cfg st q := by
  rw [recommend_eq_phases]
  unfold recommendFault
  cases hA : phaseA find cfg st q with
  | error e => rfl
  | ok t =>
    dsimp only
    rw [if_neg (by rw [phaseA_line hA]; omega)]

/-- when the line does not fit (only `room` bytes do), the comment is not
accepted, the index is exactly as it was, every article file still starts with ALL the bytes it had — the
addressed one is its old content followed by the first `room` bytes of the line (what the kernel wrote before
the fault), every other file is untouched.  No byte written earlier is removed or changed. -/
theorem write_fault_keeps_bytes (find : Bytes → Nat → Bytes → Option Nat) (cfg : Cfg) (st : St) (q : Req) (room : Nat)
    (h : room < (formatComment cfg q).length) :
    (recommendFault find cfg st q room).1.dir = st.dir ∧
    (∀ line idx, (recommendFault find cfg st q room).2 ≠ .ok line idx) ∧
    (∀ n old, fileGet st.files n = some old →
      ∃ suf, fileGet (recommendFault find cfg st q room).1.files n = some (old ++ suf) ∧
        (suf = [] ∨ suf = (formatComment cfg q).take room)) := by
  unfold recommendFault
  rcases phaseA_cases find cfg st q with ⟨e, he, hA⟩ | ⟨k, _, hA⟩
  · rw [hA]
    exact ⟨rfl, Res.ne_ok he, fun n old ho => ⟨[], by rw [ho, List.append_nil], .inl rfl⟩⟩
  · rw [hA]
    dsimp only
    rw [if_pos h]
    cases hf : fileGet st.files (cstr (field (record st.dir.bytes dirSz k) offFilename lenFilename)) with
    | none => exact ⟨rfl, Res.ne_ok rfl, fun n old ho => ⟨[], by rw [ho, List.append_nil], .inl rfl⟩⟩
    | some oldm =>
      unfold phaseWriteFault
      dsimp only
      rw [hf]
      refine ⟨rfl, Res.ne_ok rfl, fun n old ho => ?_⟩
      rcases fileGet_fileSet_append _ _ _ ((formatComment cfg q).take room) _ _ hf ho with h1 | ⟨_, h1⟩
      · exact ⟨[], by rw [h1, List.append_nil], .inl rfl⟩
      · exact ⟨_, h1, .inr rfl⟩

/-- the rule of seeded change C10-r4-2: "taking the torn comment back" by
truncating to size − len(comment) removes len(comment) − n bytes of the OLD article when only n bytes had
arrived; the real rule (leave what the kernel wrote) keeps every old byte. -/
theorem truncate_back_destroys :
    let old : Bytes := [98, 111, 100, 121, 10, 99, 111, 109, 109, 101, 110, 116, 10]
    let line : Bytes := [49, 50, 51, 52, 53, 54, 55, 10]
    truncateBackRule old line 3 = [98, 111, 100, 121, 10, 99, 111, 109] ∧
    ¬ (old <+: truncateBackRule old line 3) ∧
    old <+: old ++ line.take 3 := by
  decide

example : (recommendFault findLinear ⟨0, false, false⟩ (exSt 77 0 5) (exReq 77 1) 4).2 = .writeErr ∧
    fileGet (recommendFault findLinear ⟨0, false, false⟩ (exSt 77 0 5) (exReq 77 1) 4).1.files ((exName 77).take 18) =
      some ([104, 10] ++ (formatComment ⟨0, false, false⟩ (exReq 77 1)).take 4) := by
  decide +kernel

/-! #### one request, at most one line — whatever happened to the index in between -/

/-- phase B on ANY state — in particular on an index that another tool rewrote
after the commenter's lookup (entries moved, index shorter than the held position) — leaves every article as
it was or, for the one article named in the commenter's copy, extended by exactly its line.  A request is one
phase A (which writes nothing) and one phase B: it appends at most one line, whatever it then reports. -/
theorem request_at_most_one_line (st : St) (t : Ticket) (n old : Bytes) (h : fileGet st.files n = some old) :
    fileGet (phaseB st t).1.files n = some old ∨
    (n = cstr (field t.copy offFilename lenFilename) ∧ fileGet (phaseB st t).1.files n = some (old ++ t.line)) := by
  unfold phaseB phaseWrite
  dsimp only
  cases hf : fileGet st.files (cstr (field t.copy offFilename lenFilename)) with
  | none => left; exact h
  | some oldm =>
    dsimp only
    rw [phaseIndex_files]
    exact fileGet_fileSet_append _ _ _ t.line _ _ hf h

/-- what the code does when the held position is stale (ModifyDirLite answers ErrInvalidIdx): the error is
returned AFTER the append, the line stays in the article, the index is not touched. -/
theorem stale_position_line_stays (st : St) (t : Ticket) (old : Bytes)
    (hf : fileGet st.files (cstr (field t.copy offFilename lenFilename)) = some old)
    (he : (phaseB st t).2 = .idxErr) :
    (phaseB st t).1.dir = st.dir ∧
    fileGet (phaseB st t).1.files (cstr (field t.copy offFilename lenFilename)) = some (old ++ t.line) := by
  unfold phaseB phaseWrite at he ⊢
  dsimp only at he ⊢
  rw [hf] at he ⊢
  dsimp only at he ⊢
  refine ⟨?_, by rw [phaseIndex_files]; exact fileGet_fileSet_same _ _ _ _ hf⟩
  rcases phaseIndex_cases { st with files := fileSet st.files (cstr (field t.copy offFilename lenFilename)) (old ++ t.line) } t
    with h | ⟨_, _, _, _, h⟩
  · rw [h]
  · rw [h] at he; cases he

/-- a second entry (another time stamp) in front of the example entry. -/
def exRecB : Bytes := (exRec 77 0 3).set 11 49
def exSt2 : St := ⟨⟨true, exRecB ++ exRec 77 0 5⟩, [((exName 77).take 18, [104, 10])]⟩

/-- the rule of seeded change C10-r5-1: the commenter looked its
entry up at position 2, the first entry expired, the index update is refused (stale position) with the line
already in the article; running the request AGAIN, as a caller that treats that error as "nothing happened
yet" does, is accepted and puts the same line into the article a second time. -/
theorem retry_after_stale_position_doubles :
    let cfg : Cfg := ⟨0, false, true⟩
    let q := exReq 77 1
    ∃ t, phaseA findLinear cfg exSt2 q = .ok t ∧ t.idx = 2 ∧
      let rewritten : St := { exSt2 with dir := ⟨true, exRec 77 0 5⟩ }
      (phaseB rewritten t).2 = .idxErr ∧
      fileGet (phaseB rewritten t).1.files ((exName 77).take 18) = some ([104, 10] ++ formatComment cfg q) ∧
      (recommend findLinear cfg (phaseB rewritten t).1 q).2 = .ok (formatComment cfg q) 1 ∧
      fileGet (recommend findLinear cfg (phaseB rewritten t).1 q).1.files ((exName 77).take 18) =
        some ([104, 10] ++ formatComment cfg q ++ formatComment cfg q) := by
  refine ⟨{ idx := 2, copy := exRec 77 0 5, line := formatComment ⟨0, false, true⟩ (exReq 77 1), ctype := 1, mtime := 77 }, ?_⟩
  decide +kernel

/-! #### "changes only that article's index entry", under interleaving -/

theorem step_entry_frame (find : Bytes → Nat → Bytes → Option Nat) (s : Sys) (ev : Ev) (q : Nat)
    (hq : ¬(28 ≤ q % 128 ∧ q % 128 < 32) ∧ q % 128 ≠ 33) :
    (stepEv find s ev).st.dir.bytes[q]? = s.st.dir.bytes[q]? := by
  rcases stepEv_dir find s ev with h | ⟨i, t, _, _, h⟩
  · rw [h]
  · rw [h]
    exact phaseIndex_frame s.st t q hq

/-- for EVERY interleaving of any number of commenters (on the same or on
different articles, with whatever copies) and other lock holders, every byte of the index outside the
`Modified` field and the `Recommend` byte of an entry is what it was: every entry keeps its name, owner,
date, title, money and mode - no entry ever receives another entry's image.  Together with
`interleaved_scores_bounded` (a score moves only by successful updates of its OWN entry): a comment changes
only its article's index entry. -/
theorem interleaved_entry_frame (find : Bytes → Nat → Bytes → Option Nat) (evs : List Ev) (s : Sys) (q : Nat)
    (hq : ¬(28 ≤ q % 128 ∧ q % 128 < 32) ∧ q % 128 ≠ 33) :
    (runEv find s evs).st.dir.bytes[q]? = s.st.dir.bytes[q]? := by
  induction evs generalizing s with
  | nil => rfl
  | cons ev rest ih =>
    show (runEv find (stepEv find s ev) rest).st.dir.bytes[q]? = _
    rw [ih (stepEv find s ev), step_entry_frame find s ev q hq]

/-! #### the API entry point -/

/-- through api.CreateComment type 0 and every type above COMMENT_TYPE_BASIC
(the internal forward / reply / edit / deleted types and every larger value) are never accepted and change
nothing; an accepted request is a push, a boo or an arrow and carries that type's mark.  (Before c4bea08 type 0
passed the handler's test: `typeBytes 0 = []`, a line without mark.) -/
theorem api_accepts_only_basic_types (find : Bytes → Nat → Bytes → Option Nat) (cfg : Cfg) (st : St) (q : Req) :
    (q.ctype = 0 ∨ COMMENT_TYPE_BASIC < q.ctype →
      apiRecommend find cfg st q = (st, .params)) ∧
    (∀ line idx st', apiRecommend find cfg st q = (st', .ok line idx) →
      (q.ctype = COMMENT_TYPE_RECOMMEND ∨ q.ctype = COMMENT_TYPE_BOO ∨ q.ctype = COMMENT_TYPE_COMMENT) ∧
      typeBytes q.ctype ≠ []) ∧
    typeBytes 0 = [] ∧ COMMENT_TYPE_BASIC = 3 := by
  refine ⟨fun h => by unfold apiRecommend; rw [if_pos h], ?_, by decide, by decide⟩
  intro line idx st' h
  unfold apiRecommend at h
  by_cases hc : q.ctype = 0 ∨ q.ctype > COMMENT_TYPE_BASIC
  · rw [if_pos hc] at h; cases h
  · have hb : COMMENT_TYPE_BASIC = 3 := by decide
    have : q.ctype = 1 ∨ q.ctype = 2 ∨ q.ctype = 3 := by omega
    rcases this with h | h | h <;> rw [h] <;> decide

/-! #### site configuration: the switches of the comment path read their own keys

`ptttype/config.go config()` is regenerated as data (`Gen/PttConfig.lean`). -/

theorem applyConfig_filter (viper : List (String × Bool)) (lines : List ConfigLine) (c : Cfg) :
    applyConfig lines viper c = applyConfig (lines.filter relevantLine) viper c := by
  unfold applyConfig
  induction lines generalizing c with
  | nil => rfl
  | cons l rest ih =>
    by_cases h : relevantLine l = true
    · simp [List.filter, h, ih]
    · have hc : applyLine viper c l = c := by simp [applyLine, h]
      simp [List.filter, h, hc, ih]

/-- source fact (regenerated): the only lines of `config()` that assign OLDRECOMMEND or EDITPOST_SMARTMERGE are
`X = setBoolConfig("X", X)`, once each. -/
theorem comment_switch_lines :
    Gen.PttConfig.configLines.filter relevantLine
      = [("EDITPOST_SMARTMERGE", "setBoolConfig", "EDITPOST_SMARTMERGE", "EDITPOST_SMARTMERGE"),
         ("OLDRECOMMEND", "setBoolConfig", "OLDRECOMMEND", "OLDRECOMMEND")] := by decide +kernel

/-- for every configuration of the deployment and every earlier state of the switches: after `InitConfig` the
comment layout follows the value set under OLDRECOMMEND and the append path the value under EDITPOST_SMARTMERGE
(unchanged when unset) — no other key has any effect on them. -/
theorem config_wiring (viper : List (String × Bool)) (c : Cfg) :
    applyConfig Gen.PttConfig.configLines viper c
      = { c with oldRecommend := (lookupKey viper "OLDRECOMMEND").getD c.oldRecommend,
                 smartMerge := (lookupKey viper "EDITPOST_SMARTMERGE").getD c.smartMerge } := by
  rw [applyConfig_filter, comment_switch_lines]
  simp only [applyConfig, List.foldl, applyLine, relevantLine]
  cases h1 : lookupKey viper "OLDRECOMMEND" <;> cases h2 : lookupKey viper "EDITPOST_SMARTMERGE" <;> simp

/-- the broken wiring, as a witness: were OLDRECOMMEND read from its neighbour's key, a deployment that only lets
guests comment would silently switch every comment to the old layout. -/
theorem miswired_switch_follows_other_key :
    (applyConfig [("OLDRECOMMEND", "setBoolConfig", "GUESTRECOMMEND", "OLDRECOMMEND")] [("GUESTRECOMMEND", true)]
      { attr := 0, oldRecommend := false, smartMerge := false }).oldRecommend = true := by decide

end PttVerif.C10.Props
