import PttVerif.Model.C18Misc
import PttVerif.Proofs.C18
/-
C18 (group 3) — helper lemmas: ReadLine, hashes, DBCS status/trim, Trim, TrimDBCS; StripNoneBig5 (the in-place loop
is a pure filter; the filter's properties); StrcaseStartsWith and SubjectEx (what a match says about the title's
first bytes; totality, termination, suffix; every cut is at a character boundary).
-/
namespace PttVerif.C18
open PttVerif

/-! ### ReadLine -/

/-- one carriage return removed from the end. -/
def stripCR (l : List Nat) : List Nat :=
  match l.reverse with
  | 13 :: r => r.reverse
  | _ => l

theorem stripCR_nil : stripCR [] = [] := rfl

theorem stripCR_snoc (L : List Nat) (b : Nat) : stripCR (L ++ [b]) = if b = 13 then L else L ++ [b] := by
  unfold stripCR
  simp only [List.reverse_append, List.reverse_cons, List.reverse_nil, List.nil_append, List.singleton_append]
  by_cases hb : b = 13
  · subst hb; simp
  · simp only [hb, if_false]
    split
    · next r heq => simp at heq; exact absurd heq.1 hb
    · rfl

/-- `ls` joined, each line followed by a line feed. -/
def joinLF (ls : List (List Nat)) : List Nat := ls.flatMap (· ++ [10])

theorem readBytesLF_append (l r : List Nat) (hl : 10 ∉ l) :
    readBytesLF (l ++ r) = (l ++ (readBytesLF r).1, (readBytesLF r).2) := by
  induction l with
  | nil => rfl
  | cons c l ih =>
    have hc : c ≠ 10 := fun h => hl (by simp [h])
    rw [List.cons_append, readBytesLF, if_neg hc, ih fun h => hl (List.mem_cons_of_mem _ h)]
    rfl

/-- `if l[len(l)-1] == x { l = l[:len(l)-1] }` on a non-empty `l`. -/
theorem chopLast_snoc (L : List Nat) (b x : Nat) :
    (idx (L ++ [b]) ((L ++ [b]).length - 1) >>= fun last =>
      if last = x then slice (L ++ [b]) 0 ((L ++ [b]).length - 1) else pure (L ++ [b])) =
      .ok (if b = x then L else L ++ [b]) := by
  rw [idx_snoc, ok_bind]
  by_cases hb : b = x
  · rw [if_pos hb, if_pos hb]
    exact slice_snoc L b
  · rw [if_neg hb, if_neg hb]
    rfl

theorem chopCR_eq (line : List Nat) : chopCR line = .ok (stripCR line) := by
  rcases snoc_cases line with rfl | ⟨L, b, rfl⟩
  · rfl
  · rw [chopCR, if_pos (by simp), stripCR_snoc]
    exact chopLast_snoc L b 13

theorem chopLF_snoc (L : List Nat) (b : Nat) : chopLF (L ++ [b]) = .ok (if b = 10 then L else L ++ [b]) :=
  chopLast_snoc L b 10

theorem readLine_line (l rest : List Nat) (hl : 10 ∉ l) :
    readLine (l ++ 10 :: rest) = .ok (some (stripCR l), rest) := by
  have e : readBytesLF (l ++ 10 :: rest) = (l ++ [10], rest, false) := readBytesLF_append l _ hl
  unfold readLine
  rw [e]
  have hlen : ¬ (l ++ [10]).length = 0 := by simp
  simp only [hlen, if_false, chopLF_snoc, bind, Except.bind, if_true, chopCR_eq]
  rfl

theorem readLine_tail (t : List Nat) (ht : 10 ∉ t) (hne : t ≠ []) :
    readLine t = .ok (some (stripCR t), []) := by
  have e : readBytesLF t = (t, [], true) := by simpa [readBytesLF] using readBytesLF_append t [] ht
  unfold readLine
  rw [e]
  have hlen : ¬ t.length = 0 := by simpa using hne
  obtain ⟨L, b, rfl⟩ := (snoc_cases t).resolve_left hne
  have hb : b ≠ 10 := fun h => ht (by simp [h])
  simp only [hlen, if_false, chopLF_snoc, bind, Except.bind, hb, chopCR_eq]
  rfl

theorem readLine_nil : readLine [] = .ok (none, []) := rfl

theorem joinLF_length (ls : List (List Nat)) : ls.length ≤ (joinLF ls).length := by
  induction ls with
  | nil => simp [joinLF]
  | cons l ls ih => simp [joinLF] at ih ⊢; omega

theorem readAll_spec (ls : List (List Nat)) (tail : List Nat) (fuel : Nat)
    (hls : ∀ l ∈ ls, 10 ∉ l) (ht : 10 ∉ tail) (hf : fuel ≥ ls.length + 1 + (if tail = [] then 0 else 1)) :
    readAll fuel (joinLF ls ++ tail) =
      .ok (ls.map stripCR ++ (if tail = [] then [] else [stripCR tail])) := by
  induction ls generalizing fuel with
  | nil =>
    show readAll fuel tail = .ok (if tail = [] then [] else [stripCR tail])
    cases fuel with
    | zero => omega
    | succ fuel =>
      by_cases htl : tail = []
      · subst htl; rfl
      · cases fuel with
        | zero => simp [htl] at hf
        | succ fuel =>
          rw [readAll, readLine_tail tail ht htl, ok_bind, if_neg htl]
          rfl
  | cons l ls ih =>
    cases fuel with
    | zero => omega
    | succ fuel =>
      have hl : 10 ∉ l := hls l (by simp)
      have e : joinLF (l :: ls) ++ tail = l ++ 10 :: (joinLF ls ++ tail) := by simp [joinLF]
      rw [e, readAll, readLine_line l _ hl, ok_bind]
      dsimp only
      rw [ih fuel (fun x hx => hls x (by simp [hx])) (by simp only [List.length_cons] at hf; omega)]
      rfl

theorem lines_complete (s : List Nat) :
    ∃ ls tail, s = joinLF ls ++ tail ∧ (∀ l ∈ ls, 10 ∉ l) ∧ 10 ∉ tail := by
  induction s with
  | nil => exact ⟨[], [], rfl, by simp, by simp⟩
  | cons c r ih =>
    obtain ⟨ls, tail, rfl, h2, h3⟩ := ih
    by_cases hc : c = 10
    · refine ⟨[] :: ls, tail, ?_, List.forall_mem_cons.mpr ⟨List.not_mem_nil, h2⟩, h3⟩
      rw [hc]
      rfl
    · -- `c` goes in front of the first line, or of the rest when there is no line
      have hcons : ∀ l : List Nat, 10 ∉ l → 10 ∉ c :: l :=
        fun l hl h => (List.mem_cons.mp h).elim (fun e => hc e.symm) hl
      cases ls with
      | nil => exact ⟨[], c :: tail, rfl, h2, hcons tail h3⟩
      | cons l ls =>
        have hl : 10 ∉ c :: l := hcons l (h2 l List.mem_cons_self)
        have hls : ∀ x ∈ ls, 10 ∉ x := fun x hx => h2 x (List.mem_cons_of_mem _ hx)
        exact ⟨(c :: l) :: ls, tail, rfl, List.forall_mem_cons.mpr ⟨hl, hls⟩, h3⟩

/-! ### hashes -/

theorem fnv_prime_eq : FNV_32_PRIME = 16777619 := by decide +kernel
theorem fnv_init_eq : FNV1_32_INIT = 33554467 := by decide +kernel

theorem fnv1a32StrCase_eq (s : List Nat) (h : Nat) :
    fnv1a32StrCase s h = fnv1a ((cstr s).map ccharToupper) h := by
  induction s generalizing h with
  | nil => rfl
  | cons c r ih =>
    rw [cstr_cons]
    by_cases hc : c = 0
    · simp [fnv1a32StrCase, hc, fnv1a]
    · simp only [fnv1a32StrCase, hc, if_false, List.map_cons, fnv1a, List.foldl_cons]
      rw [ih, fnv_prime_eq]; rfl

theorem map_upper_of_lower_eq (a b : List Nat) (h : a.map ccharTolower = b.map ccharTolower) :
    a.map ccharToupper = b.map ccharToupper := by
  have e : ∀ l : List Nat, l.map ccharToupper = (l.map ccharTolower).map ccharToupper := by
    intro l; simp [List.map_map, Function.comp_def, upper_lower]
  rw [e a, e b, h]

/-! ### DBCS status

`dbcs_consts` and `ascii_ne_leading` are where changed status constants of cmsys (through `Gen/C18Str.lean`) show up. -/

theorem dbcs_consts : DBCS_ASCII = 0 ∧ DBCS_LEADING = 1 ∧ DBCS_TRAILING = 2 := by decide +kernel

theorem ascii_ne_leading : DBCS_ASCII ≠ DBCS_LEADING := by decide +kernel

/-- the scan from an arbitrary state, which induction over a string needs; the specification `dbcsFold` is the scan
from `DBCS_ASCII` by `rfl`, so a `dbcsFold` goal is also closed directly by a `foldFrom … DBCS_ASCII` fact. -/
def foldFrom (st : Nat) (pre : List Nat) : Nat := pre.foldl (fun st c => dbcsNextStatus c st) st

theorem dbcsFold_eq_foldFrom (s : List Nat) : dbcsFold s = foldFrom DBCS_ASCII s := rfl

theorem foldFrom_append (st : Nat) (a b : List Nat) : foldFrom st (a ++ b) = foldFrom (foldFrom st a) b :=
  List.foldl_append

theorem dbcsNext_lead (c st : Nat) (h : st ≠ DBCS_LEADING) (hc : 128 ≤ c) : dbcsNextStatus c st = DBCS_LEADING := by
  unfold dbcsNextStatus; rw [if_neg h, if_pos hc]

theorem dbcsNext_ascii (c st : Nat) (h : st ≠ DBCS_LEADING) (hc : c < 128) : dbcsNextStatus c st = DBCS_ASCII := by
  unfold dbcsNextStatus; rw [if_neg h, if_neg (by omega)]

theorem dbcsNext_trail (c : Nat) : dbcsNextStatus c DBCS_LEADING = DBCS_TRAILING := by
  unfold dbcsNextStatus; rw [if_pos rfl]

theorem dbcsNext_ascii_ne (c st : Nat) (h : st ≠ DBCS_LEADING) (hc : c < 128) :
    dbcsNextStatus c st ≠ DBCS_LEADING := by
  rw [dbcsNext_ascii c st h hc]
  exact ascii_ne_leading

theorem dbcsNext_after_lead (c st : Nat) (h : st = DBCS_LEADING) : dbcsNextStatus c st ≠ DBCS_LEADING := by
  rw [h, dbcsNext_trail]
  decide +kernel

theorem dbcsLoop_spec (k : Nat) (str : List Nat) (st : Nat) (h : str ≠ [] ∨ k = 0) :
    dbcsLoop k str st = .ok (foldFrom st (str.take k)) := by
  induction k generalizing str st with
  | zero => rfl
  | succ k ih =>
    cases str with
    | nil => simp at h
    | cons c r =>
      have hi : idx (c :: r) 0 = .ok c := rfl
      rw [dbcsLoop, hi, ok_bind, slice_drop (c :: r) 1 (Nat.le_add_left 1 _), ok_bind,
        List.take_succ_cons]
      show (if r.length = 0 then pure (dbcsNextStatus c st) else dbcsLoop k r (dbcsNextStatus c st)) =
        .ok (foldFrom (dbcsNextStatus c st) (r.take k))
      by_cases hr : r = []
      · rw [hr, if_pos List.length_nil, List.take_nil]
        rfl
      · rw [if_neg (by simpa using hr)]
        exact ih r _ (.inl hr)

theorem dbcsStatus_spec' (str : List Nat) (p : Nat) (h : str ≠ []) :
    dbcsStatus str (Int.ofNat p) = .ok (dbcsFold (str.take (p + 1))) :=
  dbcsLoop_spec (p + 1) str DBCS_ASCII (.inl h)

theorem foldFrom_units (us : List DUnit) (hok : ∀ u ∈ us, u.ok) (st : Nat) (hst : st ≠ DBCS_LEADING) :
    foldFrom st (unitsBytes us) ≠ DBCS_LEADING := by
  induction us generalizing st with
  | nil => exact hst
  | cons u us ih =>
    have hu : u.ok := hok u (by simp)
    have hrest : ∀ v ∈ us, v.ok := fun v hv => hok v (by simp [hv])
    cases u with
    | a c => exact ih hrest (dbcsNextStatus c st) (dbcsNext_ascii_ne c st hst hu)
    | d l t =>
      exact ih hrest (dbcsNextStatus t (dbcsNextStatus l st)) (dbcsNext_after_lead t _ (dbcsNext_lead l st hst hu))

theorem dbcsFold_whole (us : List DUnit) (hok : ∀ u ∈ us, u.ok) : dbcsFold (unitsBytes us) ≠ DBCS_LEADING :=
  foldFrom_units us hok DBCS_ASCII ascii_ne_leading

theorem dbcsFold_dangling (us : List DUnit) (hok : ∀ u ∈ us, u.ok) (l : Nat) (hl : 128 ≤ l) :
    dbcsFold (unitsBytes us ++ [l]) = DBCS_LEADING := by
  rw [dbcsFold_eq_foldFrom, foldFrom_append]
  exact dbcsNext_lead l _ (dbcsFold_whole us hok) hl

theorem unitsBytes_snoc (us : List DUnit) (u : DUnit) : unitsBytes (us ++ [u]) = unitsBytes us ++ u.bytes := by
  simp [unitsBytes]

theorem units_complete (s : List Nat) :
    ∃ us, (∀ u ∈ us, u.ok) ∧ (s = unitsBytes us ∨ ∃ l, 128 ≤ l ∧ s = unitsBytes us ++ [l]) := by
  -- read from the left, one byte at a time: what has been read is whole characters, or whole characters and a
  -- lead byte, which the next byte completes
  have snoc : ∀ (us : List DUnit) (u : DUnit), (∀ v ∈ us, v.ok) → u.ok → ∀ v ∈ us ++ [u], v.ok :=
    fun us u hok hu v hv => (List.mem_append.mp hv).elim (hok v) fun e => List.mem_singleton.mp e ▸ hu
  have key : ∀ r : List Nat, ∃ us, (∀ u ∈ us, u.ok) ∧
      (r.reverse = unitsBytes us ∨ ∃ l, 128 ≤ l ∧ r.reverse = unitsBytes us ++ [l]) := by
    intro r
    induction r with
    | nil => exact ⟨[], nofun, .inl rfl⟩
    | cons b r ih =>
      rw [List.reverse_cons]
      obtain ⟨us, hok, h | ⟨l, hl, h⟩⟩ := ih
      · by_cases hb : b < 128
        · exact ⟨us ++ [.a b], snoc us (.a b) hok hb, .inl (by rw [h, unitsBytes_snoc]; rfl)⟩
        · exact ⟨us, hok, .inr ⟨b, Nat.le_of_not_lt hb, by rw [h]⟩⟩
      · exact ⟨us ++ [.d l b], snoc us (.d l b) hok hl, .inl (by rw [h, unitsBytes_snoc, List.append_assoc]; rfl)⟩
  have := key s.reverse
  rwa [List.reverse_reverse] at this

theorem dbcsSafeTrim_eq (s : List Nat) :
    dbcsSafeTrim s = .ok (if dbcsFold s = DBCS_LEADING then s.dropLast else s) := by
  rcases snoc_cases s with rfl | ⟨L, b, rfl⟩
  · rw [show dbcsFold [] = DBCS_ASCII from rfl, if_neg ascii_ne_leading]
    rfl
  · have htake : (L ++ [b]).take ((L ++ [b]).length - 1 + 1) = L ++ [b] := List.take_of_length_le (by omega)
    rw [dbcsSafeTrim, if_neg (by simp), dbcsStatus_spec' _ _ (by simp), ok_bind, htake, List.dropLast_concat]
    by_cases h : dbcsFold (L ++ [b]) = DBCS_LEADING
    · rw [if_pos h, if_pos h]
      exact slice_snoc L b
    · rw [if_neg h, if_neg h]
      rfl

/-! ### Trim -/

theorem trimRightSp_spec (s : List Nat) :
    ∃ k, s = trimRightSp s ++ List.replicate k 32 ∧
      (trimRightSp s = [] ∨ ∃ L x, trimRightSp s = L ++ [x] ∧ x ≠ 32) := by
  -- the blanks at the end are the blanks in front of the reversed string
  obtain ⟨h1, h2, h3⟩ := span_cases (· = 32) s.reverse
  have hrep : s.reverse.takeWhile (· = 32) = List.replicate _ 32 :=
    List.eq_replicate_iff.mpr ⟨rfl, fun b hb => of_decide_eq_true (h2 b hb)⟩
  refine ⟨(s.reverse.takeWhile (· = 32)).length, ?_, ?_⟩
  · have := congrArg List.reverse h1
    rwa [List.reverse_reverse, List.reverse_append, hrep, List.reverse_replicate] at this
  · rcases h3 with h3 | ⟨x, r, h3, hx⟩
    · exact .inl (by rw [trimRightSp, h3]; rfl)
    · exact .inr ⟨r.reverse, x, by rw [trimRightSp, h3, List.reverse_cons], of_decide_eq_false hx⟩

/-! ### TrimDBCS -/

/-- the walk's flag is "the scan is on a lead byte". -/
theorem leadWalk_fold (b : List Nat) (isLead : Bool) (st : Nat) (h : isLead = true ↔ st = DBCS_LEADING) :
    leadWalk b isLead = true ↔ foldFrom st b = DBCS_LEADING := by
  obtain ⟨k0, k1, k2⟩ := dbcs_consts
  induction b generalizing isLead st with
  | nil => exact h
  | cons c r ih =>
    refine ih _ (dbcsNextStatus c st) ?_
    cases isLead with
    | true =>
      rw [h.mp rfl, dbcsNext_trail, k1, k2]
      simp
    | false =>
      have hst : st ≠ DBCS_LEADING := fun e => Bool.false_ne_true (h.mpr e)
      by_cases hc : c ≥ 128
      · simp [hc, dbcsNext_lead c st hst hc]
      · simp [hc, dbcsNext_ascii c st hst (by omega), k0, k1]

theorem leadWalk_iff (b : List Nat) : leadWalk b false = true ↔ dbcsFold b = DBCS_LEADING :=
  leadWalk_fold b false DBCS_ASCII ⟨fun h => absurd h Bool.false_ne_true, fun h => absurd h ascii_ne_leading⟩

theorem trimDBCS_keep (s : List Nat) (h : dbcsFold (cstr s) ≠ DBCS_LEADING) : trimDBCS s = .ok (cstr s, s) := by
  have hw : ¬ leadWalk (cstr s) false = true := fun hw => h ((leadWalk_iff _).mp hw)
  rw [trimDBCS, cstrToBytes_eq', ok_bind, if_neg hw]
  rfl

theorem setAt_last (s L : List Nat) (b : Nat) (hc : cstr s = L ++ [b]) :
    setAt s ((L ++ [b]).length - 1) 0 = .ok (s.set L.length 0) := by
  have hlen : L.length < s.length := by
    have := cstr_length_le s
    rw [hc, List.length_append, List.length_singleton] at this
    exact this
  rw [List.length_append, List.length_singleton, Nat.add_sub_cancel, setAt, if_pos hlen]

theorem trimDBCS_cut (s L : List Nat) (b : Nat) (hc : cstr s = L ++ [b]) (h : dbcsFold (cstr s) = DBCS_LEADING) :
    trimDBCS s = .ok (L, s.set L.length 0) := by
  have hw : leadWalk (L ++ [b]) false = true := by rw [← hc]; exact (leadWalk_iff _).mpr h
  rw [trimDBCS, cstrToBytes_eq', ok_bind, hc, if_pos hw, if_neg (by simp), setAt_last s L b hc, ok_bind, slice_snoc]
  rfl

theorem trimDBCSOld_spec' (s L : List Nat) (b : Nat) (h : cstr s = L ++ [b]) :
    trimDBCSOld s = .ok (if b ≥ 128 then (L, s.set L.length 0) else (L ++ [b], s)) := by
  rw [trimDBCSOld, cstrToBytes_eq', ok_bind, h, idx_snoc, ok_bind]
  by_cases hb : b ≥ 128
  · rw [if_pos hb, if_pos hb, setAt_last s L b h, ok_bind, slice_snoc]
    rfl
  · rw [if_neg hb, if_neg hb]
    rfl

/-! ### StripNoneBig5: the in-place buffer -/

/-- the array while the loop runs: what has been written, then the original bytes from there on. -/
def inPlace (s out : List Nat) : List Nat := out ++ s.drop out.length

theorem inPlace_length (s out : List Nat) (h : out.length ≤ s.length) : (inPlace s out).length = s.length := by
  simp [inPlace]; omega

theorem inPlace_idx (s out : List Nat) (j : Nat) (hj : out.length ≤ j) : idx (inPlace s out) j = idx s j := by
  unfold idx inPlace
  rw [List.getElem?_append_right hj, List.getElem?_drop]
  congr 2; omega

theorem inPlace_set (s out : List Nat) (c : Nat) (h : out.length < s.length) :
    setAt (inPlace s out) out.length c = .ok (inPlace s (out ++ [c])) := by
  unfold setAt
  rw [if_pos (by rw [inPlace_length s out (Nat.le_of_lt h)]; exact h)]
  unfold inPlace
  rw [List.set_append_right _ _ (Nat.le_refl _), Nat.sub_self, List.drop_eq_getElem_cons h, List.set_cons_zero]
  simp

/-! ### StripNoneBig5: unfolding the filter `nb5` -/

theorem nb5_nul (r : List Nat) : nb5 (0 :: r) = [] := by cases r <;> simp [nb5]

theorem nb5_ascii (c : Nat) (r : List Nat) (h0 : c ≠ 0) (h : 32 ≤ c ∧ c < 128) : nb5 (c :: r) = c :: nb5 r := by
  cases r <;> simp [nb5, h0, h]

theorem nb5_ctrl (c : Nat) (r : List Nat) (h0 : c ≠ 0) (h : ¬ (32 ≤ c ∧ c < 128)) (hh : ¬ (c &&& 0x80 ≠ 0)) :
    nb5 (c :: r) = nb5 r := by
  cases r with
  | nil => simp [nb5, h0, h]
  | cons d r => simp only [nb5, h0, if_false, h, hh]

theorem nb5_lead_end (c : Nat) (h0 : c ≠ 0) (h : ¬ (32 ≤ c ∧ c < 128)) : nb5 [c] = nb5 [] := by
  simp [nb5, h0, h]

theorem nb5_pair (c d : Nat) (r : List Nat) (h0 : c ≠ 0) (h : ¬ (32 ≤ c ∧ c < 128)) (hh : c &&& 0x80 ≠ 0)
    (hd : isTrail d = true) : nb5 (c :: d :: r) = c :: d :: nb5 r := by
  simp only [nb5, h0, if_false, h, hh, ne_eq, not_false_eq_true, if_true, hd]

theorem nb5_lead_bad (c d : Nat) (r : List Nat) (h0 : c ≠ 0) (h : ¬ (32 ≤ c ∧ c < 128)) (hh : c &&& 0x80 ≠ 0)
    (hd : ¬ isTrail d = true) : nb5 (c :: d :: r) = nb5 (d :: r) := by
  have hd' : isTrail d = false := by simpa using hd
  simp only [nb5, h0, if_false, h, hh, ne_eq, not_false_eq_true, if_true, hd', Bool.false_eq_true]

/-- the filter's recursion as an induction principle on (input, output). -/
theorem nb5_induct (P : List Nat → List Nat → Prop) (nil : P [] [])
    (nul : ∀ r, P (0 :: r) [])
    (ascii : ∀ c r, c ≠ 0 → 32 ≤ c ∧ c < 128 → P r (nb5 r) → P (c :: r) (c :: nb5 r))
    (pair : ∀ c d r, c ≠ 0 → ¬ (32 ≤ c ∧ c < 128) → c &&& 0x80 ≠ 0 → isTrail d = true → P r (nb5 r) →
      P (c :: d :: r) (c :: d :: nb5 r))
    (skip : ∀ c r, c ≠ 0 → P r (nb5 r) → P (c :: r) (nb5 r)) (s : List Nat) : P s (nb5 s) := by
  fun_induction nb5 s with
  | case1 => exact nil
  | case2 => exact nul []
  | case3 c h0 hasc => exact ascii c [] h0 hasc nil
  | case4 c h0 _ => exact skip c [] h0 nil
  | case5 d r => exact nul (d :: r)
  | case6 c d r h0 hasc ih => exact ascii c (d :: r) h0 hasc ih
  | case7 c d r h0 hasc hh hd ih => exact pair c d r h0 hasc hh hd ih
  | case8 c d r h0 _ _ _ ih => exact skip c (d :: r) h0 ih
  | case9 c d r h0 _ _ ih => exact skip c (d :: r) h0 ih

/-! ### StripNoneBig5: what the filter guarantees -/

theorem isTrail_ne_zero (d : Nat) (h : isTrail d = true) : d ≠ 0 := by
  intro h0; subst h0; simp [isTrail] at h

theorem nb5_sublist (s : List Nat) : (nb5 s).Sublist (cstr s) := by
  refine nb5_induct (fun s o => o.Sublist (cstr s)) ?_ ?_ ?_ ?_ ?_ s
  · exact List.Sublist.refl _
  · intro r
    exact List.nil_sublist _
  · intro c r h0 _ ih
    show (c :: nb5 r).Sublist (cstr (c :: r))
    rw [cstr_cons, if_neg h0]
    exact ih.cons_cons c
  · intro c d r h0 _ _ hd ih
    show (c :: d :: nb5 r).Sublist (cstr (c :: d :: r))
    rw [cstr_cons, if_neg h0, cstr_cons, if_neg (isTrail_ne_zero d hd)]
    exact (ih.cons_cons d).cons_cons c
  · intro c r h0 ih
    show (nb5 r).Sublist (cstr (c :: r))
    rw [cstr_cons, if_neg h0]
    exact ih.cons c

theorem nb5_length_le (s : List Nat) : (nb5 s).length ≤ s.length :=
  Nat.le_trans (nb5_sublist s).length_le (cstr_length_le s)

/-- the model's `c &&& 0x80 ≠ 0` is `128 ≤ c` on bytes (evaluated over the 256 values). -/
theorem and128_ne_zero_iff : ∀ c, c < 256 → (c &&& 128 ≠ 0 ↔ 128 ≤ c) := by decide +kernel

theorem nb5_safe (s : List Nat) (hb : Bytes s) : Big5Safe (nb5 s) := by
  refine nb5_induct (fun s o => Bytes s → Big5Safe o) ?_ ?_ ?_ ?_ ?_ s hb
  · exact fun _ => .nil
  · exact fun _ _ => .nil
  · intro c r _ hasc ih hb
    exact .ascii c _ hasc.1 hasc.2 (ih fun x hx => hb x (by simp [hx]))
  · intro c d r _ _ hh hd ih hb
    have hc : c < 256 := hb c (by simp)
    exact .dbcs c d _ ((and128_ne_zero_iff c hc).mp hh) hc hd (ih fun x hx => hb x (by simp [hx]))
  · intro c r _ ih hb
    exact ih fun x hx => hb x (by simp [hx])

theorem nb5_of_safe (s : List Nat) (h : Big5Safe s) : nb5 s = s := by
  induction h with
  | nil => simp [nb5]
  | ascii c r h1 h2 _ ih => rw [nb5_ascii c r (by omega) ⟨h1, h2⟩, ih]
  | dbcs c d r h1 h2 hd _ ih =>
    rw [nb5_pair c d r (by omega) (by omega) ((and128_ne_zero_iff c h2).mpr h1) hd, ih]

/-! ### StripNoneBig5: one round of the loop, by the branch taken -/

theorem nb5Loop_end (fuel : Nat) (buf : List Nat) (i n : Nat) (hi : ¬ i < buf.length) :
    nb5Loop (fuel + 1) buf i n = .ok (buf, n) := by
  rw [nb5Loop, if_pos hi]
  rfl

theorem nb5Loop_nul (fuel : Nat) (buf : List Nat) (i n : Nat) (hi : i < buf.length) (hc : idx buf i = .ok 0) :
    nb5Loop (fuel + 1) buf i n = .ok (buf, n) := by
  rw [nb5Loop, if_neg (not_not_intro hi), hc, ok_bind, if_pos rfl]
  rfl

theorem nb5Loop_ascii (fuel : Nat) (buf : List Nat) (i n c : Nat) (hi : i < buf.length) (hc : idx buf i = .ok c)
    (h0 : c ≠ 0) (hasc : 32 ≤ c ∧ c < 128) :
    nb5Loop (fuel + 1) buf i n = (setAt buf n c >>= fun b => nb5Loop fuel b (i + 1) (n + 1)) := by
  rw [nb5Loop, if_neg (not_not_intro hi), hc, ok_bind, if_neg h0, if_pos hasc]

theorem nb5Loop_skip (fuel : Nat) (buf : List Nat) (i n c : Nat) (hi : i < buf.length) (hc : idx buf i = .ok c)
    (h0 : c ≠ 0) (hasc : ¬ (32 ≤ c ∧ c < 128))
    (hskip : c &&& 0x80 ≠ 0 → i + 1 < buf.length → ∃ d, idx buf (i + 1) = .ok d ∧ ¬ isTrail d = true) :
    nb5Loop (fuel + 1) buf i n = nb5Loop fuel buf (i + 1) n := by
  rw [nb5Loop, if_neg (not_not_intro hi), hc, ok_bind, if_neg h0, if_neg hasc]
  by_cases hh : c &&& 0x80 ≠ 0
  · rw [if_pos hh]
    by_cases hi1 : i + 1 < buf.length
    · obtain ⟨d, hd, ht⟩ := hskip hh hi1
      rw [if_pos hi1, hd, ok_bind, if_neg ht]
    · rw [if_neg hi1]
  · rw [if_neg hh]

theorem nb5Loop_pair (fuel : Nat) (buf : List Nat) (i n c d : Nat) (hi1 : i + 1 < buf.length)
    (hc : idx buf i = .ok c) (hd : idx buf (i + 1) = .ok d)
    (h0 : c ≠ 0) (hasc : ¬ (32 ≤ c ∧ c < 128)) (hh : c &&& 0x80 ≠ 0) (ht : isTrail d = true) :
    nb5Loop (fuel + 1) buf i n =
      (setAt buf n c >>= fun b1 => idx b1 (i + 1) >>= fun d' => setAt b1 (n + 1) d' >>= fun b2 =>
        nb5Loop fuel b2 (i + 2) (n + 1 + 1)) := by
  rw [nb5Loop, if_neg (not_not_intro (Nat.lt_of_succ_lt hi1)), hc, ok_bind, if_neg h0, if_neg hasc, if_pos hh,
    if_pos hi1, hd, ok_bind, if_pos ht, ok_bind]

/-! ### StripNoneBig5: the loop computes the filter in place -/

/-- the loop entered at `idx = i` with `out` written so far: the array is `inPlace s out`. `hout` (the write position
is not ahead of the read position) is why every read at `i`, `i + 1` still sees an original byte and every write is
inside the array; every round advances `i`, whence the fuel bound `hf`. -/
theorem nb5Loop_spec (s : List Nat) (fuel i : Nat) (out : List Nat)
    (hout : out.length ≤ i) (hi : i ≤ s.length) (hf : s.length < i + fuel) :
    nb5Loop fuel (inPlace s out) i out.length =
      .ok (inPlace s (out ++ nb5 (s.drop i)), (out ++ nb5 (s.drop i)).length) := by
  induction fuel generalizing i out with
  | zero => omega
  | succ fuel ih =>
    have hbl := inPlace_length s out (Nat.le_trans hout hi)
    cases hdrop : s.drop i with
    | nil =>
      have hlen : s.length - i = 0 := by simpa using congrArg List.length hdrop
      rw [nb5Loop_end _ _ _ _ (by omega), nb5, List.append_nil]
    | cons c t =>
      obtain ⟨hc, ht, hlt⟩ := idx_of_drop s i c t hdrop
      have hib : i < (inPlace s out).length := by rw [hbl]; exact hlt
      have hidx : idx (inPlace s out) i = .ok c := by rw [inPlace_idx s out i hout, hc]
      have hout1 : (out ++ [c]).length ≤ i + 1 := by rw [List.length_append]; exact Nat.succ_le_succ hout
      have hf1 : s.length < i + 1 + fuel := by omega
      by_cases h0 : c = 0
      · subst h0
        rw [nb5Loop_nul _ _ _ _ hib hidx, nb5_nul, List.append_nil]
      by_cases hasc : 32 ≤ c ∧ c < 128
      · have hrec := ih (i + 1) (out ++ [c]) hout1 hlt hf1
        rw [List.length_append, List.length_singleton] at hrec
        rw [nb5Loop_ascii _ _ _ _ c hib hidx h0 hasc, inPlace_set s out c (Nat.lt_of_le_of_lt hout hlt), ok_bind,
          hrec, ht, nb5_ascii c t h0 hasc, List.append_assoc]
        rfl
      -- a byte that is dropped: the filter skips it too
      have skip : nb5 (c :: t) = nb5 t →
          (c &&& 0x80 ≠ 0 → i + 1 < (inPlace s out).length →
            ∃ d, idx (inPlace s out) (i + 1) = .ok d ∧ ¬ isTrail d = true) →
          nb5Loop (fuel + 1) (inPlace s out) i out.length =
            .ok (inPlace s (out ++ nb5 (c :: t)), (out ++ nb5 (c :: t)).length) := by
        intro hnb hskip
        rw [nb5Loop_skip _ _ _ _ c hib hidx h0 hasc hskip, ih (i + 1) out (Nat.le_succ_of_le hout) hlt hf1, ht, hnb]
      by_cases hh : c &&& 0x80 ≠ 0
      · cases t with
        | nil =>
          have := List.drop_eq_nil_iff.mp ht
          exact skip (nb5_lead_end c h0 hasc) fun _ hi1 => absurd hi1 (by omega)
        | cons d r =>
          obtain ⟨hd1, hr, hlt1⟩ := idx_of_drop s (i + 1) d r ht
          have hidx1 : idx (inPlace s out) (i + 1) = .ok d := by
            rw [inPlace_idx s out (i + 1) (Nat.le_succ_of_le hout), hd1]
          by_cases hd : isTrail d = true
          · have hidx1' : idx (inPlace s (out ++ [c])) (i + 1) = .ok d := by rw [inPlace_idx s _ (i + 1) hout1, hd1]
            have hrec := ih (i + 2) (out ++ [c] ++ [d]) (by rw [List.length_append]; exact Nat.succ_le_succ hout1) hlt1
              (by omega)
            rw [List.length_append, List.length_append, List.length_singleton, List.length_singleton] at hrec
            rw [nb5Loop_pair _ _ _ _ c d (by rw [hbl]; exact hlt1) hidx hidx1 h0 hasc hh hd,
              inPlace_set s out c (Nat.lt_of_le_of_lt hout hlt), ok_bind, hidx1', ok_bind]
            have hset := inPlace_set s (out ++ [c]) d (Nat.lt_of_le_of_lt hout1 hlt1)
            rw [List.length_append, List.length_singleton] at hset
            rw [hset, ok_bind, hrec, hr, nb5_pair c d r h0 hasc hh hd]
            simp only [List.append_assoc, List.cons_append, List.nil_append]
          · exact skip (nb5_lead_bad c d r h0 hasc hh hd) fun _ _ => ⟨d, hidx1, hd⟩
      · exact skip (nb5_ctrl c t h0 hasc hh) fun h => absurd h hh

theorem stripNoneBig5_eq (s : List Nat) :
    stripNoneBig5 s = .ok (nb5 s,
      nb5 s ++ (if (nb5 s).length < s.length then 0 :: s.drop ((nb5 s).length + 1) else [])) := by
  have h := nb5Loop_spec s (s.length + 1) 0 [] (Nat.le_refl _) (Nat.zero_le _) (by omega)
  have hle := nb5_length_le s
  have hbl := inPlace_length s (nb5 s) hle
  rw [show inPlace s [] = s from rfl, List.nil_append, List.drop_zero, List.length_nil] at h
  rw [stripNoneBig5, h, ok_bind]
  dsimp only
  rw [hbl]
  by_cases hlt : (nb5 s).length < s.length
  · rw [if_pos hlt, if_pos hlt, inPlace_set s (nb5 s) 0 hlt, ok_bind, inPlace, List.append_assoc,
      slice_take _ _ (by simp), ok_bind, List.take_left' rfl, List.length_append, List.length_singleton]
    rfl
  · rw [if_neg hlt, if_neg hlt, inPlace, List.drop_eq_nil_of_le (by omega), pure_eq_ok, ok_bind, List.append_nil,
      slice_take _ _ (Nat.le_refl _), ok_bind, List.take_length]
    rfl

/-! ### StrcaseStartsWith -/

theorem startsWithLoop_spec (done s pre : List Nat) (h : pre.length ≤ s.length) :
    startsWithLoop (done ++ s) pre done.length = .ok (hasPrefix (s.map ccharTolower) (pre.map ccharTolower)) := by
  induction pre generalizing done s with
  | nil => simp [startsWithLoop, hasPrefix, pure, Except.pure]
  | cons e rest ih =>
    match s, h with
    | c :: s', h =>
      have hi : idx (done ++ c :: s') done.length = .ok c := idx_append_len done c s'
      simp only [startsWithLoop, hi, bind, Except.bind, List.map_cons, hasPrefix]
      by_cases hne : ccharTolower c = ccharTolower e
      · have := ih (done ++ [c]) s' (by simp at h; omega)
        simp only [List.append_assoc, List.singleton_append, List.length_append, List.length_cons,
          List.length_nil] at this
        simp only [hne, ne_eq, not_true, if_false, beq_self_eq_true, Bool.true_and]
        exact this
      · have : (ccharTolower c == ccharTolower e) = false := by simpa using hne
        simp [hne, this, pure, Except.pure]

theorem strcaseStartsWith_eq (str pre : List Nat) :
    strcaseStartsWith str pre = .ok (hasPrefix (str.map ccharTolower) (pre.map ccharTolower)) := by
  unfold strcaseStartsWith
  by_cases h : str.length < pre.length
  · rw [if_pos h]
    have : hasPrefix (str.map ccharTolower) (pre.map ccharTolower) = false := by
      cases hp : hasPrefix (str.map ccharTolower) (pre.map ccharTolower) with
      | false => rfl
      | true =>
        have := ((hasPrefix_iff _ _).mp hp).length_le
        simp at this; omega
    rw [this]; rfl
  · rw [if_neg h]
    simpa using startsWithLoop_spec [] str pre (by omega)

/-- the pure reading of the `if / else if` chain. -/
def subjectStepP (p : List Nat) : Option (Nat × Nat) :=
  if hasPrefix (p.map ccharTolower) (STR_REPLY.map ccharTolower) then some (STR_REPLY.length, SUBJECT_REPLY)
  else if hasPrefix (p.map ccharTolower) (STR_FORWARD.map ccharTolower) then some (STR_FORWARD.length, SUBJECT_FORWARD)
  else if hasPrefix (p.map ccharTolower) (STR_LEGACY_FORWARD.map ccharTolower) then
    some (STR_LEGACY_FORWARD.length, SUBJECT_FORWARD)
  else none

theorem subjectStep_eq (p : List Nat) : subjectStep p = .ok (subjectStepP p) := by
  simp only [subjectStep, subjectStepP, strcaseStartsWith_eq, ok_bind, pure_eq_ok, apply_ite Except.ok]

/-! ### SubjectEx: what a match says about the title's first bytes

The four `decide +kernel` facts pin the regenerated prefix strings of cmbbs (`Gen/C18Str.lean`). -/

theorem lower_reply : STR_REPLY.map ccharTolower = [114, 101, 58] := by decide +kernel
theorem lower_forward : STR_FORWARD.map ccharTolower = [102, 119, 58] := by decide +kernel
theorem lower_legacy : STR_LEGACY_FORWARD.map ccharTolower = [91, 0xC2, 0xE0, 0xBF, 0xFD, 93] := by decide +kernel
theorem subject_lens : STR_REPLY.length = 3 ∧ STR_FORWARD.length = 3 ∧ STR_LEGACY_FORWARD.length = 6 := by
  decide +kernel

theorem lower_ascii_src (b t : Nat) (h : ccharTolower b = t) (ht : t < 128) : b < 128 := by
  unfold ccharTolower at h; split at h <;> omega

/-- folding only produces `a`–`z`: any other folded value is the byte itself. -/
theorem lower_nonletter_src (b t : Nat) (h : ccharTolower b = t) (ht : t < 97 ∨ 122 < t) : b = t := by
  unfold ccharTolower at h; split at h <;> omega

theorem casePrefix_cons (p : List Nat) (a : Nat) (q : List Nat)
    (h : hasPrefix (p.map ccharTolower) (a :: q) = true) :
    ∃ x r, p = x :: r ∧ ccharTolower x = a ∧ hasPrefix (r.map ccharTolower) q = true := by
  cases p with
  | nil => simp [hasPrefix] at h
  | cons x r =>
    simp only [List.map_cons, hasPrefix, Bool.and_eq_true, beq_iff_eq] at h
    exact ⟨x, r, rfl, h.1, h.2⟩

theorem match_ascii3 (p : List Nat) (a b c : Nat) (ha : a < 128) (hb : b < 128) (hc : c < 128)
    (h : hasPrefix (p.map ccharTolower) [a, b, c] = true) :
    ∃ x y z r, p = x :: y :: z :: r ∧ x < 128 ∧ y < 128 ∧ z < 128 := by
  obtain ⟨x, p, rfl, hx, h⟩ := casePrefix_cons p _ _ h
  obtain ⟨y, p, rfl, hy, h⟩ := casePrefix_cons p _ _ h
  obtain ⟨z, p, rfl, hz, _⟩ := casePrefix_cons p _ _ h
  exact ⟨x, y, z, p, rfl, lower_ascii_src x a hx ha, lower_ascii_src y b hy hb, lower_ascii_src z c hz hc⟩

/-- the legacy tag has no letter in it: only the tag itself matches. -/
theorem match_legacy (p : List Nat) (h : hasPrefix (p.map ccharTolower) [91, 0xC2, 0xE0, 0xBF, 0xFD, 93] = true) :
    ∃ r, p = 91 :: 0xC2 :: 0xE0 :: 0xBF :: 0xFD :: 93 :: r := by
  obtain ⟨x1, p, rfl, h1, h⟩ := casePrefix_cons p _ _ h
  obtain ⟨x2, p, rfl, h2, h⟩ := casePrefix_cons p _ _ h
  obtain ⟨x3, p, rfl, h3, h⟩ := casePrefix_cons p _ _ h
  obtain ⟨x4, p, rfl, h4, h⟩ := casePrefix_cons p _ _ h
  obtain ⟨x5, p, rfl, h5, h⟩ := casePrefix_cons p _ _ h
  obtain ⟨x6, p, rfl, h6, _⟩ := casePrefix_cons p _ _ h
  rw [lower_nonletter_src x1 _ h1 (by decide), lower_nonletter_src x2 _ h2 (by decide),
    lower_nonletter_src x3 _ h3 (by decide), lower_nonletter_src x4 _ h4 (by decide),
    lower_nonletter_src x5 _ h5 (by decide), lower_nonletter_src x6 _ h6 (by decide)]
  exact ⟨p, rfl⟩

theorem subjectStepP_spec (p : List Nat) (n ty : Nat) (h : subjectStepP p = some (n, ty)) :
    n ≤ p.length ∧ 3 ≤ n ∧
    ((∃ x y z r, n = 3 ∧ p = x :: y :: z :: r ∧ x < 128 ∧ y < 128 ∧ z < 128) ∨
     (∃ r, n = 6 ∧ p = 91 :: 0xC2 :: 0xE0 :: 0xBF :: 0xFD :: 93 :: r)) := by
  obtain ⟨l1, l2, l3⟩ := subject_lens
  unfold subjectStepP at h
  rw [lower_reply, lower_forward, lower_legacy, l1, l2, l3] at h
  split at h
  · next c1 =>
    cases h
    obtain ⟨x, y, z, r, rfl, hx, hy, hz⟩ := match_ascii3 p _ _ _ (by decide) (by decide) (by decide) c1
    exact ⟨Nat.le_add_left 3 r.length, Nat.le_refl 3, .inl ⟨x, y, z, r, rfl, rfl, hx, hy, hz⟩⟩
  · split at h
    · next c2 =>
      cases h
      obtain ⟨x, y, z, r, rfl, hx, hy, hz⟩ := match_ascii3 p _ _ _ (by decide) (by decide) (by decide) c2
      exact ⟨Nat.le_add_left 3 r.length, Nat.le_refl 3, .inl ⟨x, y, z, r, rfl, rfl, hx, hy, hz⟩⟩
    · split at h
      · next c3 =>
        cases h
        obtain ⟨r, rfl⟩ := match_legacy p c3
        exact ⟨Nat.le_add_left 6 r.length, by decide, .inr ⟨r, rfl, rfl⟩⟩
      · cases h

theorem subjectStepP_boundary (p : List Nat) (n ty : Nat) (h : subjectStepP p = some (n, ty)) (st : Nat)
    (hst : st ≠ DBCS_LEADING) : foldFrom st (p.take n) ≠ DBCS_LEADING := by
  obtain ⟨_, _, ⟨x, y, z, r, rfl, rfl, hx, hy, hz⟩ | ⟨r, rfl, rfl⟩⟩ := subjectStepP_spec p n ty h
  · -- three ASCII characters
    show foldFrom st (unitsBytes [.a x, .a y, .a z]) ≠ DBCS_LEADING
    exact foldFrom_units _ (by simp [DUnit.ok, hx, hy, hz]) st hst
  · -- `[`, two double-byte characters, `]`
    show foldFrom st (unitsBytes [.a 91, .d 0xC2 0xE0, .d 0xBF 0xFD, .a 93]) ≠ DBCS_LEADING
    exact foldFrom_units _ (by simp [DUnit.ok]) st hst

/-! ### SubjectEx: the loop -/

theorem skipBlank_boundary (p : List Nat) (h : p ≠ []) :
    ∃ b r, skipBlank p = .ok r ∧ p = b ++ r ∧ ∀ st, st ≠ DBCS_LEADING → foldFrom st b ≠ DBCS_LEADING := by
  match p, h with
  | c :: r, _ =>
    have hi : idx (c :: r) 0 = .ok c := rfl
    rw [skipBlank, hi, ok_bind]
    by_cases hc : c = 32
    · rw [if_pos hc, slice_drop (c :: r) 1 (Nat.le_add_left 1 _)]
      exact ⟨[c], r, rfl, rfl, fun st hst => dbcsNext_ascii_ne c st hst (by omega)⟩
    · rw [if_neg hc]
      exact ⟨[], c :: r, rfl, rfl, fun st hst => hst⟩

theorem subjectLoop_spec (fuel : Nat) (p : List Nat) (ty : Nat) (hf : fuel ≥ p.length + 1) :
    ∃ ty' pre r, subjectLoop fuel p ty = .ok (ty', r) ∧ p = pre ++ r ∧
      (∀ st, st ≠ DBCS_LEADING → foldFrom st pre ≠ DBCS_LEADING) := by
  induction fuel generalizing p ty with
  | zero => omega
  | succ fuel ih =>
    have stop : ∀ ty', ∃ ty'' pre r, (.ok (ty', p) : M (Nat × List Nat)) = .ok (ty'', r) ∧ p = pre ++ r ∧
        (∀ st, st ≠ DBCS_LEADING → foldFrom st pre ≠ DBCS_LEADING) :=
      fun ty' => ⟨ty', [], p, rfl, rfl, fun st hst => hst⟩
    rw [subjectLoop]
    by_cases hp : p.length = 0
    · rw [if_pos hp]
      exact stop ty
    rw [if_neg hp, subjectStep_eq, ok_bind]
    cases hs : subjectStepP p with
    | none => exact stop ty
    | some nt =>
      obtain ⟨n, ty'⟩ := nt
      obtain ⟨hn, hn3, _⟩ := subjectStepP_spec p n ty' hs
      have hpre := subjectStepP_boundary p n ty' hs
      have hsplit : p = p.take n ++ p.drop n := (List.take_append_drop n p).symm
      dsimp only
      rw [slice_drop p n hn, ok_bind]
      by_cases hd : (p.drop n).length = 0
      · rw [if_pos hd]
        exact ⟨ty', p.take n, p.drop n, rfl, hsplit, hpre⟩
      obtain ⟨b, q, hsk, hq, hb⟩ := skipBlank_boundary (p.drop n) (by intro h; rw [h] at hd; exact hd rfl)
      have hlen : n + (b.length + q.length) = p.length := by
        have := congrArg List.length hq
        simp only [List.length_drop, List.length_append] at this
        omega
      rw [if_neg hd, hsk, ok_bind]
      obtain ⟨ty'', pre, r, h1, h2, h3⟩ := ih q ty' (by omega)
      refine ⟨ty'', p.take n ++ b ++ pre, r, h1, ?_, ?_⟩
      · rw [List.append_assoc, List.append_assoc, ← h2, ← hq]
        exact hsplit
      · intro st hst
        rw [foldFrom_append, foldFrom_append]
        exact h3 _ (hb _ (hpre st hst))

theorem subjectEx_spec (title : List Nat) :
    ∃ ty pre r, subjectEx title = .ok (ty, r) ∧ cstr title = pre ++ r ∧ dbcsFold pre ≠ DBCS_LEADING := by
  obtain ⟨ty, pre, r, h1, h2, h3⟩ :=
    subjectLoop_spec ((cstr title).length + 1) (cstr title) SUBJECT_NORMAL (Nat.le_refl _)
  refine ⟨ty, pre, r, ?_, h2, h3 DBCS_ASCII ascii_ne_leading⟩
  rw [subjectEx, cstrToBytes_eq', ok_bind]
  exact h1

end PttVerif.C18
