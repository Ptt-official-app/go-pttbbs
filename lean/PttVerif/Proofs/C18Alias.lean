import PttVerif.Model.C18Alias
/-
C18 (result ownership) — helper lemmas: every call only appends backing arrays to the heap, so whatever a
caller holds reads the same after any later history.
-/
namespace PttVerif.C18
open PttVerif

/-- every held slice points into an existing backing array. -/
def HeldValid (h : Heap) (held : List Res) : Prop := ∀ r ∈ held, ∀ s ∈ r.sls, s.buf < h.length

theorem rd_append (h extra : Heap) (s : Sl) (hs : s.buf < h.length) : (h ++ extra).rd s = h.rd s := by
  unfold Heap.rd
  simp [List.getD, List.getElem?_append_left hs]

theorem rd_alloc (h : Heap) (b : List Nat) : (alloc h b).1.rd (alloc h b).2 = b := by
  simp [alloc, Heap.rd, List.getD]

theorem resolve_spec (h : Heap) (held : List Res) (a : Arg) (h1 : Heap) (s : Sl) (hv : HeldValid h held)
    (hr : resolve h held a = some (h1, s)) : (∃ extra, h1 = h ++ extra) ∧ s.buf < h1.length := by
  cases a with
  | lit b =>
    simp only [resolve, Option.some.injEq] at hr
    obtain ⟨rfl, rfl⟩ := hr
    exact ⟨⟨[b], rfl⟩, by simp⟩
  | ref i =>
    simp only [resolve] at hr
    cases hi : held[i]? with
    | none => simp [hi] at hr
    | some r =>
      simp only [hi] at hr
      cases hs : r.sls with
      | nil => simp [hs] at hr
      | cons s0 rest =>
        simp only [hs, Option.some.injEq, Prod.mk.injEq] at hr
        obtain ⟨rfl, rfl⟩ := hr
        exact ⟨⟨[], by simp⟩, hv r (List.mem_of_getElem? hi) s0 (by simp [hs])⟩

theorem allocAll_spec (h : Heap) (ls : List (List Nat)) :
    (∃ extra, (allocAll h ls).1 = h ++ extra) ∧ ∀ s ∈ (allocAll h ls).2, s.buf < (allocAll h ls).1.length := by
  induction ls generalizing h with
  | nil => exact ⟨⟨[], by simp [allocAll]⟩, by simp [allocAll]⟩
  | cons l ls ih =>
    obtain ⟨⟨extra, he⟩, hs⟩ := ih (h ++ [l])
    simp only [allocAll, alloc]
    refine ⟨⟨[l] ++ extra, by rw [he]; simp⟩, ?_⟩
    intro s hm
    simp only [List.mem_cons] at hm
    rcases hm with rfl | hm
    · rw [he]; simp
    · exact hs s hm

theorem bind_ok_inv {α β} (m : M α) (f : α → M β) (b : β) (h : (m >>= f) = .ok b) :
    ∃ a, m = .ok a ∧ f a = .ok b := by
  cases m with
  | error e => cases h
  | ok a => exact ⟨a, rfl, h⟩

/-- one call: the heap only grows, and the new result points into it. -/
theorem stepRun_spec (h : Heap) (held : List Res) (st : Step) (h' : Heap) (r : Res) (hv : HeldValid h held)
    (hrun : stepRun h held st = some (.ok (h', r))) :
    (∃ extra, h' = h ++ extra) ∧ ∀ s ∈ r.sls, s.buf < h'.length := by
  -- the common shape of the cases with an argument: resolve, then a monadic body
  have viewCase : ∀ (a : Arg) (body : Heap × Sl → M (Heap × Res)),
      (resolve h held a).map body = some (.ok (h', r)) →
      (∀ h1 s, s.buf < h1.length → body (h1, s) = .ok (h', r) →
        (∃ extra, h' = h1 ++ extra) ∧ ∀ s ∈ r.sls, s.buf < h'.length) →
      (∃ extra, h' = h ++ extra) ∧ ∀ s ∈ r.sls, s.buf < h'.length := by
    intro a body hm hb
    cases hres : resolve h held a with
    | none => simp [hres] at hm
    | some p =>
      obtain ⟨h1, s⟩ := p
      simp only [hres, Option.map_some, Option.some.injEq] at hm
      obtain ⟨⟨e1, he1⟩, hs1⟩ := resolve_spec h held a h1 s hv hres
      obtain ⟨⟨e2, he2⟩, hs2⟩ := hb h1 s hs1 hm
      exact ⟨⟨e1 ++ e2, by rw [he2, he1, List.append_assoc]⟩, hs2⟩
  -- the two kinds of result: a view of the argument's array, or one fresh array at the end of the heap
  have view : ∀ (h1 : Heap) (sls : List Sl) (tag : Option Nat) (buf : Nat), buf < h1.length →
      (∀ s ∈ sls, s.buf = buf) → (Except.ok (h1, ⟨tag, sls⟩) : M (Heap × Res)) = .ok (h', r) →
      (∃ extra, h' = h1 ++ extra) ∧ ∀ s ∈ r.sls, s.buf < h'.length := by
    intro h1 sls tag buf hbuf hs he
    cases he
    exact ⟨⟨[], (List.append_nil _).symm⟩, fun s hm => by rw [hs s hm]; exact hbuf⟩
  have fresh : ∀ (h1 : Heap) (b : List Nat) (tag : Option Nat) (off len : Nat),
      (Except.ok (h1 ++ [b], ⟨tag, [⟨h1.length, off, len⟩]⟩) : M (Heap × Res)) = .ok (h', r) →
      (∃ extra, h' = h1 ++ extra) ∧ ∀ s ∈ r.sls, s.buf < h'.length := by
    intro h1 b tag off len he
    cases he
    exact ⟨⟨[b], rfl⟩, fun s hm => by rw [List.mem_singleton.mp hm]; simp⟩
  cases st with
  | strip flag a =>
    refine viewCase a _ hrun fun h1 s _ hb => ?_
    obtain ⟨out, _, hb⟩ := bind_ok_inv _ _ _ hb
    exact fresh h1 _ none 0 _ hb
  | lower a | upper a => exact viewCase a _ hrun fun h1 s _ hb => fresh h1 _ none 0 _ hb
  | toBytes a | tokenR a sep | dbcsTrim a | trim a =>
    refine viewCase a _ hrun fun h1 s hs hb => ?_
    obtain ⟨out, _, hb⟩ := bind_ok_inv _ _ _ hb
    exact view h1 _ none s.buf hs (by simp) hb
  | lines a =>
    refine viewCase a _ hrun fun h1 s _ hb => ?_
    obtain ⟨ls, _, hb⟩ := bind_ok_inv _ _ _ hb
    cases hb
    exact allocAll_spec h1 ls
  | nb5 b | trimDBCS b | subject b =>
    obtain ⟨out, _, hb⟩ := bind_ok_inv _ _ _ (Option.some.inj hrun)
    exact fresh h _ _ _ _ hb

theorem heldValid_step (h : Heap) (held : List Res) (extra : Heap) (r : Res) (hv : HeldValid h held)
    (hr : ∀ s ∈ r.sls, s.buf < (h ++ extra).length) : HeldValid (h ++ extra) (held ++ [r]) := by
  intro r' hm s hs
  simp only [List.mem_append, List.mem_singleton] at hm
  rcases hm with hm | rfl
  · have := hv r' hm s hs
    simp; omega
  · exact hr s hs

theorem histRun_cons_ok (h : Heap) (held : List Res) (st : Step) (rest : List Step) (x : Heap × List Res)
    (hrun : histRun h held (st :: rest) = some (.ok x)) :
    ∃ h' r, stepRun h held st = some (.ok (h', r)) ∧ histRun h' (held ++ [r]) rest = some (.ok x) := by
  rw [histRun] at hrun
  match stepRun h held st, hrun with
  | some (.ok (h', r)), hrun => exact ⟨h', r, rfl, hrun⟩

/-- a history: the heap only grows, everything held stays valid, earlier results stay in the held list. -/
theorem histRun_spec (steps : List Step) (h : Heap) (held : List Res) (hF : Heap) (heldF : List Res)
    (hv : HeldValid h held) (hrun : histRun h held steps = some (.ok (hF, heldF))) :
    (∃ extra, hF = h ++ extra) ∧ HeldValid hF heldF ∧ held <+: heldF := by
  induction steps generalizing h held with
  | nil =>
    cases hrun
    exact ⟨⟨[], by simp⟩, hv, List.prefix_refl _⟩
  | cons st rest ih =>
    obtain ⟨h', r, hs, hrun⟩ := histRun_cons_ok h held st rest _ hrun
    obtain ⟨⟨e1, rfl⟩, hr⟩ := stepRun_spec h held st h' r hv hs
    obtain ⟨⟨e2, he2⟩, hv2, hp⟩ := ih (h ++ e1) (held ++ [r]) (heldValid_step h held e1 r hv hr) hrun
    exact ⟨⟨e1 ++ e2, by rw [he2]; simp⟩, hv2, (List.prefix_append held [r]).trans hp⟩

theorem histRun_append (s1 s2 : List Step) (h : Heap) (held : List Res) (h1 : Heap) (held1 : List Res)
    (hrun : histRun h held s1 = some (.ok (h1, held1))) :
    histRun h held (s1 ++ s2) = histRun h1 held1 s2 := by
  induction s1 generalizing h held with
  | nil =>
    cases hrun
    rfl
  | cons st rest ih =>
    obtain ⟨h', r, hs, hrun⟩ := histRun_cons_ok h held st rest _ hrun
    rw [List.cons_append, histRun, hs]
    exact ih _ _ hrun

end PttVerif.C18
