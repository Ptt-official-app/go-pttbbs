import PttVerif.Proofs.C02
import PttVerif.Proofs.C02Bits
/-
C02 — from the password to the DES key: the key block `cFcrypt` builds is the crypt(3) key.
-/
namespace PttVerif.C02.Lin
open PttVerif PttVerif.C02

theorem length8 (l : List Nat) (h : l.length = 8) : ∃ a b c d e f g x, l = [a, b, c, d, e, f, g, x] := by
  match l, h with
  | [a, b, c, d, e, f, g, x], _ => exact ⟨a, b, c, d, e, f, g, x, rfl⟩

theorem bytesBE_fold (l : List Nat) (hl : l.length = 8) (hb : ∀ b ∈ l, b < 256) :
    bytesBE (l.foldl (fun acc b => 256 * acc + b) 0) = l := by
  obtain ⟨a, b, c, d, e, f, g, x, rfl⟩ := length8 l hl
  have hd := horner_digit 256 ([a, b, c, d, e, f, g, x].getD · 0) (getD_lt hb (by decide)) 8
  simp only [bytesBE, Nat.shiftRight_eq_div_pow, show (0xff : Nat) = 2 ^ 8 - 1 from rfl, Nat.and_two_pow_sub_one_eq_mod]
  exact List.cons_eq_cons.mpr ⟨hd 0 (by decide), List.cons_eq_cons.mpr ⟨hd 1 (by decide),
    List.cons_eq_cons.mpr ⟨hd 2 (by decide), List.cons_eq_cons.mpr ⟨hd 3 (by decide),
    List.cons_eq_cons.mpr ⟨hd 4 (by decide), List.cons_eq_cons.mpr ⟨hd 5 (by decide),
    List.cons_eq_cons.mpr ⟨hd 6 (by decide), List.cons_eq_cons.mpr ⟨hd 7 (by decide), rfl⟩⟩⟩⟩⟩⟩⟩⟩

theorem key_le8 (p : List Nat) : ((p.take 8).takeWhile (· ≠ 0)).length ≤ 8 :=
  Nat.le_trans (List.takeWhile_sublist _).length_le (by rw [List.length_take]; omega)

theorem cstr8_length (p : List Nat) : (Spec.cstr8 p).length = 8 := by
  have := key_le8 p
  simp only [Spec.cstr8, List.length_append, List.length_replicate]; omega

theorem effKey8_eq_cstr8 (p : List Nat) : (effKey8 p).map (· * 2) = (Spec.cstr8 p).map (fun b => b * 2 % 256) := by
  have hl := key_le8 p
  have e : ∀ c : Nat, (c &&& 0x7f) * 2 = c * 2 % 256 := by
    intro c
    rw [show (0x7f : Nat) = 2 ^ 7 - 1 from rfl, Nat.and_two_pow_sub_one_eq_mod]; omega
  unfold effKey8 effKey Spec.cstr8
  rw [copyInto_of_le _ _ (by simpa using hl)]
  simp [List.map_append, e]

theorem keyOfBytes_eq (bs : List Nat) :
    Spec.keyOfBytes bs = (bs.map (fun b => b * 2 % 256)).foldl (fun acc b => 256 * acc + b) 0 := by
  unfold Spec.keyOfBytes; rw [List.foldl_map]

theorem dbl_lt (bs : List Nat) : ∀ v ∈ bs.map (fun b => b * 2 % 256), v < 256 := by
  intro v hv
  obtain ⟨c, _, rfl⟩ := List.mem_map.mp hv
  exact Nat.mod_lt _ (by decide)

theorem keyOfBytes_lt (p : List Nat) : Spec.keyOfBytes (Spec.cstr8 p) < 2 ^ 64 := by
  obtain ⟨a, b, c, d, e, f, g, x, h⟩ := length8 _ (cstr8_length p)
  rw [h]
  exact horner_lt 256 (([a, b, c, d, e, f, g, x].map (fun b => b * 2 % 256)).getD · 0)
    (getD_lt (dbl_lt [a, b, c, d, e, f, g, x]) (by decide)) 8

/-- the DES key block `cFcrypt` builds from a password is the crypt(3) key of that password (first eight bytes up to
a NUL, seven low bits each, shifted past the parity bit). -/
theorem mkKey_eq_crypt3_key (p : List Nat) :
    mkKey (if p.length > 8 then p.take 8 else p) = bytesBE (Spec.keyOfBytes (Spec.cstr8 p)) := by
  rw [mkKey_eq, effKey8_eq_cstr8, keyOfBytes_eq, bytesBE_fold]
  · simp [cstr8_length]
  · exact dbl_lt _

end PttVerif.C02.Lin
