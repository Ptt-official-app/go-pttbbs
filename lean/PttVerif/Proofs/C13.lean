import PttVerif.Model.C13
import PttVerif.Proofs.Cstr
/-
Lemmas behind Props/C13.lean, in the order of the codec's layers.  The base-64 and the decimal part share the three
facts about digits in any base; everything about the two regenerated tables goes through one kernel-evaluated pass
(`table_scan`).
-/
namespace PttVerif.C13
open PttVerif

/-! ### positional notation -/

theorem mul_add_div_of_lt (q b r : Nat) (hr : r < b) : (q * b + r) / b = q := by
  rw [Nat.add_comm, Nat.add_mul_div_right _ _ (Nat.zero_lt_of_lt hr), Nat.div_eq_of_lt hr, Nat.zero_add]

/-- appending a digit `r` in base `b` to `acc * P + q`. -/
theorem horner (b acc P q r : Nat) : (acc * P + q) * b + r = acc * (P * b) + (q * b + r) := by
  rw [Nat.add_mul, Nat.mul_assoc, Nat.add_assoc]

/-- the last digit of `n` in base `b` behind those before it that are worth less than `P`. -/
theorem div_mod_digit (b P n : Nat) : n / b % P * b + n % b = n % (P * b) := by
  rw [Nat.mul_comm P, Nat.mod_mul, Nat.add_comm, Nat.mul_comm]

/-! ### the regenerated tables -/

/-- Props/C13.lean writes it out as `alphabet.getD i 0`. -/
def dch (i : Nat) : Nat := alphabet.getD i 0

theorem alphabet_length : alphabet.length = 64 := by decide +kernel
theorem table_length : decodeTable.length = 128 := by decide +kernel

theorem table_scan : ∀ x ∈ alphabet.zipIdx,
    x.1 ≠ 0 ∧ x.1 ≠ 64 ∧ x.1 < 128 ∧ decodeTable[x.1]? = some x.2 := by
  decide +kernel

theorem dch_eq_getElem (i : Nat) (h : i < alphabet.length) : dch i = alphabet[i] := by
  rw [dch, List.getD_eq_getElem?_getD, List.getElem?_eq_getElem h]
  rfl

/-- NUL and '@' (64) are the decoder's two terminators. -/
theorem table_facts' (i : Nat) (h : i < 64) :
    dch i ≠ 0 ∧ dch i ≠ 64 ∧ dch i < 128 ∧ decodeTable[dch i]? = some i := by
  have hi : i < alphabet.length := alphabet_length ▸ h
  refine table_scan (dch i, i) (List.mem_zipIdx_iff_getElem?.2 ?_)
  rw [List.getElem?_eq_getElem hi, dch_eq_getElem i hi]

theorem mem_alphabet (c : Nat) (h : c ∈ alphabet) : ∃ i, i < 64 ∧ dch i = c := by
  obtain ⟨i, hi, rfl⟩ := List.mem_iff_getElem.1 h
  exact ⟨i, alphabet_length ▸ hi, dch_eq_getElem i hi⟩

theorem dch_injective (i j : Nat) (hi : i < 64) (hj : j < 64) (e : dch i = dch j) : i = j := by
  have h := (table_facts' i hi).2.2.2
  rw [e, (table_facts' j hj).2.2.2] at h
  exact (Option.some.inj h).symm

/-! ### text in base 64 -/

theorem toAidcAux_length (k : Nat) : ∀ a acc, (toAidcAux k a acc).length = k + acc.length := by
  induction k with
  | zero => intro a acc; rw [Nat.zero_add]; rfl
  | succ k ih => intro a acc; rw [toAidcAux, ih, List.length_cons, Nat.add_right_comm, Nat.add_assoc]

theorem toAidcAux_forall (P : Nat → Prop) (hP : ∀ i, i < 64 → P (dch i)) (k : Nat) :
    ∀ a acc, (∀ c ∈ acc, P c) → ∀ c ∈ toAidcAux k a acc, P c := by
  induction k with
  | zero => intro a acc h; exact h
  | succ k ih =>
    intro a acc h
    rw [toAidcAux]
    apply ih
    intro c hc
    rcases List.mem_cons.1 hc with rfl | hc
    · exact hP _ (Nat.mod_lt _ (by decide))
    · exact h c hc

/-- one round of the loop of `Aidc.ToAidu`; `hacc`: the shift does not wrap. -/
theorem decode_step (i : Nat) (hi : i < 64) (cs : List Nat) (acc : Nat) (hacc : acc * 64 < two64) :
    aidcToAiduAux (dch i :: cs) acc = aidcToAiduAux cs (acc * 64 + i) := by
  obtain ⟨h0, h64, h128, htab⟩ := table_facts' i hi
  have hlen : ¬ dch i ≥ decodeTable.length := by rw [table_length]; exact Nat.not_le.2 h128
  rw [aidcToAiduAux, if_neg h0, if_neg h64, if_neg hlen, idx, htab]
  show aidcToAiduAux cs ((acc * 64) % two64 ||| i) = _
  rw [Nat.mod_eq_of_lt hacc, Nat.mul_comm, ← Nat.two_pow_add_eq_or_of_lt (i := 6) hi acc]

/-- number → text → number, from any accumulator and before any remaining text.  The hypothesis is the room for `k`
more shifts without a uint64 wrap; for a whole id it is `64 ^ 8 ≤ 2 ^ 64`. -/
theorem decode_toAidcAux (k : Nat) : ∀ (a acc : Nat) (rest : List Nat), (acc + 1) * 64 ^ k ≤ two64 →
    aidcToAiduAux (toAidcAux k a rest) acc = aidcToAiduAux rest (acc * 64 ^ k + a % 64 ^ k) := by
  induction k with
  | zero => intro a acc rest _; rw [Nat.pow_zero, Nat.mod_one, Nat.mul_one]; rfl
  | succ k ih =>
    intro a acc rest h
    rw [Nat.pow_succ, ← Nat.mul_assoc] at h
    have h1 : acc * 64 ^ k + a / 64 % 64 ^ k < (acc + 1) * 64 ^ k := by
      rw [Nat.succ_mul]
      exact Nat.add_lt_add_left (Nat.mod_lt _ (Nat.pow_pos (by decide))) _
    have h2 : (acc * 64 ^ k + a / 64 % 64 ^ k) * 64 < two64 :=
      Nat.lt_of_lt_of_le (Nat.mul_lt_mul_of_pos_right h1 (by decide)) h
    rw [toAidcAux, ih _ acc _ (Nat.le_trans (Nat.le_mul_of_pos_right _ (by decide)) h)]
    show aidcToAiduAux (dch (a % 64) :: rest) _ = _
    rw [decode_step _ (Nat.mod_lt _ (by decide)) _ _ h2, horner, div_mod_digit, Nat.pow_succ]

/-- Over the reversed text, because the encoder produces the last character first. -/
theorem toAidcAux_surj (rs : List Nat) (hal : ∀ c ∈ rs, c ∈ alphabet) :
    ∀ rest, ∃ a, a < 64 ^ rs.length ∧ toAidcAux rs.length a rest = rs.reverse ++ rest := by
  induction rs with
  | nil => intro rest; exact ⟨0, by decide, rfl⟩
  | cons c rs ih =>
    intro rest
    obtain ⟨i, hi, rfl⟩ := mem_alphabet c (hal c (List.mem_cons_self ..))
    obtain ⟨a, ha, e⟩ := ih (fun c hc => hal c (List.mem_cons_of_mem _ hc)) (dch i :: rest)
    refine ⟨a * 64 + i, ?_, ?_⟩
    · rw [List.length_cons, Nat.pow_succ]
      omega
    · rw [List.length_cons, toAidcAux, mul_add_div_of_lt a 64 i hi, Nat.mul_add_mod_of_lt hi,
        List.reverse_cons, List.append_assoc]
      exact e

theorem aidcToAiduAux_total : ∀ (cs : List Nat) (acc : Nat), ∃ v, aidcToAiduAux cs acc = .ok v := by
  intro cs
  induction cs with
  | nil => intro acc; exact ⟨acc, rfl⟩
  | cons c cs ih =>
    intro acc
    rw [aidcToAiduAux]
    by_cases h0 : c = 0
    · exact ⟨acc, if_pos h0⟩
    by_cases h64 : c = 64
    · exact ⟨acc, by rw [if_neg h0, if_pos h64]⟩
    by_cases hl : c ≥ decodeTable.length
    · exact ⟨0, by rw [if_neg h0, if_neg h64, if_pos hl]⟩
    · rw [if_neg h0, if_neg h64, if_neg hl, idx, List.getElem?_eq_getElem (Nat.not_le.1 hl)]
      exact ih _

/-! ### decimal text -/

theorem digitsFixed_length (w n : Nat) : (digitsFixed w n).length = w := by
  induction w generalizing n with
  | zero => rfl
  | succ w ih => rw [digitsFixed, List.length_append, ih]; rfl

theorem isDigit_digit (d : Nat) (h : d < 10) : isDigit (d + 48) = true := by
  simp only [isDigit, Bool.and_eq_true, decide_eq_true_eq]
  omega

theorem digitsFixed_isDigit (w : Nat) : ∀ n, ∀ c ∈ digitsFixed w n, isDigit c = true := by
  induction w with
  | zero => intro n c h; cases h
  | succ w ih =>
    intro n c h
    rw [digitsFixed, List.mem_append, List.mem_singleton] at h
    rcases h with h | rfl
    · exact ih _ _ h
    · exact isDigit_digit _ (Nat.mod_lt _ (by decide))

/-- `%d` of a number with exactly `w + 1` digits. -/
theorem natToDec_eq_digitsFixed (w : Nat) : ∀ n, 10 ^ w ≤ n → n < 10 ^ (w + 1) →
    natToDec n = digitsFixed (w + 1) n := by
  induction w with
  | zero =>
    intro n _ h2
    rw [natToDec, dif_pos h2, digitsFixed, digitsFixed, Nat.mod_eq_of_lt h2]
    rfl
  | succ w ih =>
    intro n h1 h2
    have h10 : ¬ n < 10 :=
      Nat.not_lt.2 (Nat.le_trans (Nat.le_self_pow (Nat.succ_ne_zero w) 10) h1)
    rw [Nat.pow_succ] at h1 h2
    rw [natToDec, dif_neg h10, ih (n / 10) ((Nat.le_div_iff_mul_le (by decide)).2 h1)
      ((Nat.div_lt_iff_lt_mul (by decide)).2 h2)]
    rfl

theorem intToDec_ofNat (t : Nat) (h1 : 10 ^ 9 ≤ t) (h2 : t < 10 ^ 10) :
    intToDec (t : Int) = digitsFixed 10 t := by
  rw [intToDec, if_neg (Int.not_lt.2 (Int.natCast_nonneg t)), Int.natAbs_natCast]
  exact natToDec_eq_digitsFixed 9 t h1 h2

theorem decVal_append (xs ys : List Nat) : ∀ acc,
    decVal (xs ++ ys) acc = (decVal xs acc).bind (decVal ys) := by
  induction xs with
  | nil => intro acc; rfl
  | cons x xs ih =>
    intro acc
    rw [List.cons_append, decVal, decVal]
    split
    · exact ih _
    · rfl

theorem decVal_digitsFixed (w : Nat) : ∀ n acc,
    decVal (digitsFixed w n) acc = some (acc * 10 ^ w + n % 10 ^ w) := by
  induction w with
  | zero => intro n acc; rw [Nat.pow_zero, Nat.mod_one, Nat.mul_one]; rfl
  | succ w ih =>
    intro n acc
    rw [digitsFixed, decVal_append, ih, Option.bind_some, decVal,
      if_pos (isDigit_digit _ (Nat.mod_lt _ (by decide))), Nat.add_sub_cancel, decVal,
      horner, div_mod_digit, Nat.pow_succ]

theorem atoi_digits (c : Nat) (cs : List Nat) (h : isDigit c = true) :
    atoi (c :: cs) = (decVal (c :: cs) 0).map Int.ofNat := by
  unfold atoi
  split
  · rename_i heq; cases heq
  · rename_i heq; cases heq; exact absurd h (by decide)
  · rename_i heq; cases heq; exact absurd h (by decide)
  · rfl

theorem atoi_digitsFixed (w n : Nat) : atoi (digitsFixed (w + 1) n) = some (Int.ofNat (n % 10 ^ (w + 1))) := by
  obtain ⟨c, cs, hd⟩ := List.exists_cons_of_length_eq_add_one (digitsFixed_length (w + 1) n)
  have hc : isDigit c = true := digitsFixed_isDigit (w + 1) n c (hd ▸ List.mem_cons_self ..)
  rw [hd, atoi_digits c cs hc, ← hd, decVal_digitsFixed, Nat.zero_mul, Nat.zero_add]
  rfl

/-! ### three hex digits -/

theorem upHex_ne_zero (d : Nat) : upHex d ≠ 0 := by
  unfold upHex
  split <;> omega

theorem hexVal_upHex (d : Nat) (h : d < 16) : hexVal (upHex d) = some d := by
  unfold upHex
  split
  next h10 =>
    rw [hexVal, if_pos ⟨Nat.le_add_left _ _, Nat.add_le_add_right (Nat.le_of_lt_succ h10) 48⟩,
      Nat.add_sub_cancel]
  next h10 =>
    -- `d = e + 10`: the letter `'A' + e`, outside '0'..'9' and 'a'..'f'
    obtain ⟨e, rfl⟩ := Nat.exists_eq_add_of_le' (Nat.le_of_not_lt h10)
    have : ¬ (e + 65 ≤ 57) ∧ ¬ (97 ≤ e + 65) ∧ e + 65 ≤ 70 := by omega
    rw [Nat.add_sub_cancel, hexVal, if_neg (fun c => this.1 c.2), if_neg (fun c => this.2.1 c.1),
      if_pos ⟨Nat.le_add_left _ _, this.2.2⟩, Nat.add_sub_cancel]

theorem hex_digits (p : Nat) (h : p < 4096) : p / 256 % 16 * 256 + p / 16 % 16 * 16 + p % 16 = p := by
  rw [Nat.add_assoc, div_mod_digit 16 16 p]
  exact (div_mod_digit 256 16 p).trans (Nat.mod_eq_of_lt h)

theorem parseHex3_hex3 (p : Nat) (h : p < 4096) : parseHex3 (hex3 p) = some p := by
  have h16 (x : Nat) : x % 16 < 16 := Nat.mod_lt _ (by decide)
  unfold hex3 parseHex3
  simp only [hexVal_upHex _ (h16 _), Option.bind_eq_bind, Option.bind_some]
  exact congrArg some (hex_digits p h)

/-! ### Go's integer conversions on values that fit -/

theorem toInt32_ofNat (n : Nat) (h : n < 2147483648) : toInt32 (n : Int) = (n : Int) := by
  unfold toInt32
  rw [Int.emod_eq_of_lt (Int.natCast_nonneg n) (by omega)]
  exact if_pos h

theorem int32ToU64_ofNat (n : Nat) (h : n < two64) : int32ToU64 (n : Int) = n :=
  Nat.mod_eq_of_lt h

/-! ### the 48 bits of an `Aidu`: 4 of type, 32 of time, 12 of suffix -/

/-- what `Filename_t.ToAidu` assembles.  `Props.code` is this written out, so the two are interchanged by
`show` / `change`. -/
def pack (ty t p : Nat) : Nat := ty * 2 ^ 44 + t * 2 ^ 12 + p

theorem pack_eq (ty t p : Nat) : pack ty t p = (ty * 2 ^ 32 + t) * 2 ^ 12 + p := by
  rw [horner, ← Nat.add_assoc]
  rfl

theorem pack_lt (ty t p : Nat) (hty : ty < 16) (ht : t < 2 ^ 31) (hp : p < 4096) : pack ty t p < 2 ^ 48 := by
  unfold pack
  omega

theorem pack_fields (ty t p : Nat) (hty : ty < 16) (ht : t < 2 ^ 31) (hp : p < 4096) :
    aiduType (pack ty t p) = (if ty = 0 then 0 else 1) ∧ aiduTime (pack ty t p) = t ∧
      aiduPostfix (pack ty t p) = p := by
  have ht' : t < 2 ^ 32 := Nat.lt_trans ht (by decide)
  refine ⟨?_, ?_, ?_⟩
  · rw [aiduType, pack_eq, show 2 ^ 44 = 2 ^ 12 * 2 ^ 32 from rfl, ← Nat.div_div_eq_div_mul,
      mul_add_div_of_lt _ _ _ hp, mul_add_div_of_lt _ _ _ ht', Nat.mod_eq_of_lt hty]
  · rw [aiduTime, pack_eq, mul_add_div_of_lt _ _ _ hp, Nat.mul_add_mod_of_lt ht']
    exact toInt32_ofNat t ht
  · rw [aiduPostfix, Nat.mod_mod_of_dvd _ (by decide), pack_eq]
    exact Nat.mul_add_mod_of_lt hp

theorem pack_nowrap (ty t p : Nat) (hty : ty < 16) (ht : t < 2 ^ 31) (hp : p < 4096) :
    (ty % 16 * 2 ^ 44 % two64 + int32ToU64 (t : Int) * 2 ^ 12 % two64 + p) % two64 = pack ty t p := by
  have h : pack ty t p < two64 := Nat.lt_trans (pack_lt ty t p hty ht hp) (by decide)
  have h1 : ty * 2 ^ 44 ≤ pack ty t p := Nat.le_trans (Nat.le_add_right _ _) (Nat.le_add_right _ _)
  have h2 : t * 2 ^ 12 ≤ pack ty t p := Nat.le_trans (Nat.le_add_left _ _) (Nat.le_add_right _ _)
  rw [int32ToU64_ofNat t (Nat.lt_trans ht (by decide)), Nat.mod_eq_of_lt hty,
    Nat.mod_eq_of_lt (Nat.lt_of_le_of_lt h1 h), Nat.mod_eq_of_lt (Nat.lt_of_le_of_lt h2 h)]
  exact Nat.mod_eq_of_lt h

/-! ### C strings and fixed-size arrays -/

theorem copyInto_eq_self (n : Nat) (l : List Nat) (h : l.length = n) : copyInto n l = l := by
  rw [copyInto_of_le n l (Nat.le_of_eq h), h, Nat.sub_self]
  exact List.append_nil l

theorem cstr_aiduToAidc (a : Nat) : cstr (aiduToAidc a) = aiduToAidc a :=
  cstr_of_nonzero _ (toAidcAux_forall (· ≠ 0) (fun i hi => (table_facts' i hi).1) 8 a [] (fun _ hc => nomatch hc))

/-! ### the bytes of a file name -/

/-- creation time and suffix: the 16 bytes after the two head bytes. -/
def nameTail (t p : Nat) : List Nat := digitsFixed 10 t ++ [46, 65, 46] ++ hex3 p

/-- the 18 meaningful bytes of a rendered name. -/
def body (ty t p : Nat) : List Nat := [ty, 46] ++ digitsFixed 10 t ++ [46, 65, 46] ++ hex3 p

theorem body_eq_tail (ty t p : Nat) : body ty t p = ty :: 46 :: nameTail t p := by
  simp only [body, nameTail, List.cons_append, List.nil_append, List.append_assoc]

/-- where the accessors of `Filename_t` look: bytes 12 and 14, the slices `[2:12]` and `[15:18]`.  The name is bound
to `f` by an equation so that it is written once; callers pass `_ rfl`. -/
theorem name_fields (a b t p : Nat) (rest : List Nat) :
    ∀ f, f = a :: b :: (nameTail t p ++ rest) →
    f[12]? = some 46 ∧ f[14]? = some 46 ∧ (f.take 12).drop 2 = digitsFixed 10 t ∧
      (f.take 18).drop 15 = hex3 p := by
  rintro f rfl
  have e : a :: b :: (nameTail t p ++ rest)
      = (a :: b :: digitsFixed 10 t) ++ (46 :: 65 :: 46 :: (hex3 p ++ rest)) := by
    simp only [nameTail, List.append_assoc, List.cons_append, List.nil_append]
  have hl : (a :: b :: digitsFixed 10 t).length = 12 := by
    rw [List.length_cons, List.length_cons, digitsFixed_length]
  rw [e]
  refine ⟨?_, ?_, ?_, ?_⟩
  · rw [List.getElem?_append_right (Nat.le_of_eq hl), hl]; rfl
  · rw [List.getElem?_append_right (by rw [hl]; decide), hl]; rfl
  · rw [List.take_left' hl]; rfl
  · rw [List.drop_take, List.drop_append, hl, List.drop_of_length_le (Nat.le_of_lt (by rw [hl]; decide))]
    rfl

theorem nameTail_nonzero (t p : Nat) : ∀ c ∈ nameTail t p, c ≠ 0 := by
  refine List.forall_mem_append.2 ⟨List.forall_mem_append.2 ⟨?_, by decide⟩, ?_⟩
  · rintro c hc rfl
    exact absurd (digitsFixed_isDigit 10 t 0 hc) (by decide)
  · intro c hc
    simp only [hex3, List.mem_cons, List.not_mem_nil, or_false] at hc
    rcases hc with rfl | rfl | rfl <;> exact upHex_ne_zero _

theorem body_nonzero (ty t p : Nat) (hty : ty ≠ 0) : ∀ c ∈ body ty t p, c ≠ 0 := by
  rw [body_eq_tail]
  exact List.forall_mem_cons.2 ⟨hty, List.forall_mem_cons.2 ⟨by decide, nameTail_nonzero t p⟩⟩

/-- ten NULs: `FNLEN` is 28, the body 18 bytes long. -/
theorem render_tail (isM : Bool) (t p : Nat) :
    render isM t p = (if isM then 77 else 71) :: 46 :: (nameTail t p ++ List.replicate 10 0) := by
  have hl : (body (if isM then 77 else 71) t p).length = 18 := by simp [body, digitsFixed_length, hex3]
  show copyInto 28 (body _ t p) = _
  rw [copyInto_of_le _ _ (by rw [hl]; decide), hl, body_eq_tail]
  rfl

theorem cstr_render (isM : Bool) (t p : Nat) :
    cstr (render isM t p) = body (if isM then 77 else 71) t p := by
  rw [render_tail, ← List.cons_append, ← List.cons_append, ← body_eq_tail]
  exact (cstr_append_zeros _ 10).trans (cstr_of_nonzero _ (body_nonzero _ t p (by cases isM <;> decide)))

/-- what `Filename_t.Eq` compares: the C string from byte 2 on. -/
theorem cstr_drop2_render (isM : Bool) (t p : Nat) : cstr ((render isM t p).drop 2) = nameTail t p := by
  rw [render_tail]
  exact (cstr_append_zeros _ 10).trans (cstr_of_nonzero _ (nameTail_nonzero t p))

theorem fnCreateTime_tail (a b t p : Nat) (rest : List Nat) (ht : t < 2 ^ 31) :
    fnCreateTime (a :: b :: (nameTail t p ++ rest)) = some (t : Int) := by
  obtain ⟨_, _, hds, _⟩ := name_fields a b t p rest _ rfl
  rw [fnCreateTime, hds, atoi_digitsFixed 9 t, Nat.mod_eq_of_lt (Nat.lt_trans ht (by decide))]
  exact congrArg some (toInt32_ofNat t ht)

theorem fnType_cons (a : Nat) (l : List Nat) : fnType (a :: l) = if a = 77 then 0 else 1 := by
  simp only [fnType, List.getElem?_cons_zero, Option.some.injEq]

theorem fnToAidu_tail (a t p : Nat) (rest : List Nat) (ht : t < 2 ^ 31) (hp : p < 4096) :
    fnToAidu (a :: 46 :: (nameTail t p ++ rest)) = pack (if a = 77 then 0 else 1) t p := by
  obtain ⟨h12, h14, _, hhx⟩ := name_fields a 46 t p rest _ rfl
  have hty : (if a = 77 then 0 else 1) < 16 := by split <;> decide
  unfold fnToAidu
  -- the three '.' are in place; then the fields
  rw [List.getElem?_cons_succ, List.getElem?_cons_zero, h12, h14, if_neg (fun h => h rfl),
    if_neg (fun h => h rfl), if_neg (fun h => h rfl),
    fnType_cons, fnCreateTime_tail a 46 t p rest ht, hhx, parseHex3_hex3 p hp]
  exact pack_nowrap _ t p hty ht hp

theorem isDeleted_dot (a : Nat) (l : List Nat) : isDeleted (a :: 46 :: l) = false := by
  simp [isDeleted]

/-- a delete-marked name is encoded as `"M." ++ f[2:]` in a fresh array. -/
theorem idName_marked (l : List Nat) : idName (46 :: 100 :: l) = copyInto FNLEN (77 :: 46 :: l) := rfl

/-! ### cutting a url / url line apart -/

theorem stripPrefix_append (p s : List Nat) : stripPrefix p (p ++ s) = some s := by
  induction p with
  | nil => cases s <;> rfl
  | cons a p ih => simp [stripPrefix, ih]

theorem stripSuffix_append (x s : List Nat) : stripSuffix x (s ++ x) = some s := by
  simp [stripSuffix, List.reverse_append, stripPrefix_append]

theorem splitSlash_append (folder seg : List Nat) (h : 47 ∉ folder) :
    splitSlash (folder ++ 47 :: seg) = some (folder, seg) := by
  induction folder with
  | nil => simp [splitSlash]
  | cons c cs ih =>
    have hc : c ≠ 47 := fun e => h (by simp [e])
    have hcs : 47 ∉ cs := fun e => h (by simp [e])
    simp [splitSlash, hc, ih hcs]

/-- the line DoPostArticle stores resolves as the url inside it does. -/
theorem resolveLine_urlLine (useAid : Bool) (disp pfx url : List Nat) :
    resolveLine useAid disp pfx (urlLine disp url) = resolveURL useAid pfx url := by
  have e : urlLine disp url = (disp ++ [32]) ++ (url ++ [10]) := by simp [urlLine]
  simp only [e, resolveLine, stripPrefix_append, stripSuffix_append]

theorem resolveURL_file (pfx board f : List Nat) (hb : 47 ∉ cstr board) :
    resolveURL false pfx (webURL false pfx board f) = .ok (some (cstr board, copyInto FNLEN (cstr f))) := by
  have e : webURL false pfx board f = (pfx ++ [47]) ++ (cstr board ++ 47 :: (cstr f ++ htmlExt)) := by
    simp [webURL]
  simp only [e, resolveURL, stripPrefix_append, splitSlash_append _ _ hb, stripSuffix_append]
  rfl

theorem resolveURL_aid (pfx board f g : List Nat) (hb : 47 ∉ cstr board)
    (hg : articleIDToRaw (aidcText f) = .ok g) :
    resolveURL true pfx (webURL true pfx board f) = .ok (some (cstr board, g)) := by
  have e : webURL true pfx board f = (pfx ++ [47]) ++ (cstr board ++ 47 :: aidcText f) := by
    simp [webURL]
  simp only [e, resolveURL, stripPrefix_append, splitSlash_append _ _ hb, hg]
  rfl

end PttVerif.C13
