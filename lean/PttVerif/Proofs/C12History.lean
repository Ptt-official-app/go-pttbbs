import PttVerif.Proofs.C12Step
/-
C12 — histories, on the abstract table and on the model; the insertion sort satisfies `SortSpec`; the state after
ReloadBCache is well-formed.
-/
namespace PttVerif.C12
open PttVerif

/-! ### one step on the abstract table -/

theorem SpecStep.decide_none {users : List Bytes} {letters : List Nat} {t t' : List Rec} {d d' : List Bytes}
    {q : Req} {b : Nat} (h : SpecStep users letters t d q (.ok b) t' d') : specDecide letters d t q = none := by
  cases hd : specDecide letters d t q with
  | none => rfl
  | some r =>
      simp only [SpecStep, hd] at h
      exact absurd (h.1 ▸ hd) (specDecide_ne_ok _ _ _ _ _)

theorem occupied_normalise {users : List Bytes} {q : Req} (h : validNameSpec q.name = true) :
    occupied (normalise users q) = true := by
  rw [occupied_true_iff]; exact validName_key_ne h

theorem SpecStep.accepted {users : List Bytes} {letters : List Nat} {t t' : List Rec} {d d' : List Bytes}
    {q : Req} {b : Nat} (h : SpecStep users letters t d q (.ok b) t' d') :
    validNameSpec q.name = true ∧ nameTaken t q.name = false ∧ 1 ≤ b ∧ d' = d ++ [cstr q.name] ∧
    t'[b - 1]? = some (normalise users q) ∧ (∀ r, t[b - 1]? = some r → occupied r = false) ∧
    (∀ j, j ≠ b - 1 → j < t.length → t'[j]? = t[j]?) ∧
    ((b - 1 < t.length ∧ t' = t.set (b - 1) (normalise users q)) ∨
     (hasVacant t = false ∧ b - 1 = t.length ∧ t' = t ++ [normalise users q])) := by
  have hn := h.decide_none
  obtain ⟨_, _, _, hv, hnt, _⟩ := (specDecide_eq_none_iff _ _ _ _).mp hn
  simp only [SpecStep, hn] at h
  obtain ⟨k, hk, hd, hcase⟩ := h
  cases hk
  rw [Nat.add_sub_cancel]
  refine ⟨hv, hnt, Nat.le_add_left 1 k, hd, ?_⟩
  rcases hcase with ⟨hkl, ⟨r0, hr0, ho⟩, ht⟩ | ⟨hvv, hkl, ht⟩
  · subst ht
    refine ⟨List.getElem?_set_self hkl, ?_, fun j hj _ => List.getElem?_set_ne (Ne.symm hj), Or.inl ⟨hkl, rfl⟩⟩
    intro r hr
    rw [hr0] at hr; cases hr; exact ho
  · subst ht hkl
    refine ⟨?_, ?_, fun j _ hjl => List.getElem?_append_left hjl, Or.inr ⟨hvv, rfl, rfl⟩⟩
    · rw [List.getElem?_append_right (Nat.le_refl _), Nat.sub_self]; rfl
    · intro r hr
      rw [List.getElem?_eq_none (Nat.le_refl _)] at hr; cases hr

theorem SpecStep.refused {users : List Bytes} {letters : List Nat} {t t' : List Rec} {d d' : List Bytes}
    {q : Req} {res : Res} (h : SpecStep users letters t d q res t' d') (hr : ∀ b, res ≠ .ok b) :
    t' = t ∧ d' = d := by
  cases hd : specDecide letters d t q with
  | some r =>
      simp only [SpecStep, hd] at h
      exact h.2
  | none =>
      simp only [SpecStep, hd] at h
      obtain ⟨k, hk, _⟩ := h
      exact absurd hk (hr _)

/-- a step never touches an occupied slot. -/
theorem SpecStep.keep {users : List Bytes} {letters : List Nat} {t t' : List Rec} {d d' : List Bytes}
    {q : Req} {res : Res} (h : SpecStep users letters t d q res t' d') {k : Nat} {r : Rec}
    (hr : t[k]? = some r) (ho : occupied r = true) : t'[k]? = some r := by
  cases res with
  | ok b =>
      obtain ⟨_, _, _, _, _, hvac, hframe, _⟩ := h.accepted
      have hkl : k < t.length := (List.getElem?_eq_some_iff.mp hr).1
      have hne : k ≠ b - 1 := by
        intro e; subst e
        have := hvac r hr
        rw [ho] at this; cases this
      rw [hframe k hne hkl]; exact hr
  | _ =>
      all_goals
        obtain ⟨ht, _⟩ := h.refused (by intro b hb; cases hb)
        rw [ht]; exact hr

/-! ### histories on the abstract table -/

theorem SpecRun.keep {users : List Bytes} {letters : List Nat} {t tf : List Rec} {d df : List Bytes}
    {qs : List Req} {rs : List Res} (h : SpecRun users letters t d qs rs tf df) {k : Nat} {r : Rec}
    (hr : t[k]? = some r) (ho : occupied r = true) : tf[k]? = some r := by
  induction h with
  | nil => exact hr
  | cons hstep _ ih => exact ih (hstep.keep hr ho)

theorem SpecRun.length_eq {users : List Bytes} {letters : List Nat} {t tf : List Rec} {d df : List Bytes}
    {qs : List Req} {rs : List Res} (h : SpecRun users letters t d qs rs tf df) : rs.length = qs.length := by
  induction h with
  | nil => rfl
  | cons _ _ ih => simp [ih]

/-- the slot an accepted request of a history gets was not occupied when the history began. -/
theorem SpecRun.vacant_at_start {users : List Bytes} {letters : List Nat} {t tf : List Rec} {d df : List Bytes}
    {qs : List Req} {rs : List Res} (h : SpecRun users letters t d qs rs tf df) {i b : Nat}
    (hi : rs[i]? = some (.ok b)) : ∀ r, t[b - 1]? = some r → occupied r = false := by
  induction h generalizing i with
  | nil => simp at hi
  | cons hstep _ ih =>
      intro r hr
      cases i with
      | zero =>
          simp only [List.getElem?_cons_zero, Option.some.injEq] at hi
          subst hi
          obtain ⟨_, _, _, _, _, hvac, _⟩ := hstep.accepted
          exact hvac r hr
      | succ i =>
          simp only [List.getElem?_cons_succ] at hi
          cases ho : occupied r with
          | false => rfl
          | true =>
              have := ih hi r (hstep.keep hr ho)
              rw [ho] at this; cases this

/-- every accepted request of a history holds, at the end, the slot it was given, with the normalised header. -/
theorem SpecRun.final {users : List Bytes} {letters : List Nat} {t tf : List Rec} {d df : List Bytes}
    {qs : List Req} {rs : List Res} (h : SpecRun users letters t d qs rs tf df) {i b : Nat} {q : Req}
    (hi : rs[i]? = some (.ok b)) (hq : qs[i]? = some q) :
    1 ≤ b ∧ tf[b - 1]? = some (normalise users q) ∧ occupied (normalise users q) = true := by
  induction h generalizing i with
  | nil => simp at hi
  | cons hstep hrest ih =>
      cases i with
      | zero =>
          simp only [List.getElem?_cons_zero, Option.some.injEq] at hi hq
          subst hi; subst hq
          obtain ⟨hv, _, hb, _, hget, _⟩ := hstep.accepted
          exact ⟨hb, hrest.keep hget (occupied_normalise hv), occupied_normalise hv⟩
      | succ i =>
          simp only [List.getElem?_cons_succ] at hi hq
          exact ih hi hq

/-- two accepted requests of a history never share a slot. -/
theorem SpecRun.slots_distinct {users : List Bytes} {letters : List Nat} {t tf : List Rec} {d df : List Bytes}
    {qs : List Req} {rs : List Res} (h : SpecRun users letters t d qs rs tf df) {i j b b' : Nat}
    (hij : i < j) (hi : rs[i]? = some (.ok b)) (hj : rs[j]? = some (.ok b')) : b ≠ b' := by
  induction h generalizing i j with
  | nil => simp at hi
  | cons hstep hrest ih =>
      cases j with
      | zero => omega
      | succ j =>
          simp only [List.getElem?_cons_succ] at hj
          cases i with
          | zero =>
              simp only [List.getElem?_cons_zero, Option.some.injEq] at hi
              subst hi
              obtain ⟨hv, _, hb, _, hget, _⟩ := hstep.accepted
              intro e; subst e
              have := hrest.vacant_at_start hj _ hget
              rw [occupied_normalise hv] at this; cases this
          | succ i =>
              simp only [List.getElem?_cons_succ] at hi
              exact ih (by omega) hi hj

/-! ### histories on the model -/

theorem run_history {srt : Sorter} (hs : SortSpec srt) (qs : List Req) {s : State} (h : Inv s) :
    ∃ rs, results srt s qs = rs.map .ok ∧ Inv (run srt s qs) ∧
      SpecRun s.users s.letters s.brd s.dirs qs rs (run srt s qs).brd (run srt s qs).dirs ∧
      (run srt s qs).users = s.users ∧ (run srt s qs).letters = s.letters := by
  induction qs generalizing s with
  | nil => exact ⟨[], rfl, h, SpecRun.nil _ _, rfl, rfl⟩
  | cons q qs ih =>
      obtain ⟨res, hres, st⟩ := newBoard_step hs h q
      obtain ⟨rs, hrs, hI', hrun, hu', hl'⟩ := ih st.inv
      rw [st.users, st.letters] at hrun
      refine ⟨res :: rs, ?_, hI', SpecRun.cons st.spec hrun, hu'.trans st.users, hl'.trans st.letters⟩
      simp only [results, hres, hrs, List.map_cons]

/-! ### the insertion sort satisfies `SortSpec` -/

theorem insertBy_perm (key : Nat → Bytes) (x : Nat) (l : List Nat) : (insertBy key x l).Perm (x :: l) := by
  induction l with
  | nil => exact List.Perm.refl _
  | cons y ys ih =>
      unfold insertBy
      split
      · exact List.Perm.refl _
      · exact (List.Perm.cons y ih).trans (List.Perm.swap x y ys)

theorem insertBy_sorted (key : Nat → Bytes) (x : Nat) (l : List Nat)
    (h : l.Pairwise fun a b => ¬ key b < key a) : (insertBy key x l).Pairwise fun a b => ¬ key b < key a := by
  induction l with
  | nil => simp [insertBy]
  | cons y ys ih =>
      rw [List.pairwise_cons] at h
      unfold insertBy
      split
      · rename_i hxy
        rw [List.pairwise_cons]
        refine ⟨?_, List.pairwise_cons.mpr h⟩
        intro z hz
        rcases List.mem_cons.mp hz with rfl | hz
        · exact List.lt_asymm hxy
        · intro hzx
          exact h.1 z hz (List.lt_trans hzx hxy)
      · rename_i hxy
        rw [List.pairwise_cons]
        refine ⟨?_, ih h.2⟩
        intro z hz
        rcases List.mem_cons.mp ((insertBy_perm key x ys).mem_iff.mp hz) with rfl | hz
        · exact hxy
        · exact h.1 z hz

theorem insSort_spec : SortSpec insSort := by
  intro key n
  unfold insSort
  generalize List.range n = l
  induction l with
  | nil => exact ⟨List.Perm.refl _, List.Pairwise.nil⟩
  | cons x xs ih =>
      simp only [List.foldr_cons]
      exact ⟨(insertBy_perm key x _).trans (List.Perm.cons x ih.1), insertBy_sorted key x _ ih.2⟩

/-! ### the state after ReloadBCache -/

theorem inv_reload {srt : Sorter} (hs : SortSpec srt) (brd : List Rec) (users : List Bytes) (letters : List Nat)
    (dirs : List Bytes) (hlen : brd.length ≤ MAXB)
    (hd : ∀ (i j : Nat) (ri rj : Rec), brd[i]? = some ri → brd[j]? = some rj → occupied ri = true →
      nameKey ri.name = nameKey rj.name → i = j) :
    Inv (reload srt (fresh brd users letters dirs)) := by
  have hmin : min brd.length MAXB = brd.length := Nat.min_eq_left hlen
  have htake : brd.take MAXB = brd := List.take_of_length_le hlen
  unfold reload
  simp only [fresh, hmin, htake, List.drop_replicate]
  refine Inv.of_getD rfl rfl hlen ?_ ?_ ?_ (sortBCache_sorted hs _) hd
  · show (clearFC brd.length (brd ++ List.replicate (MAXB - brd.length) Rec.zero)).length = MAXB
    simp [clearFC]; omega
  · show (List.replicate MAXB [0, 0, 0, 0]).length = MAXB
    simp
  · intro i
    show CacheOK ((clearFC brd.length (brd ++ List.replicate (MAXB - brd.length) Rec.zero)).getD i Rec.zero)
      (brd.getD i Rec.zero)
    rw [List.getD_eq_getElem?_getD, List.getD_eq_getElem?_getD]
    by_cases hi : i < brd.length
    · simp only [getElem?_clearFC, if_pos hi, List.getElem?_append_left hi, List.getElem?_eq_getElem hi]
      exact Or.inl rfl
    · have hz : (brd ++ List.replicate (MAXB - brd.length) Rec.zero)[i]?.getD Rec.zero = Rec.zero := by
        rw [List.getElem?_append_right (Nat.not_lt.mp hi), List.getElem?_replicate]
        split <;> rfl
      simp only [getElem?_clearFC, if_neg hi, Option.map_id', hz, List.getElem?_eq_none (Nat.not_lt.mp hi)]
      exact Or.inl rfl

end PttVerif.C12
