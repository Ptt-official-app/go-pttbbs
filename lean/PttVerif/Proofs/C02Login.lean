import PttVerif.Model.C02Login
import PttVerif.Proofs.C02
/-
C02 — lemmas about the login model (Model/C02Login.lean).  They go as far as `CheckPasswd h pw` and
`GenPasswdWith num new` and stop there: what an accepting `CheckPasswd` means in terms of hashes is stated in
Props/C02.lean, which imports this file, so the login theorems that need it are proved there.
-/
namespace PttVerif.C02.Login
open PttVerif PttVerif.C02

/-! ### the store -/

theorem lookup_set_self (st : Store) (u h : List Nat) : lookup (set st u h) u = some h := by
  fun_induction set st u h <;> simp [lookup, *]

theorem lookup_set_other (st : Store) (u v h : List Nat) (hne : v ≠ u) : lookup (set st u h) v = lookup st v := by
  fun_induction set st u h <;> simp [lookup, Ne.symm hne, *]

/-! ### the operations on a user with a record -/

theorem loginQuery_of_lookup {st : Store} {u h : List Nat} (hl : lookup st u = some h) (pw : List Nat) :
    loginQuery st u pw = CheckPasswd h pw := by
  simp [loginQuery, hl]

theorem loginQuery_set (st : Store) (u h pw : List Nat) : loginQuery (set st u h) u pw = CheckPasswd h pw :=
  loginQuery_of_lookup (lookup_set_self st u h) pw

/-- `b` is a `Bool`: once the caller knows it, the `if` reduces and the lemma is used by `exact` / `obtain` directly. -/
theorem changePasswd_ok {st st' : Store} {u old new : List Nat} {num : Nat} {b : Bool}
    (hc : changePasswd st u old new num = .ok (st', b)) :
    if b then ∃ h g, lookup st u = some h ∧ CheckPasswd h old = .ok true ∧ GenPasswdWith num new = .ok g ∧
        st' = set st u g
    else st' = st := by
  unfold changePasswd at hc
  split at hc
  · cases hc
    rfl
  · next h hl =>
    obtain ⟨ok, hck, hc⟩ := (bind_ok_iff ..).mp hc
    cases ok with
    | false =>
      cases hc
      rfl
    | true =>
      obtain ⟨g, hg, hc⟩ := (bind_ok_iff ..).mp hc
      cases hc
      exact ⟨h, g, hl, hck, hg, rfl⟩

theorem ofBool_eq_ok {r : M Bool} : ofBool r = .ok ↔ r = .ok true := by
  cases r with
  | error e => simp [ofBool]
  | ok b => cases b <;> simp [ofBool]

/-! ### histories -/

theorem run_append (st : Store) (a b : List Op) :
    run st (a ++ b) = ((run (run st a).1 b).1, (run st a).2 ++ (run (run st a).1 b).2) := by
  induction a generalizing st with
  | nil => simp [run]
  | cons op a ih =>
    simp only [List.cons_append, run]
    rw [ih]

theorem run_single (st : Store) (op : Op) : run st [op] = ((step st op).1, [(step st op).2]) := by
  simp [run]

/-! ### the two broken rules -/

/-- the memory answers before the store is read: what is stored by the second login (`st'`) does not matter. -/
theorem loginRemembering_stale (mem st st' : Store) (u pw : List Nat) (h : loginQuery st u pw = .ok true) :
    (loginRemembering mem st u pw).2 = .ok ∧ (loginRemembering (loginRemembering mem st u pw).1 st' u pw).2 = .ok := by
  by_cases hl : lookup mem u = some pw
  · simp [loginRemembering, hl]                                -- the memory held `pw` before the first login
  · simp [loginRemembering, hl, h, ofBool, lookup_set_self]    -- it holds it after

/-- with the carried record written back (`reread = false`), a login of `u` in flight over a successful
`ChangePasswd` of `u` writes the hash `hA` it loaded over the new hash `g` that the change stored. -/
theorem loginInFlight_carried (st : Store) (u A B hA g : List Nat) (num : Nat) (hl : lookup st u = some hA)
    (hv : CheckPasswd hA A = .ok true) (hg : GenPasswdWith num B = .ok g) :
    run st [.chpw u A B num] = (set st u g, [.ok]) ∧
      loginInFlight false st u A [.chpw u A B num] = (set (set st u g) u hA, .ok, [.ok]) := by
  have hr : run st [.chpw u A B num] = (set st u g, [.ok]) := by
    simp [run, step, changePasswd, hl, hv, hg, bind, Except.bind, pure, Except.pure]
  simp [hr, loginInFlight, loginBegin, loginEnd, loginQuery_of_lookup hl, hv, ofBool, hl, lookup_set_self]

end PttVerif.C02.Login
