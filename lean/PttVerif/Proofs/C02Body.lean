import PttVerif.Proofs.C02RoundFn
import PttVerif.Proofs.C02Key
/-
C02 — `body`: sixteen rounds, twenty-five passes, final permutation = 25 textbook salted DES encryptions
of the zero block.
-/
namespace PttVerif.C02.Lin
open PttVerif PttVerif.C02 PttVerif.Gen.CryptTables

theorem f_lt (m R K : Nat) : Spec.f m R K < 2 ^ 32 := permF_lt Spec.P 32 _

section
variable (σ : Nat)

/-- `Eswap0` of `cFcrypt` for the packed salt `σ = v0 + 64·v1`. -/
abbrev swap0 := σ &&& 63
/-- `Eswap1` of `cFcrypt` for the packed salt `σ`. -/
abbrev swap1 := shl (σ >>> 6) 4
abbrev smask := Spec.saltMaskOf (σ &&& 63) (σ >>> 6)

theorem roundPair_spec (hσ : σ < 2 ^ 12) (s : List Nat) (i L R Ka Kb : Nat) (hL : L < 2 ^ 32) (hR : R < 2 ^ 32)
    (hKa : Ka < 2 ^ 48) (hKb : Kb < 2 ^ 48)
    (h0 : s.getD i 0 = kw0 Ka) (h1 : s.getD (i + 1) 0 = kw1 Ka)
    (h2 : s.getD (i + 2) 0 = kw0 Kb) (h3 : s.getD (i + 2 + 1) 0 = kw1 Kb) :
    roundPair s (swap0 σ) (swap1 σ) (rho L, rho R) i =
      (rho (Spec.rounds (smask σ) [Ka, Kb] (L, R)).1, rho (Spec.rounds (smask σ) [Ka, Kb] (L, R)).2) := by
  unfold roundPair
  simp only [Spec.rounds]
  rw [dEncrypt_spec (rho L) R Ka σ i s hR hKa hσ h0 h1, ← rho_xor L _ hL (f_lt _ _ _)]
  rw [dEncrypt_spec (rho R) (L ^^^ Spec.f (smask σ) R Ka) Kb σ (i + 2) s (Nat.xor_lt_two_pow hL (f_lt _ _ _)) hKb hσ h2 h3,
    ← rho_xor R _ hR (f_lt _ _ _)]

theorem rounds_lt (m : Nat) : ∀ (KS : List Nat) (L R : Nat), L < 2 ^ 32 → R < 2 ^ 32 →
    (Spec.rounds m KS (L, R)).1 < 2 ^ 32 ∧ (Spec.rounds m KS (L, R)).2 < 2 ^ 32 := by
  intro KS
  induction KS with
  | nil => intro L R hL hR; exact ⟨hL, hR⟩
  | cons K KS ih =>
    intro L R hL hR
    simp only [Spec.rounds]
    exact ih R _ hR (Nat.xor_lt_two_pow hL (f_lt _ _ _))

theorem rounds_append (m : Nat) : ∀ (A B : List Nat) (lr : Nat × Nat),
    Spec.rounds m (A ++ B) lr = Spec.rounds m B (Spec.rounds m A lr) := by
  intro A
  induction A with
  | nil => intro B lr; rfl
  | cons K A ih => intro B (l, r); simp only [List.cons_append, Spec.rounds]; exact ih B _

/-- the inner loop over any even number of round keys whose words the schedule holds from word `off` on. -/
theorem inner_spec (hσ : σ < 2 ^ 12) (s : List Nat) : ∀ (n : Nat) (KS : List Nat) (off L R : Nat), KS.length = 2 * n →
    (∀ K ∈ KS, K < 2 ^ 48) → L < 2 ^ 32 → R < 2 ^ 32 → s.drop off = ksWords KS →
    (List.range' off n 4).foldl (roundPair s (swap0 σ) (swap1 σ)) (rho L, rho R) =
      (rho (Spec.rounds (smask σ) KS (L, R)).1, rho (Spec.rounds (smask σ) KS (L, R)).2) := by
  intro n
  induction n with
  | zero =>
    intro KS off L R hl _ _ _ _
    have : KS = [] := List.eq_nil_of_length_eq_zero (by omega)
    subst this; rfl
  | succ n ih =>
    intro KS off L R hl hK hL hR hs
    match KS, hl with
    | Ka :: Kb :: rest, hl =>
      have hg : ∀ j, s.getD (off + j) 0 = (ksWords (Ka :: Kb :: rest)).getD j 0 := fun j => by
        rw [← hs, List.getD_eq_getElem?_getD, List.getD_eq_getElem?_getD, List.getElem?_drop]
      have hb := rounds_lt (smask σ) [Ka, Kb] L R hL hR
      rw [List.range'_succ, List.foldl_cons,
        roundPair_spec σ hσ s off L R Ka Kb hL hR (hK Ka (by simp)) (hK Kb (by simp)) (hg 0) (hg 1) (hg 2) (hg 3),
        ih rest (off + 4) _ _ (by simp at hl; omega) (fun K hK' => hK K (by simp [hK'])) hb.1 hb.2
          (by rw [← List.drop_drop, hs]; rfl),
        show Ka :: Kb :: rest = [Ka, Kb] ++ rest from rfl, rounds_append]

theorem innerIdx_eq : innerIdx = List.range' 0 8 4 := by decide +kernel

/-- one textbook pass on the halves: sixteen rounds, then the halves exchanged (the pre-output). -/
def specPass (m : Nat) (KS : List Nat) (lr : Nat × Nat) : Nat × Nat :=
  ((Spec.rounds m KS lr).2, (Spec.rounds m KS lr).1)

theorem iter_sim {α β : Type} (r : α → β → Prop) (f : α → α) (g : β → β) (h : ∀ a b, r a b → r (f a) (g b)) :
    ∀ n a b, r a b → r (Spec.iter f n a) (Spec.iter g n b) := by
  intro n
  induction n with
  | zero => intro a b hr; exact hr
  | succ n ih => intro a b hr; exact ih _ _ (h a b hr)

theorem passes_eq_iter (s : List Nat) (E0 E1 : Nat) :
    ∀ n lr, passes s E0 E1 n lr = Spec.iter (desPass s E0 E1) n lr := by
  intro n
  induction n with
  | zero => intro lr; rfl
  | succ n ih => intro lr; exact ih _

theorem desPass_spec (hσ : σ < 2 ^ 12) (KS : List Nat) (hl : KS.length = 16) (hK : ∀ K ∈ KS, K < 2 ^ 48)
    (lr : Nat × Nat) (hL : lr.1 < 2 ^ 32) (hR : lr.2 < 2 ^ 32) :
    desPass (ksWords KS) (swap0 σ) (swap1 σ) (rho lr.1, rho lr.2) =
      (rho (specPass (smask σ) KS lr).1, rho (specPass (smask σ) KS lr).2) := by
  obtain ⟨L, R⟩ := lr
  unfold desPass
  rw [innerIdx_eq, inner_spec σ hσ (ksWords KS) 8 KS 0 L R (by omega) hK hL hR rfl]
  simp only [specPass]

theorem specPass_lt (m : Nat) (KS : List Nat) (lr : Nat × Nat) (hL : lr.1 < 2 ^ 32) (hR : lr.2 < 2 ^ 32) :
    (specPass m KS lr).1 < 2 ^ 32 ∧ (specPass m KS lr).2 < 2 ^ 32 := by
  obtain ⟨L, R⟩ := lr
  exact ⟨(rounds_lt m KS L R hL hR).2, (rounds_lt m KS L R hL hR).1⟩

theorem passes_spec (hσ : σ < 2 ^ 12) (KS : List Nat) (hl : KS.length = 16) (hK : ∀ K ∈ KS, K < 2 ^ 48) (n : Nat) :
    passes (ksWords KS) (swap0 σ) (swap1 σ) n (0, 0) =
        (rho (Spec.iter (specPass (smask σ) KS) n (0, 0)).1, rho (Spec.iter (specPass (smask σ) KS) n (0, 0)).2) ∧
      (Spec.iter (specPass (smask σ) KS) n (0, 0)).1 < 2 ^ 32 ∧ (Spec.iter (specPass (smask σ) KS) n (0, 0)).2 < 2 ^ 32 := by
  rw [passes_eq_iter]
  refine iter_sim (fun (p lr : Nat × Nat) => p = (rho lr.1, rho lr.2) ∧ lr.1 < 2 ^ 32 ∧ lr.2 < 2 ^ 32)
    (desPass (ksWords KS) (swap0 σ) (swap1 σ)) (specPass (smask σ) KS) ?_ n (0, 0) (0, 0)
    ⟨by rw [rho_zero], Nat.two_pow_pos 32, Nat.two_pow_pos 32⟩
  intro p lr ⟨e, hL, hR⟩
  exact ⟨by rw [e, desPass_spec σ hσ KS hl hK lr hL hR], specPass_lt _ KS lr hL hR⟩

theorem des_unfold (m : Nat) (ks : List Nat) (block : Nat) :
    Spec.des m ks block =
      Spec.permF Spec.FP 64
        ((Spec.rounds m ks (Spec.permF Spec.IP 64 block / 4294967296, Spec.permF Spec.IP 64 block % 4294967296)).2 *
            4294967296 +
          (Spec.rounds m ks (Spec.permF Spec.IP 64 block / 4294967296, Spec.permF Spec.IP 64 block % 4294967296)).1) := by
  unfold Spec.des
  dsimp only

/-- one textbook DES encryption of the block whose IP-image is `L‖R`. -/
theorem des_spec (m : Nat) (KS : List Nat) (lr : Nat × Nat) (hL : lr.1 < 2 ^ 32) (hR : lr.2 < 2 ^ 32) :
    Spec.des m KS (Spec.permF Spec.FP 64 (lr.1 * 4294967296 + lr.2)) =
      Spec.permF Spec.FP 64 ((specPass m KS lr).1 * 4294967296 + (specPass m KS lr).2) := by
  obtain ⟨L, R⟩ := lr
  have hX : L * 4294967296 + R < 2 ^ 64 := pack_lt hL hR
  show Spec.des m KS (Spec.permF Spec.FP 64 (L * 4294967296 + R)) = _
  rw [des_unfold, ip_fp_cancel _ hX, show (L * 4294967296 + R) / 4294967296 = L by omega,
    show (L * 4294967296 + R) % 4294967296 = R by omega]
  simp only [specPass]

/-- FP of the zero block, in the shape the relation of `iter_des_spec` has at the start `(0, 0)`. -/
theorem fp_zero : Spec.permF Spec.FP 64 (0 * 4294967296 + 0) = 0 := by decide +kernel

theorem iter_des_spec (m : Nat) (KS : List Nat) (n : Nat) :
    Spec.iter (Spec.des m KS) n 0 =
      Spec.permF Spec.FP 64 ((Spec.iter (specPass m KS) n (0, 0)).1 * 4294967296 +
        (Spec.iter (specPass m KS) n (0, 0)).2) := by
  refine (iter_sim (fun (blk : Nat) (lr : Nat × Nat) => blk = Spec.permF Spec.FP 64 (lr.1 * 4294967296 + lr.2) ∧
    lr.1 < 2 ^ 32 ∧ lr.2 < 2 ^ 32) (Spec.des m KS) (specPass m KS) ?_ n 0 (0, 0)
    ⟨fp_zero.symm, Nat.two_pow_pos 32, Nat.two_pow_pos 32⟩).1
  intro blk lr ⟨e, hL, hR⟩
  exact ⟨by rw [e, des_spec m KS lr hL hR], specPass_lt m KS lr hL hR⟩

/-- `body` with the schedule words of sixteen round keys: its eight output bytes, read big-endian, are the result of
25 textbook salted DES encryptions of the zero block. -/
theorem body_spec (hσ : σ < 2 ^ 12) (KS : List Nat) (hl : KS.length = 16) (hK : ∀ K ∈ KS, K < 2 ^ 48) :
    outVal (body (ksWords KS) (swap0 σ) (swap1 σ)) = Spec.iter (Spec.des (smask σ) KS) 25 0 := by
  unfold body
  have h := passes_spec σ hσ KS hl hK 25
  rw [h.1, finalPerm_eq_FP _ _ h.2.1 h.2.2, iter_des_spec]

theorem body_lt (hσ : σ < 2 ^ 12) (KS : List Nat) (hl : KS.length = 16) (hK : ∀ K ∈ KS, K < 2 ^ 48) :
    (body (ksWords KS) (swap0 σ) (swap1 σ)).1 < 2 ^ 32 ∧ (body (ksWords KS) (swap0 σ) (swap1 σ)).2 < 2 ^ 32 := by
  unfold body
  have h := passes_spec σ hσ KS hl hK 25
  rw [h.1]
  exact finalPerm_lt _ _ h.2.1 h.2.2

end
end PttVerif.C02.Lin
