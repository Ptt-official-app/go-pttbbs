import PttVerif.Proofs.C12Cstr
import PttVerif.Proofs.C12Attr
/-
C12 — the name index: the bisection of getBidByNameCore finds a slot carrying the key iff one exists, for every
index that is a sorted permutation; reading a well-formed state (`Inv`) slot by slot; `cache.GetBid` on it.
-/
namespace PttVerif.C12
open PttVerif

/-- what `getBid` needs from a state: below BNumber every position of the name index resolves to a slot and
its name, in non-decreasing key order. -/
structure Looks (s : State) (sl : Nat → Nat) (nm : Nat → Bytes) : Prop where
  probe : ∀ p, p < s.bnumber → look s p = .ok (sl p, nm p)
  mono : ∀ p q, p < q → q < s.bnumber → ¬ nameKey (nm q) < nameKey (nm p)

theorem Looks.lt_of_key_lt {s : State} {sl : Nat → Nat} {nm : Nat → Bytes} (h : Looks s sl nm) {p q : Nat}
    (hp : p < s.bnumber) (hlt : nameKey (nm p) < nameKey (nm q)) : p < q := by
  rcases Nat.lt_trichotomy p q with hpq | hpq | hpq
  · exact hpq
  · exact absurd (hpq ▸ hlt) (List.lt_irrefl _)
  · exact absurd hlt (h.mono q p hpq hp)

theorem mid_le {st en i : Nat} (hi : (st + en) / 2 = i) (h : st ≤ en) : st ≤ i ∧ i ≤ en := by omega

/-- the fuel of `bisect`: a window `[st, en]` has enough when `en - st + 2 ≤ fuel` (`getBid` starts `[0, n-1]` with
`n + 2`), and so have the windows the loop goes on with. -/
theorem mid_step {st en i fuel : Nat} (hi : (st + en) / 2 = i) (h : st ≤ en) (hne : en ≠ st)
    (hf : en + 2 ≤ fuel + 1 + st) :
    (i = st → en = st + 1 ∧ en + 2 ≤ fuel + en) ∧ (i ≠ st → en + 2 ≤ fuel + i) ∧ i + 2 ≤ fuel + st := by
  omega

theorem bisect_spec (s : State) (key : Bytes) (sl : Nat → Nat) (nm : Nat → Bytes) (h : Looks s sl nm) :
    ∀ fuel st en, st ≤ en → en < s.bnumber → en + 2 ≤ fuel + st →
      (∀ p, p < s.bnumber → nameKey (nm p) = nameKey key → st ≤ p ∧ p ≤ en) →
      ∃ b, bisect s key fuel st en ((st + en) / 2) = .ok b ∧
        ((b = 0 ∧ ∀ p, p < s.bnumber → nameKey (nm p) ≠ nameKey key) ∨
         (∃ p, p < s.bnumber ∧ b = sl p + 1 ∧ nameKey (nm p) = nameKey key)) := by
  intro fuel
  induction fuel with
  | zero => intro st en hse _ hf; omega
  | succ fuel ih =>
      intro st en hse hen hf hc
      generalize hi : (st + en) / 2 = i
      obtain ⟨hsi, hie⟩ := mid_le hi hse
      have hib : i < s.bnumber := Nat.lt_of_le_of_lt hie hen
      rw [bisect]
      simp only [h.probe i hib, bind, Except.bind]
      by_cases hj0 : ccmp key (nm i) = 0
      · rw [if_pos hj0]
        exact ⟨sl i + 1, rfl, Or.inr ⟨i, hib, rfl, ((ccmp_sign _ _).1.mp hj0).symm⟩⟩
      rw [if_neg hj0]
      have hne : nameKey (nm i) ≠ nameKey key := fun e => hj0 ((ccmp_sign _ _).1.mpr e.symm)
      -- a position carrying the key lies on the side of `i` the comparison points to
      have hleft : ccmp key (nm i) < 0 → ∀ p, p < s.bnumber → nameKey (nm p) = nameKey key → p < i :=
        fun hneg p hp e => h.lt_of_key_lt hp (e ▸ (ccmp_sign _ _).2.1.mp hneg)
      have hright : 0 < ccmp key (nm i) → ∀ p, p < s.bnumber → nameKey (nm p) = nameKey key → i < p :=
        fun hpos p _ e => h.lt_of_key_lt hib (e ▸ (ccmp_sign _ _).2.2.mp hpos)
      by_cases hes : en = st
      · rw [if_pos hes]
        refine ⟨0, rfl, Or.inl ⟨rfl, fun p hp e => ?_⟩⟩
        have hpi : p = i :=
          Nat.le_antisymm (Nat.le_trans (hc p hp e).2 (hes ▸ hsi)) (Nat.le_trans hie (hes ▸ (hc p hp e).1))
        exact hne (hpi ▸ e)
      rw [if_neg hes]
      obtain ⟨hfst, hfr, hfl⟩ := mid_step hi hse hes hf
      by_cases his : i = st
      · -- here it matters that the probe IS the midpoint: only then is `en = st + 1`, and `[en, en]` loses nothing
        rw [if_pos his]
        by_cases hneg : ccmp key (nm i) < 0
        · rw [if_pos hneg]
          refine ⟨0, rfl, Or.inl ⟨rfl, fun p hp e => ?_⟩⟩
          exact absurd (hleft hneg p hp e) (Nat.not_lt.mpr (his ▸ (hc p hp e).1))
        · rw [if_neg hneg]
          have hpos : 0 < ccmp key (nm i) := Int.lt_iff_le_and_ne.mpr ⟨Int.not_lt.mp hneg, Ne.symm hj0⟩
          apply ih en en (Nat.le_refl _) hen (hfst his).2
          intro p hp e
          have hip : st + 1 ≤ p := his ▸ hright hpos p hp e
          exact ⟨(hfst his).1 ▸ hip, (hc p hp e).2⟩
      rw [if_neg his]
      by_cases hpos : ccmp key (nm i) > 0
      · rw [if_pos hpos]
        apply ih i en hie hen (hfr his)
        intro p hp e
        exact ⟨Nat.le_of_lt (hright hpos p hp e), (hc p hp e).2⟩
      · rw [if_neg hpos]
        apply ih st i hsi hib hfl
        intro p hp e
        exact ⟨(hc p hp e).1, Nat.le_of_lt (hleft (Int.lt_iff_le_and_ne.mpr ⟨Int.not_lt.mp hpos, hj0⟩) p hp e)⟩

/-! ### reading a well-formed state -/

theorem CacheOK.name {c r : Rec} (h : CacheOK c r) : c.name = r.name := by
  rcases h with h | ⟨_, h⟩ <;> subst h <;> rfl

theorem CacheOK.title {c r : Rec} (h : CacheOK c r) : c.title = r.title := by
  rcases h with h | ⟨_, h⟩ <;> subst h <;> rfl

theorem CacheOK.bm {c r : Rec} (h : CacheOK c r) : c.bm = r.bm := by
  rcases h with h | ⟨_, h⟩ <;> subst h <;> rfl

theorem CacheOK.fc {c r : Rec} (h : CacheOK c r) : c.fc = zeros 8 := by
  rcases h with h | ⟨_, h⟩ <;> subst h <;> rfl

theorem CacheOK.shmOf_eq {c r : Rec} (h : CacheOK c r) : shmOf c = c := by
  have hfc := h.fc
  cases c
  cases hfc
  rfl

theorem CacheOK.group {c r : Rec} (h : CacheOK c r) : hasBit c.attr BRD_GROUP = hasBit r.attr BRD_GROUP := by
  rcases h with h | ⟨_, h⟩
  · subst h; rfl
  · subst h
    show hasBit (r.attr ||| BRD_POSTMASK) BRD_GROUP = _
    rw [hasBit_or, show hasBit BRD_POSTMASK BRD_GROUP = false by decide, Bool.or_false]

theorem Inv.key_at {s : State} (h : Inv s) {k : Nat} {r : Rec} (hr : s.brd[k]? = some r) :
    nameKeyAt s.cache k = nameKey r.name := by
  obtain ⟨c, hc, hok⟩ := h.copy k r hr
  simp only [nameKeyAt, List.getD_eq_getElem?_getD, hc, Option.getD_some, hok.name]

theorem Inv.lt_of_get {s : State} (h : Inv s) {k : Nat} {r : Rec} (hr : s.brd[k]? = some r) : k < s.bnumber := by
  rw [← h.len]
  exact (List.getElem?_eq_some_iff.mp hr).1

theorem Inv.get_of_lt {s : State} (h : Inv s) {k : Nat} (hk : k < s.bnumber) : ∃ r, s.brd[k]? = some r := by
  rw [← h.len] at hk
  exact ⟨s.brd[k], List.getElem?_eq_getElem hk⟩

/-- read with `getD`, EVERY slot of the shared copy mirrors that slot of `.BRD`: past the records both are zero. -/
theorem Inv.getD_ok {s : State} (h : Inv s) (i : Nat) :
    CacheOK (s.cache.getD i Rec.zero) (s.brd.getD i Rec.zero) := by
  rw [List.getD_eq_getElem?_getD, List.getD_eq_getElem?_getD]
  by_cases hi : i < s.bnumber
  · obtain ⟨x, hx⟩ := h.get_of_lt hi
    obtain ⟨c, hc, hok⟩ := h.copy i x hx
    rw [hx, hc]; exact hok
  · have hb : s.brd[i]? = none := List.getElem?_eq_none (by rw [h.len]; omega)
    have hc : s.cache[i]?.getD Rec.zero = Rec.zero := by
      by_cases him : i < MAXB
      · rw [h.beyond i (by omega) him]; rfl
      · rw [List.getElem?_eq_none (by rw [h.clen]; omega)]; rfl
    rw [hb, hc]; exact Or.inl rfl

theorem CacheOK.of_zero {c : Rec} (h : CacheOK c Rec.zero) : c = Rec.zero := by
  rcases h with h | ⟨hh, _⟩
  · exact h
  · exact absurd hh (by decide)

/-- the two index clauses of `Inv`. -/
abbrev IndexOK (s : State) : Prop :=
  ((s.sortedN.take s.bnumber).Perm (List.range s.bnumber) ∧
    (s.sortedN.take s.bnumber).Pairwise fun a b => ¬ nameKeyAt s.cache b < nameKeyAt s.cache a) ∧
  ((s.sortedC.take s.bnumber).Perm (List.range s.bnumber) ∧
    (s.sortedC.take s.bnumber).Pairwise fun a b => ¬ classKeyAt s.cache b < classKeyAt s.cache a)

/-- conversely (`copy` and `beyond` in one): how a state is shown well-formed after an update. -/
theorem Inv.of_getD {s : State} (tail : s.tail = []) (len : s.brd.length = s.bnumber) (cap : s.bnumber ≤ MAXB)
    (clen : s.cache.length = MAXB) (blen : s.bmcache.length = MAXB)
    (ok : ∀ i, CacheOK (s.cache.getD i Rec.zero) (s.brd.getD i Rec.zero)) (sorted : IndexOK s)
    (distinct : ∀ (i j : Nat) (ri rj : Rec), s.brd[i]? = some ri → s.brd[j]? = some rj → occupied ri = true →
      nameKey ri.name = nameKey rj.name → i = j) : Inv s := by
  have get : ∀ i, i < MAXB → s.cache[i]? = some (s.cache.getD i Rec.zero) := fun i hi => by
    rw [List.getD_eq_getElem?_getD, List.getElem?_eq_getElem (clen ▸ hi)]; rfl
  refine ⟨tail, len, cap, clen, blen, fun k r hr => ?_, fun k hk hkm => ?_, sorted.1, sorted.2, distinct⟩
  · have hk : k < MAXB := Nat.lt_of_lt_of_le (len ▸ (List.getElem?_eq_some_iff.mp hr).1) cap
    have hok := ok k
    rw [List.getD_eq_getElem?_getD (l := s.brd), hr] at hok
    exact ⟨_, get k hk, hok⟩
  · have hok := ok k
    rw [List.getD_eq_getElem?_getD (l := s.brd), List.getElem?_eq_none (len ▸ hk)] at hok
    rw [get k hkm, hok.of_zero]

/-- both sort keys read name and title only. -/
theorem keys_congr {c b : List Rec}
    (h : ∀ i, (c.getD i Rec.zero).name = (b.getD i Rec.zero).name ∧
      (c.getD i Rec.zero).title = (b.getD i Rec.zero).title) :
    nameKeyAt c = nameKeyAt b ∧ classKeyAt c = classKeyAt b :=
  ⟨funext fun i => by simp only [nameKeyAt, (h i).1],
   funext fun i => by simp only [classKeyAt, (h i).1, (h i).2]⟩

theorem keys_of_getD {c b : List Rec} (ok : ∀ i, CacheOK (c.getD i Rec.zero) (b.getD i Rec.zero)) :
    nameKeyAt c = nameKeyAt b ∧ classKeyAt c = classKeyAt b :=
  keys_congr fun i => ⟨(ok i).name, (ok i).title⟩

theorem getD_of_lt {l : List Nat} {p : Nat} (hp : p < l.length) : l.getD p 0 = l[p] := by
  rw [List.getD_eq_getElem?_getD, List.getElem?_eq_getElem hp]; rfl

theorem Inv.slots {s : State} (h : Inv s) :
    (s.sortedN.take s.bnumber).length = s.bnumber ∧ ∀ k, k ∈ s.sortedN.take s.bnumber ↔ k < s.bnumber :=
  ⟨by rw [h.sortN.1.length_eq, List.length_range], fun k => by rw [h.sortN.1.mem_iff, List.mem_range]⟩

theorem Inv.looks {s : State} (h : Inv s) :
    Looks s (fun p => (s.sortedN.take s.bnumber).getD p 0)
      (fun p => (s.cache.getD ((s.sortedN.take s.bnumber).getD p 0) Rec.zero).name) := by
  obtain ⟨hlen, hmem⟩ := h.slots
  constructor
  · intro p hp
    have hp' : p < (s.sortedN.take s.bnumber).length := by rw [hlen]; exact hp
    have h2 : s.sortedN[p]? = some ((s.sortedN.take s.bnumber)[p]) := by
      rw [← List.getElem?_eq_getElem hp', List.getElem?_take_of_lt hp]
    have hb : (s.sortedN.take s.bnumber)[p] < s.cache.length := by
      rw [h.clen]; exact Nat.lt_of_lt_of_le ((hmem _).mp (List.getElem_mem hp')) h.cap
    simp only [getD_of_lt hp', List.getD_eq_getElem?_getD, look, idx, h2, bind, Except.bind,
      List.getElem?_eq_getElem hb, pure, Except.pure, Option.getD_some]
  · intro p q hpq hq
    have hq' : q < (s.sortedN.take s.bnumber).length := by rw [hlen]; exact hq
    have hp' : p < (s.sortedN.take s.bnumber).length := Nat.lt_trans hpq hq'
    show ¬ nameKeyAt s.cache ((s.sortedN.take s.bnumber).getD q 0) <
        nameKeyAt s.cache ((s.sortedN.take s.bnumber).getD p 0)
    rw [getD_of_lt hp', getD_of_lt hq']
    exact (List.pairwise_iff_getElem.mp h.sortN.2) p q hp' hq' hpq

/-- `cache.GetBid` on a well-formed state: 0 iff no record of `.BRD` carries the key, else the slot of one that
does. -/
theorem getBid_brd {s : State} (h : Inv s) (key : Bytes) :
    ∃ b, getBid s key = .ok b ∧
      ((b = 0 ∧ ∀ (k : Nat) (r : Rec), s.brd[k]? = some r → nameKey r.name ≠ nameKey key) ∨
       (∃ (k : Nat) (r : Rec), s.brd[k]? = some r ∧ b = k + 1 ∧ nameKey r.name = nameKey key)) := by
  unfold getBid
  by_cases h0 : s.bnumber = 0
  · rw [if_pos h0]
    exact ⟨0, rfl, Or.inl ⟨rfl, fun k r hr => absurd (h.lt_of_get hr) (h0 ▸ Nat.not_lt_zero k)⟩⟩
  · rw [if_neg h0]
    obtain ⟨hlen, hmem⟩ := h.slots
    obtain ⟨b, hb, hcase⟩ := bisect_spec s key _ _ h.looks (s.bnumber + 2) 0 (s.bnumber - 1)
      (Nat.zero_le _) (by omega) (by omega) (fun p hp _ => ⟨Nat.zero_le _, by omega⟩)
    rw [Nat.zero_add] at hb
    refine ⟨b, hb, ?_⟩
    rcases hcase with ⟨hb0, hnone⟩ | ⟨p, hp, hbp, hkey⟩
    · left
      refine ⟨hb0, fun k r hr => ?_⟩
      obtain ⟨p, hp, hpk⟩ := List.getElem_of_mem ((hmem k).mpr (h.lt_of_get hr))
      rw [← h.key_at hr, ← hpk, ← getD_of_lt hp]
      exact hnone p (hlen ▸ hp)
    · right
      have hp' : p < (s.sortedN.take s.bnumber).length := by rw [hlen]; exact hp
      have hk : (s.sortedN.take s.bnumber).getD p 0 < s.bnumber := by
        rw [getD_of_lt hp']; exact (hmem _).mp (List.getElem_mem hp')
      obtain ⟨r, hr⟩ := h.get_of_lt hk
      exact ⟨_, r, hr, hbp, by rw [← h.key_at hr]; exact hkey⟩

/-- on a well-formed state the name index resolves every occupied slot under its name in any letter case. -/
theorem index_resolves {s : State} (h : Inv s) {k : Nat} {r : Rec} (hr : s.brd[k]? = some r)
    (hocc : occupied r = true) (n : Bytes) (hn : nameKey n = nameKey r.name) : getBid s n = .ok (k + 1) := by
  obtain ⟨b, hb, hcase⟩ := getBid_brd h n
  rcases hcase with ⟨_, hnone⟩ | ⟨k', r', hr', hbk, hkey⟩
  · exact absurd hn.symm (hnone k r hr)
  · have : k = k' := h.distinct k k' r r' hr hr' hocc (by rw [hkey, hn])
    subst this; rw [hb, hbk]

end PttVerif.C12
