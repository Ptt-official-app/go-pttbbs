import PttVerif.Proofs.C01
/-
C01 — the regenerated tables of a configuration against the frozen ones: the type table and the seeks of the
partial accessors.

Kernel evaluation of `String` equality encodes both strings to UTF-8 first, so comparing the field names of two
tables by `decide` costs far more than everything else in these facts.  Field names are therefore compared by
`rfl` (equal literals), only offsets and sizes are evaluated, and `lookup_map_congr` carries the entrywise
agreement over to the lookups the property statements are written with.  For the same reason an entry of a table
is named by its position (`l[i]? = some …` holds by `rfl`), not by membership.
-/
namespace PttVerif.C01
open PttVerif

theorem lookup_map_congr {α β γ : Type} {f : α → γ} {g : β → γ} :
    ∀ (l₁ : List (String × α)) (l₂ : List (String × β)), l₁.map (·.1) = l₂.map (·.1) →
      (l₁.map (·.2)).map f = (l₂.map (·.2)).map g → ∀ n, (l₁.lookup n).map f = (l₂.lookup n).map g
  | [], [], _, _, _ => rfl
  | [], _ :: _, hk, _, _ => nomatch hk
  | _ :: _, [], hk, _, _ => nomatch hk
  | (k, a) :: r₁, (k', b) :: r₂, hk, hv, n => by
      simp only [List.map_cons, List.cons.injEq] at hk hv
      obtain ⟨rfl, hk⟩ := hk
      simp only [List.lookup]
      split
      · exact congrArg some hv.1
      · exact lookup_map_congr r₁ r₂ hk hv.2 n

theorem fieldsA_names : ∀ (fs : Fields) (off : Nat), (fieldsA fs off).map (·.1) = fs.map (·.1)
  | [], _ => rfl
  | _ :: r, _ => congrArg (_ :: ·) (fieldsA_names r _)

def TablesAgree (s : Site) : Prop :=
  s.cfg.types.map (·.1) = (Frozen.byGoName s.k).map (·.1) ∧
  (s.cfg.types.map (·.2)).map (fun t => t.fields.map (·.1)) =
    ((Frozen.byGoName s.k).map (·.2)).map (fun cs => (Frozen.fields cs).map (·.1)) ∧
  (s.cfg.types.map (·.2)).map (fun t => (t.aligned.map (·.2), sizeA t)) =
    ((Frozen.byGoName s.k).map (·.2)).map (fun cs => ((Frozen.fields cs).map (·.2), Frozen.sizeOf cs))

theorem TablesAgree.matchesFrozen {s : Site} (h : TablesAgree s) (n : String) :
    (s.cfg.ty n).map Ty.aligned = (frozenOf s.k n).map Frozen.fields ∧
    (s.cfg.ty n).map sizeA = (frozenOf s.k n).map Frozen.sizeOf := by
  have h1 := lookup_map_congr _ _ h.1 h.2.1 n
  have h2 := lookup_map_congr _ _ h.1 h.2.2 n
  unfold Config.ty frozenOf
  match s.cfg.types.lookup n, (Frozen.byGoName s.k).lookup n, h1, h2 with
  | none, none, _, _ => exact ⟨rfl, rfl⟩
  | some t, some cs, h1, h2 =>
    simp only [Option.map_some, Option.some.injEq, Prod.mk.injEq] at h1 h2 ⊢
    -- same names and same offsets and sizes: both layouts are the names zipped with the numbers
    exact ⟨(List.zip_of_prod ((fieldsA_names _ 0).trans h1) h2.1).trans (List.zip_of_prod rfl rfl).symm, h2.2⟩
  | some _, none, h1, _ => cases h1
  | none, some _, h1, _ => cases h1

namespace Props

/-- the in-memory layout (names, offsets, sizes of all fields; total size) is the frozen pttbbs layout. -/
@[reducible] def MatchesFrozen (s : Site) (name : String) : Prop :=
  (s.cfg.ty name).isSome = true ∧ (s.cfg.ty name).map Ty.aligned = (frozenOf s.k name).map Frozen.fields ∧
  (s.cfg.ty name).map sizeA = (frozenOf s.k name).map Frozen.sizeOf

end Props

theorem TablesAgree.matchesFrozen_at {s : Site} (h : TablesAgree s) (i : Nat) {n : String} {t : Ty}
    (hi : s.cfg.types[i]? = some (n, t)) : Props.MatchesFrozen s n :=
  ⟨List.lookup_isSome_iff.mpr ⟨_, List.mem_of_getElem? hi, beq_self_eq_true n⟩, h.matchesFrozen n⟩

theorem tablesAgree_default : TablesAgree siteDefault := ⟨by rfl, by rfl, by decide +kernel⟩

theorem tablesAgree_docker : TablesAgree siteDocker := ⟨by rfl, by rfl, by decide +kernel⟩

/-! ### the seeks of the partial accessors -/

/-- the statement of `Props.seek_matches_intended_*`.  An entry `e` is (function, record type, stride constant,
fields); the second conjunct says that every field exists in the frozen record (`filterMap` loses none). -/
abbrev SeeksAsIntended (s : Site) : Prop :=
  ∀ e ∈ Frozen.intended,
    s.cfg.seek e.1 = some ⟨e.2.2.1.bind s.cfg.const, e.2.2.2.filterMap (frozenField s.k e.2.1)⟩ ∧
    (e.2.2.2.filterMap (frozenField s.k e.2.1)).length = e.2.2.2.length ∧
    (∀ x ∈ e.2.2.1, s.cfg.const x = (frozenOf s.k e.2.1).map Frozen.sizeOf)

theorem SeeksAsIntended.seek_noStride {s : Site} (h : SeeksAsIntended s) (i : Nat)
    {fn ty : String} {flds : List String} (hi : Frozen.intended[i]? = some (fn, ty, none, flds)) :
    s.cfg.seek fn = some ⟨none, flds.filterMap (frozenField s.k ty)⟩ :=
  (h _ (List.mem_of_getElem? hi)).1

/-- what the accessor theorems of the record file of `ty` need of a site; `imageSize` is about the image
`encoding/binary` writes. -/
structure RecordFacts (s : Site) (ty : String) (sz : Nat) : Prop where
  seeks : SeeksAsIntended s
  frozenSize : (frozenOf s.k ty).map Frozen.sizeOf = some sz
  imageSize : (s.cfg.ty ty).map sizeP = some sz

theorem RecordFacts.seek {s : Site} {ty : String} {sz : Nat} (h : RecordFacts s ty sz) (i : Nat)
    {fn sc : String} {flds : List String} (hi : Frozen.intended[i]? = some (fn, ty, some sc, flds)) :
    s.cfg.seek fn = some ⟨some sz, flds.filterMap (frozenField s.k ty)⟩ := by
  obtain ⟨h1, _, h3⟩ := h.seeks _ (List.mem_of_getElem? hi)
  rw [h1, Option.bind_some, h3 sc rfl, h.frozenSize]

namespace Props

/-- the code of `fn` seeks with the frozen record size as stride to the frozen offset of the intended field. -/
@[reducible] def SeekIsFrozen (s : Site) (fn ty fld : String) (sz off n : Nat) : Prop :=
  s.cfg.seek fn = some ⟨some sz, [(off, n)]⟩ ∧ frozenField s.k ty fld = some (off, n) ∧
  (frozenOf s.k ty).map Frozen.sizeOf = some sz ∧ off + n ≤ sz

end Props

theorem RecordFacts.seek_field {s : Site} {ty : String} {sz : Nat} (h : RecordFacts s ty sz) (i : Nat)
    {fn sc fld : String} (hi : Frozen.intended[i]? = some (fn, ty, some sc, [fld]))
    {off n : Nat} (hf : frozenField s.k ty fld = some (off, n)) (hfit : off + n ≤ sz) :
    Props.SeekIsFrozen s fn ty fld sz off n :=
  ⟨(h.seek i hi).trans (by rw [List.filterMap_cons, hf, List.filterMap_nil]), hf, h.frozenSize, hfit⟩

theorem seeksAsIntended_default : SeeksAsIntended siteDefault := by decide +kernel

theorem seeksAsIntended_docker : SeeksAsIntended siteDocker := by decide +kernel

theorem passwdFacts_default : RecordFacts siteDefault "UserecRaw" 512 :=
  ⟨seeksAsIntended_default, by decide +kernel, by decide +kernel⟩

theorem passwdFacts_docker : RecordFacts siteDocker "UserecRaw" 512 :=
  ⟨seeksAsIntended_docker, by decide +kernel, by decide +kernel⟩

end PttVerif.C01
