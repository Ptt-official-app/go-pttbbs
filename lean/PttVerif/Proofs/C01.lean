import PttVerif.Model.C01Cfg
/-
C01 — lemmas: the alignment rule; packed = aligned for well-padded layout trees; `writeAt` byte by byte and seen
through byte windows (`fieldBytes`; a record `slot` is one); what the accessor models compute when they succeed;
histories and concurrent writers.
-/
namespace PttVerif.C01
open PttVerif

theorem alignUp_of_mod_eq_zero {x a : Nat} (h : x % a = 0) : alignUp x a = x := by
  simp [alignUp, h]

theorem alignUp_ge (x a : Nat) : x ≤ alignUp x a := Nat.le_add_right _ _

theorem alignUp_mod_eq_zero (x a : Nat) (ha : 0 < a) : alignUp x a % a = 0 := by
  have hd := Nat.div_add_mod x a
  have hr := Nat.mod_lt x ha
  have : x + (a - x % a) = a * (x / a + 1) := by rw [Nat.mul_add]; omega
  rw [alignUp, Nat.add_mod_mod, this]
  exact Nat.mul_mod_right _ _

theorem alignUp_lt (x a : Nat) (ha : 0 < a) : alignUp x a < x + a :=
  Nat.add_lt_add_left (Nat.mod_lt _ ha) x

theorem alignUp_least (x a y : Nat) (ha : 0 < a) (hxy : x ≤ y) (hy : y % a = 0) : alignUp x a ≤ y := by
  -- a larger `alignUp x a` would exceed the multiple `y` by a multiple of `a` that is less than `a`
  apply Nat.le_of_not_lt
  intro hlt
  have hz : (alignUp x a - y) % a = 0 := Nat.sub_mod_eq_zero_of_mod_eq ((alignUp_mod_eq_zero x a ha).trans hy.symm)
  have hs : alignUp x a - y < a := by have := alignUp_lt x a ha; omega
  rw [Nat.mod_eq_of_lt hs] at hz
  omega

/-! ### layout trees -/

mutual
theorem packed_eq_aligned : ∀ (t : Ty), wellPadded t = true → sizeA t = sizeP t ∧ t.aligned = t.packed
  | .prim _ _, _ => ⟨by simp [sizeA, sizeP], rfl⟩
  | .arr n e, h => by
      simp only [wellPadded] at h
      exact ⟨by simp [sizeA, sizeP, (packed_eq_aligned e h).1], rfl⟩
  | .struct fs, h => by
      simp only [wellPadded, Bool.and_eq_true, beq_iff_eq] at h
      have hl := layout_of_wellPaddedFrom fs 0 h.1
      refine ⟨?_, hl.2⟩
      simp only [sizeA, sizeP, hl.1, Nat.zero_add]
      exact alignUp_of_mod_eq_zero h.2
theorem layout_of_wellPaddedFrom : ∀ (fs : List (String × Ty)) (off : Nat), wellPaddedFrom fs off = true →
    endA fs off = off + sizePs fs ∧ fieldsA fs off = fieldsP fs off
  | [], off, _ => by simp [endA, sizePs, fieldsA, fieldsP]
  | (n, t) :: r, off, h => by
      simp only [wellPaddedFrom, Bool.and_eq_true, beq_iff_eq] at h
      obtain ⟨⟨h1, h2⟩, h3⟩ := h
      have ht := (packed_eq_aligned t h2).1
      have ih := layout_of_wellPaddedFrom r (off + sizeP t) h3
      simp only [endA, sizePs, fieldsA, fieldsP, alignUp_of_mod_eq_zero h1, ht, ih.1, ih.2]
      simp [Nat.add_assoc]
end

namespace Props

/-- the little-endian image `encoding/binary` writes has, field by field and in total, the layout the compiler
gives the struct in memory (`unsafe.Offsetof`, `unsafe.Sizeof`). -/
@[reducible] def PackedEqAligned (c : Config) (name : String) : Prop :=
  (c.ty name).isSome = true ∧ (c.ty name).map Ty.packed = (c.ty name).map Ty.aligned ∧
  (c.ty name).map sizeP = (c.ty name).map sizeA

theorem PackedEqAligned.of_wellPadded {c : Config} {name : String}
    (h : (c.ty name).map wellPadded = some true) : PackedEqAligned c name := by
  unfold PackedEqAligned
  generalize c.ty name = o at h ⊢
  cases o with
  | none => cases h
  | some t =>
    have ht := packed_eq_aligned t (Option.some.inj h)
    exact ⟨rfl, congrArg some ht.2.symm, congrArg some ht.1.symm⟩

end Props

theorem fieldsP_bound : ∀ (fs : Fields) (off0 : Nat) (e : String × Nat × Nat), e ∈ fieldsP fs off0 →
    e.2.1 + e.2.2 ≤ off0 + sizePs fs
  | [], _, _, h => nomatch h
  | (n, t) :: r, off0, e, h => by
      simp only [fieldsP, List.mem_cons] at h
      rcases h with h | h
      · subst h; simp [sizePs]
      · have := fieldsP_bound r (off0 + sizeP t) e h
        simp only [sizePs]; omega

theorem packed_field_bound {t : Ty} {i : Nat} {e : String × Nat × Nat} (h : t.packed[i]? = some e) :
    e.2.1 + e.2.2 ≤ sizeP t := by
  -- only a struct has fields; for the other shapes the bound is read off the empty field list
  have := fieldsP_bound t.fields 0 e (List.mem_of_getElem? h)
  cases t <;> simp only [Ty.fields, sizePs, sizeP] at this ⊢ <;> omega

theorem fieldsP_sizes_sum : ∀ (fs : Fields) (off : Nat), ((fieldsP fs off).map (fun x => x.2.2)).sum = sizePs fs
  | [], _ => rfl
  | (n, t) :: r, off => by simp [fieldsP, sizePs, fieldsP_sizes_sum r]

/-! ### files -/

/-- the part of `writeAt f pos b` in front of `b`: the file up to `pos`, a hole filled with zeros. -/
theorem writeAt_prefix_length (f : List Nat) (pos : Nat) :
    (f.take pos ++ List.replicate (pos - f.length) 0).length = pos := by
  rw [List.length_append, List.length_take, List.length_replicate, Nat.add_comm, Nat.sub_add_min_cancel]

theorem writeAt_length (f : List Nat) (pos : Nat) (b : List Nat) :
    (writeAt f pos b).length = max f.length (pos + b.length) := by
  unfold writeAt
  rw [List.length_append, List.length_append, writeAt_prefix_length, List.length_drop, Nat.add_comm,
    Nat.sub_add_eq_max]

theorem writeAt_getElem? (f : List Nat) (pos : Nat) (b : List Nat) (i : Nat) :
    (writeAt f pos b)[i]? =
      if i < pos then (if i < f.length then f[i]? else some 0)
      else if i < pos + b.length then b[i - pos]? else f[i]? := by
  unfold writeAt
  rw [List.append_assoc, List.getElem?_append, writeAt_prefix_length]
  split
  · rename_i h
    rw [List.getElem?_append, List.length_take, List.getElem?_take, List.getElem?_replicate]
    by_cases hf : i < f.length
    · rw [if_pos (Nat.lt_min.mpr ⟨h, hf⟩), if_pos h, if_pos hf]
    · rw [if_neg (fun h' => hf (Nat.lt_min.mp h').2), if_pos (by omega), if_neg hf]
  · rw [List.getElem?_append, List.getElem?_drop]
    split
    · rw [if_pos (by omega)]
    · rw [if_neg (by omega)]
      congr 1
      omega

theorem writeAt_length_of_le {f : List Nat} {pos : Nat} {b : List Nat} (h : pos + b.length ≤ f.length) :
    (writeAt f pos b).length = f.length := by
  rw [writeAt_length, Nat.max_eq_left h]

theorem writeAt_outside {f : List Nat} {pos : Nat} {b : List Nat} (h : pos + b.length ≤ f.length) (i : Nat)
    (hi : i < pos ∨ pos + b.length ≤ i) : (writeAt f pos b)[i]? = f[i]? := by
  rw [writeAt_getElem?]
  rcases hi with hi | hi
  · rw [if_pos hi, if_pos (by omega)]
  · rw [if_neg (by omega), if_neg (by omega)]

theorem writeAt_inside (f : List Nat) (pos : Nat) (b : List Nat) (j : Nat) (hj : j < b.length) :
    (writeAt f pos b)[pos + j]? = b[j]? := by
  rw [writeAt_getElem?, if_neg (by omega), if_pos (by omega), Nat.add_sub_cancel_left]

theorem fieldBytes_getElem? (r : List Nat) (off n i : Nat) :
    (fieldBytes r off n)[i]? = if i < n then r[off + i]? else none := by
  rw [fieldBytes, List.getElem?_take, List.getElem?_drop]

theorem fieldBytes_fieldBytes (r : List Nat) (p sz o n : Nat) :
    fieldBytes (fieldBytes r p sz) o n = fieldBytes r (p + o) (min n (sz - o)) := by
  rw [fieldBytes, fieldBytes, fieldBytes, List.drop_take, List.drop_drop, List.take_take]

theorem slot_eq_fieldBytes (f : List Nat) (sz v : Nat) : slot f sz v = fieldBytes f (v * sz) sz := rfl

theorem fieldBytes_writeAt {r : List Nat} {off : Nat} {b : List Nat} (h : off + b.length ≤ r.length) :
    fieldBytes (writeAt r off b) off b.length = b ∧
    (∀ o n, (o + n ≤ off ∨ off + b.length ≤ o) →
      fieldBytes (writeAt r off b) o n = fieldBytes r o n) := by
  constructor
  · rw [fieldBytes, writeAt, List.append_assoc, List.drop_left' (writeAt_prefix_length r off), List.take_left' rfl]
  · refine fun o n hd => List.ext_getElem? fun i => ?_
    rw [fieldBytes_getElem?, fieldBytes_getElem?]
    split
    · exact writeAt_outside h _ (by omega)
    · rfl

/-- stated about the result `g` so that it applies to the equation a model function that writes twice unfolds to
(`updateUserLevel2`). -/
theorem double_write_frame {f x y g : List Nat} {o1 o2 : Nat} (hg : writeAt (writeAt f o1 x) o2 y = g)
    (h1 : o1 + x.length ≤ o2) (h2 : o2 + y.length ≤ f.length) :
    g.length = f.length ∧ (∀ i, (i < o1 ∨ o2 + y.length ≤ i) → g[i]? = f[i]?) ∧
    fieldBytes g o2 y.length = y ∧ fieldBytes g o1 x.length = x := by
  subst hg
  have hx : o1 + x.length ≤ f.length := by omega
  have hl := writeAt_length_of_le hx
  have hy : o2 + y.length ≤ (writeAt f o1 x).length := by omega
  have hr := fieldBytes_writeAt hy
  refine ⟨(writeAt_length_of_le hy).trans hl, ?_, hr.1, ?_⟩
  · intro i hi
    rw [writeAt_outside hy i (by omega)]
    exact writeAt_outside hx i (by omega)
  · rw [hr.2 o1 x.length (Or.inl h1)]
    exact (fieldBytes_writeAt hx).1

/-- the side condition of `fieldBytes_writeAt` for record `v` and a write into a field of record `w`. -/
theorem other_slot_disjoint {sz v w off n : Nat} (hv : v ≠ w) (hfit : off + n ≤ sz) :
    v * sz + sz ≤ w * sz + off ∨ w * sz + off + n ≤ v * sz := by
  rcases Nat.lt_or_gt_of_ne hv with h | h
  · have := Nat.mul_le_mul_right sz h
    rw [Nat.add_one_mul] at this
    omega
  · have := Nat.mul_le_mul_right sz h
    rw [Nat.add_one_mul] at this
    omega

theorem fieldBytes_slot {f : List Nat} {sz v : Nat} : fieldBytes (slot f sz v) 0 sz = slot f sz v := by
  rw [fieldBytes, slot, List.drop_zero, List.take_take, Nat.min_self]

theorem readAt_eq_some_iff {f : List Nat} {pos n : Nat} {r : List Nat} :
    readAt f pos n = some r ↔ pos + n ≤ f.length ∧ fieldBytes f pos n = r := by
  unfold readAt fieldBytes
  split <;> simp [*]

theorem readAt_field {f : List Nat} {pos sz off n : Nat} {r : List Nat} (hfit : off + n ≤ sz)
    (h : readAt f pos sz = some r) : readAt f (pos + off) n = some (fieldBytes r off n) := by
  obtain ⟨h1, rfl⟩ := readAt_eq_some_iff.mp h
  exact readAt_eq_some_iff.mpr ⟨by omega, by rw [fieldBytes_fieldBytes, Nat.min_eq_left (by omega)]⟩

/-! ### what the accessor models compute -/

theorem validUid_some {c : Config} {uid : Int} {u : Nat} (h : validUid c uid = some u) :
    uid = (u : Int) ∧ 1 ≤ u ∧ ∃ m, c.const "MAX_USERS" = some m ∧ u ≤ m := by
  unfold validUid at h
  split at h
  · rename_i n m hm
    obtain ⟨hc, h⟩ := Option.ite_none_right_eq_some.mp h
    cases h
    exact ⟨rfl, hc.1, m, hm, hc.2⟩
  · cases h

theorem passwdWrite_some {c : Config} {fn : String} {f : List Nat} {uid : Int} {b f' : List Nat} {sz off n : Nat}
    (hs : c.seek fn = some ⟨some sz, [(off, n)]⟩) (h : passwdWrite c fn f uid b = some f') :
    ∃ u, validUid c uid = some u ∧ b.length = n ∧ f' = writeAt f (seekPos sz u off) b := by
  unfold passwdWrite at h
  split at h
  · cases h
  · rename_i u hu
    simp only [hs, Option.ite_none_right_eq_some, Option.some.injEq] at h
    exact ⟨u, hu, h.1, h.2.symm⟩

theorem passwdUpdate_some {c : Config} {f : List Nat} {uid : Int} {r f' : List Nat} {sz : Nat} {t : Ty}
    (hs : c.seek "cmbbs.PasswdUpdate" = some ⟨some sz, []⟩) (ht : c.ty "UserecRaw" = some t)
    (h : passwdUpdate c f uid r = some f') :
    ∃ u, validUid c uid = some u ∧ r.length = sizeP t ∧ f' = writeAt f (seekPos sz u 0) r := by
  unfold passwdUpdate at h
  split at h
  · cases h
  · rename_i u hu
    simp only [hs, ht, Option.ite_none_right_eq_some, Option.some.injEq] at h
    exact ⟨u, hu, h.1, h.2.symm⟩

theorem passwdRead_eq {c : Config} {fn : String} (f : List Nat) {uid : Int} {u sz off n : Nat}
    (hs : c.seek fn = some ⟨some sz, [(off, n)]⟩) (hu : validUid c uid = some u) :
    passwdRead c fn f uid = readAt f (seekPos sz u off) n := by
  unfold passwdRead
  rw [hu]
  simp only [hs]

theorem passwdQuery_eq {c : Config} (f : List Nat) {uid : Int} {u sz : Nat} {t : Ty}
    (hs : c.seek "cmbbs.PasswdQuery" = some ⟨some sz, []⟩) (ht : c.ty "UserecRaw" = some t)
    (hu : validUid c uid = some u) :
    passwdQuery c f uid = readAt f (seekPos sz u 0) (sizeP t) := by
  unfold passwdQuery
  rw [hu]
  simp only [hs, ht]

theorem le32_length (v : Nat) : (le32 v).length = 4 := rfl

theorem checkPasswd2_some {c : Config} {ver : Nat} {f : Option (List Nat)} {f1 : List Nat} {sz : Nat}
    (hsz : c.const "USEREC2_RAW_SZ" = some sz) (ht : (c.ty "Userec2Raw").map sizeP = some sz) (h4 : 4 ≤ sz)
    (h : checkPasswd2 c ver f = some f1) :
    f1.length = sz ∧ ∀ bytes, f = some bytes → f1 = bytes ++ List.replicate (sz - bytes.length) 0 := by
  obtain ⟨t, hty, rfl⟩ := Option.map_eq_some_iff.mp ht
  unfold checkPasswd2 at h
  simp only [hty, hsz, Option.bind_eq_bind, Option.bind_some] at h
  cases f with
  | none =>
    cases h
    exact ⟨by rw [List.length_append, List.length_replicate, le32_length, Nat.add_sub_cancel' h4], nofun⟩
  | some bytes =>
    obtain ⟨hle, h⟩ := Option.ite_none_right_eq_some.mp h
    cases h
    exact ⟨by rw [List.length_append, List.length_replicate, Nat.add_sub_cancel' hle], fun _ hb => by cases hb; rfl⟩

theorem writeFieldPacked_some {t : Ty} {i : Nat} {val : List Nat} {total : Nat} {img : List Nat}
    {name : String} {off n : Nat} (hf : t.packed[i]? = some (name, off, n))
    (h : writeFieldPacked t i val total = some img) :
    val.length = n ∧ sizeP t ≤ total ∧
    img = writeAt (List.replicate (sizeP t) 0) off val ++ List.replicate (total - sizeP t) 0 := by
  unfold writeFieldPacked at h
  simp only [hf, Option.ite_none_left_eq_some, Option.some.injEq, Decidable.not_not, gt_iff_lt, Nat.not_lt] at h
  exact ⟨h.1, h.2.1, h.2.2.symm⟩

/-! ### histories -/

def HStep.isFail : HStep → Bool
  | .fail => true
  | _ => false

theorem runHist_snd_cons (c : Config) (s : HFiles) (st : HStep) (r : List HStep) :
    (runHist c s (st :: r)).2 = (runHist c (hstep c s st).2 r).2 := rfl

theorem runHist_append_one (c : Config) : ∀ (pre : List HStep) (s : HFiles) (st : HStep),
    (runHist c s (pre ++ [st])).2 = (hstep c (runHist c s pre).2 st).2
  | [], s, st => by simp [runHist]
  | p :: pre, s, st => by
      rw [List.cons_append, runHist_snd_cons, runHist_snd_cons]
      exact runHist_append_one c pre _ st

/-! ### concurrent writers -/

/-- invariant of the private-scratch semantics: a writer's scratch is empty or its own image, and its file
consists of whole copies of its own image. -/
def WInv (img : Nat → List Nat) (s : WState) : Prop :=
  ∀ i, (s.scratch i = [] ∨ s.scratch i = img i) ∧ ∃ k, s.files i = (List.replicate k (img i)).flatten

theorem wstep_inv {img : Nat → List Nat} {s : WState} (st : WStep) (h : WInv img s) : WInv img (wstep img s st) := by
  intro i
  obtain ⟨hs, k, hk⟩ := h i
  cases st with
  | enc j =>
    refine ⟨?_, k, hk⟩
    simp only [wstep]
    split
    · rename_i hj
      exact Or.inr (hj ▸ rfl)
    · exact hs
  | wr j =>
    refine ⟨hs, ?_⟩
    simp only [wstep]
    split
    · rename_i hj
      subst hj
      rcases hs with h0 | h1
      · exact ⟨k, by rw [h0, List.append_nil, hk]⟩
      · exact ⟨k + 1, by rw [h1, hk, List.replicate_succ', List.flatten_append, List.flatten_singleton]⟩
    · exact ⟨k, hk⟩

theorem wrun_inv (img : Nat → List Nat) (sched : List WStep) : WInv img (wrun img winit sched) :=
  List.foldlRecOn sched (wstep img) (fun _ => ⟨Or.inl rfl, 0, rfl⟩) (fun _ hs st _ => wstep_inv st hs)

end PttVerif.C01
