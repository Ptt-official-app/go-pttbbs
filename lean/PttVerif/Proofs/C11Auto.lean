import PttVerif.Proofs.C11
/-
C11 — helper lemmas, part 2: FindBoardAutoCompleteStartIdx.  In a sorted by-name view the names carrying a keyword
form one block directly above it, and the successor keyword is the least string above that block: the positional search
for the keyword (ascending) or for its successor (descending) lands next to the block, and the probe loop from there
answers with its first (last) member.
-/
namespace PttVerif.C11
open PttVerif PttVerif.C18

/-! ### prefixes and the lexicographic order -/

theorem lexCmp_cons_lt {a b : Nat} (h : a < b) (as bs : List Nat) : lexCmp (a :: as) (b :: bs) = .lt := if_pos h

theorem lexCmp_cons_gt {a b : Nat} (h : b < a) (as bs : List Nat) : lexCmp (a :: as) (b :: bs) = .gt := by
  rw [lexCmp, if_neg (Nat.lt_asymm h), if_pos h]

theorem lexCmp_cons_self (a : Nat) (as bs : List Nat) : lexCmp (a :: as) (a :: bs) = lexCmp as bs := by
  rw [lexCmp, if_neg (Nat.lt_irrefl a), if_neg (Nat.lt_irrefl a)]

theorem hasPrefix_cons_ne {a b : Nat} (h : b ≠ a) (N K : List Nat) : hasPrefix (b :: N) (a :: K) = false := by
  rw [hasPrefix, beq_false_of_ne h, Bool.false_and]

theorem hasPrefix_cons_self (a : Nat) (N K : List Nat) : hasPrefix (a :: N) (a :: K) = hasPrefix N K := by
  rw [hasPrefix, beq_self_eq_true, Bool.true_and]

theorem hasPrefix_nil (N : List Nat) : hasPrefix N [] = true := by cases N <;> rfl

theorem lexCmp_nil_ne_gt (N : List Nat) : lexCmp [] N ≠ .gt := by
  cases N <;> exact fun h => nomatch h

/-- comparing `K` with the first `|K|` elements of `N`: equal exactly when `K` is a prefix of `N`, otherwise the
comparison with `N` itself. -/
theorem lexCmp_take (K N : List Nat) :
    lexCmp K (N.take K.length) = if hasPrefix N K then .eq else lexCmp K N := by
  induction K generalizing N with
  | nil => cases N <;> rfl
  | cons a K' ih =>
    cases N with
    | nil => rfl
    | cons b N' =>
      rw [List.length_cons, List.take_succ_cons]
      rcases Nat.lt_trichotomy a b with h | rfl | h
      · rw [lexCmp_cons_lt h, hasPrefix_cons_ne (Nat.ne_of_gt h), if_neg Bool.false_ne_true, lexCmp_cons_lt h]
      · rw [lexCmp_cons_self, hasPrefix_cons_self, lexCmp_cons_self, ih]
      · rw [lexCmp_cons_gt h, hasPrefix_cons_ne (Nat.ne_of_lt h), if_neg Bool.false_ne_true, lexCmp_cons_gt h]

/-- a string with prefix `K` is not below `K`. -/
theorem le_of_hasPrefix (K N : List Nat) (h : hasPrefix N K = true) : lexCmp K N ≠ .gt := by
  obtain ⟨t, rfl⟩ := (hasPrefix_iff N K).mp h
  clear h
  induction K with
  | nil => exact lexCmp_nil_ne_gt _
  | cons a K ih => rw [List.cons_append, lexCmp_cons_self]; exact ih

theorem lexCmp_take_mono (n : Nat) (a b : List Nat) (h : lexCmp a b ≠ .gt) : lexCmp (a.take n) (b.take n) ≠ .gt := by
  induction n generalizing a b with
  | zero => exact fun h' => nomatch h'
  | succ n ih =>
    cases a with
    | nil => exact lexCmp_nil_ne_gt _
    | cons x a =>
      cases b with
      | nil => exact absurd rfl h
      | cons y b =>
        rw [List.take_succ_cons, List.take_succ_cons]
        rcases Nat.lt_trichotomy x y with hxy | rfl | hxy
        · rw [lexCmp_cons_lt hxy]; exact fun h' => nomatch h'
        · rw [lexCmp_cons_self] at h ⊢; exact ih a b h
        · exact absurd (lexCmp_cons_gt hxy a b) h

/-- the successor of a non-empty string: last element + 1. -/
def succStr (K0 : List Nat) (x : Nat) : List Nat := K0 ++ [x + 1]

/-- below the successor = below the string or carrying it as a prefix. -/
theorem lt_succ_iff (K0 : List Nat) (x : Nat) (N : List Nat) :
    lexCmp (succStr K0 x) N = .gt ↔ (lexCmp (K0 ++ [x]) N = .gt ∨ hasPrefix N (K0 ++ [x]) = true) := by
  unfold succStr
  induction K0 generalizing N with
  | nil =>
    cases N with
    | nil => exact ⟨fun _ => Or.inl rfl, fun _ => rfl⟩
    | cons b N1 =>
      rw [List.nil_append, List.nil_append]
      rcases Nat.lt_trichotomy b x with h | rfl | h
      · rw [lexCmp_cons_gt (Nat.lt_succ_of_lt h), lexCmp_cons_gt h]
        exact ⟨fun _ => Or.inl rfl, fun _ => rfl⟩
      · rw [lexCmp_cons_gt (Nat.lt_succ_self b), hasPrefix_cons_self, hasPrefix_nil]
        exact ⟨fun _ => Or.inr rfl, fun _ => rfl⟩
      · rw [hasPrefix_cons_ne (Nat.ne_of_gt h), lexCmp_cons_lt h]
        have hne : lexCmp [x + 1] (b :: N1) ≠ .gt := by
          rcases Nat.eq_or_lt_of_le (Nat.succ_le_of_lt h) with rfl | h'
          · rw [lexCmp_cons_self]; exact lexCmp_nil_ne_gt N1
          · rw [lexCmp_cons_lt h']; exact fun h => nomatch h
        exact ⟨fun hg => absurd hg hne, fun hg => by rcases hg with hg | hg <;> cases hg⟩
  | cons a K' ih =>
    cases N with
    | nil => exact ⟨fun _ => Or.inl rfl, fun _ => rfl⟩
    | cons b N1 =>
      rw [List.cons_append, List.cons_append]
      rcases Nat.lt_trichotomy a b with h | rfl | h
      · rw [lexCmp_cons_lt h, lexCmp_cons_lt h, hasPrefix_cons_ne (Nat.ne_of_gt h)]
        exact ⟨fun hg => (nomatch hg), fun hg => by rcases hg with hg | hg <;> cases hg⟩
      · rw [lexCmp_cons_self, lexCmp_cons_self, hasPrefix_cons_self]
        exact ih N1
      · rw [lexCmp_cons_gt h, lexCmp_cons_gt h]
        exact ⟨fun _ => Or.inl rfl, fun _ => rfl⟩

/-! ### C strings: take, copy -/

theorem cstr_take (l : List Nat) (k : Nat) : cstr (l.take k) = (cstr l).take k := List.take_takeWhile.symm

theorem low_take (l : List Nat) (k : Nat) : low (l.take k) = (low l).take k := by
  unfold low
  rw [cstr_take, List.map_take]

theorem low_of_nonzero (kw : List Nat) (h0 : ∀ x ∈ kw, x ≠ 0) : low kw = kw.map ccharTolower := by
  unfold low; rw [cstr_of_nonzero' kw h0]

theorem low_length (kw : List Nat) (h0 : ∀ x ∈ kw, x ≠ 0) : (low kw).length = kw.length := by
  rw [low_of_nonzero kw h0]; simp

/-! ### the prefix test of the listing and of the specification -/

/-- `CstrCaseHasPrefix(Brdname, keyword)`: what loadAutoCompleteBoardStat tests and what "carries the prefix" means. -/
def pref (kw : List Nat) (e : Entry) : Bool := cstrCaseHasPrefix e.b.name kw

theorem pref_iff (kw : List Nat) (h0 : ∀ x ∈ kw, x ≠ 0) (e : Entry) : pref kw e = hasPrefix (nkey e) (low kw) := by
  unfold pref cstrCaseHasPrefix nkey
  rw [low_of_nonzero kw h0]
  have hz : ∀ x ∈ cstrTolower kw, x ≠ 0 := map_lower_nonzero kw h0
  rw [← hasPrefix_cstr (cstrTolower e.b.name) (cstrTolower kw) hz, cstr_map_lower]
  rfl

theorem notPrefixed_eq (kw : List Nat) (e : Entry) : notPrefixed kw e = !pref kw e := rfl

/-! ### hypotheses on the keyword and on the table -/

/-- hypotheses on the keyword under which the auto-completion search is specified. -/
structure KwOK (nameLen : Nat) (kw : List Nat) : Prop where
  ne : kw ≠ []
  nz : ∀ x ∈ kw, x ≠ 0
  lt : kw.length < nameLen          -- `len(keyword) <= IDLEN`; `BoardID_t` is `[IDLEN+1]byte`

theorem KwOK.len {nameLen : Nat} {kw : List Nat} (ok : KwOK nameLen kw) : kw.length ≤ nameLen := Nat.le_of_lt ok.lt

/-- no two non-vacated boards have names that are equal up to case (vacated slots — empty names — may repeat). -/
def DistinctNames (es : List Entry) : Prop := es.Pairwise (fun a b => nkey a = nkey b → nkey a = [])

/-- every `Brdname` is an array of `nameLen` bytes. -/
def NamesLen (nameLen : Nat) (es : List Entry) : Prop := ∀ e ∈ es, e.b.name.length = nameLen

/-- no board name contains `'@'` or `0xff` (a fortiori true of valid board names: letters, digits, `_ - .`). -/
def NoAtFF (es : List Entry) : Prop := ∀ e ∈ es, ∀ b ∈ nkey e, b ≠ 64 ∧ b ≠ 255

theorem unique0_of_key (c : Entry → Int) (es : List Entry) (K : List Nat) (hK : K ≠ [])
    (h : ∀ e ∈ es, c e = 0 → nkey e = K) (D : DistinctNames es) : Unique0 c es := by
  intro i j hi hj h1 h2
  have e1 := h _ (List.getElem_mem hi) h1
  have e2 := h _ (List.getElem_mem hj) h2
  have D' := List.pairwise_iff_getElem.mp D
  rcases Nat.lt_trichotomy i j with hlt | heq | hlt
  · have := D' i j hi hj hlt (by rw [e1, e2])
    rw [e1] at this; exact absurd this hK
  · exact heq
  · have := D' j i hj hi hlt (by rw [e1, e2])
    rw [e2] at this; exact absurd this hK

theorem unique0_of_distinct (q : List Nat) (es : List Entry) (D : DistinctNames es) (hq : low q ≠ []) :
    Unique0 (cmpNameP q) es :=
  unique0_of_key _ es (low q) hq (fun e _ => (cmpNameP_eq_zero q e).mp) D

theorem unique0_of_distinct_class (cls q : List Nat) (es : List Entry) (C : ∀ e ∈ es, ClassOK e)
    (D : DistinctNames es) (hq : low q ≠ []) : Unique0 (cmpClassP cls q) es := by
  refine unique0_of_key _ es (low q) hq (fun e he h0 => ?_) D
  -- equal keys have equal name components
  have hk : (cstr cls, low q) = ckey e := (classLaws.eq_iff _ _).mp ((cmpClassP_sign cls q e (C e he)).2.1.mp h0)
  exact (congrArg Prod.snd hk).symm

/-- a well-formed by-name view `BSorted[byName]` of a table of `maxBoard` slots with names of `nameLen` bytes. -/
structure NameView (maxBoard nameLen : Nat) (es : List Entry) : Prop where
  valid : ∀ e ∈ es, e.bid + 1 ≤ maxBoard
  names : NamesLen nameLen es
  sorted : SortedBy lexCmp nkey es
  distinct : DistinctNames es

/-! ### the comparison of the probe loops

The probes compare the keyword with the first `len(keyword)` bytes of a name.  Cutting names keeps their order, so this
comparator too is monotone along a sorted view, and the landing arguments of the bisection (`Before`, `After`) apply. -/

/-- the value a probe compares: the keyword against the first `len(keyword)` bytes of the name, up to case. -/
def probeP (kw : List Nat) (e : Entry) : Int := strcmp (low kw) ((nkey e).take (low kw).length)

theorem probeP_sign (kw : List Nat) (e : Entry) :
    SignIs (probeP kw e) (lexCmp (low kw) ((nkey e).take (low kw).length)) :=
  strcmp_signIs _ _ (low_nonzero kw) (fun x hx => low_nonzero _ x (List.mem_of_mem_take hx))

theorem mono_probeP (kw : List Nat) {es : List Entry} (S : SortedBy lexCmp nkey es) : Mono (probeP kw) es :=
  mono_of_sorted lexLaws (fun e => (nkey e).take (low kw).length) (low kw) (probeP kw) es (fun e _ => probeP_sign kw e)
    (S.imp (lexCmp_take_mono _ _ _))

theorem pref_iff_probeP {kw : List Nat} (h0 : ∀ x ∈ kw, x ≠ 0) (e : Entry) : pref kw e = true ↔ probeP kw e = 0 := by
  rw [(probeP_sign kw e).2.1, lexCmp_eq_iff, pref_iff kw h0, hasPrefix_iff]
  exact List.prefix_iff_eq_take

theorem pref_false_of_ne {kw : List Nat} (h0 : ∀ x ∈ kw, x ≠ 0) {e : Entry} (h : probeP kw e ≠ 0) :
    pref kw e = false :=
  Bool.eq_false_iff.mpr (fun hp => h ((pref_iff_probeP h0 e).mp hp))

theorem probeP_pos_iff (kw : List Nat) (e : Entry) : 0 < probeP kw e ↔ lexCmp (low kw) (nkey e) = .gt := by
  rw [(probeP_sign kw e).2.2, lexCmp_take]
  split
  · rename_i h
    exact ⟨fun h' => (nomatch h'), fun h' => absurd h' (le_of_hasPrefix _ _ h)⟩
  · exact Iff.rfl

theorem pref_none_of_landing {kw : List Nat} (hz : ∀ x ∈ kw, x ≠ 0) {es : List Entry} {m : Nat} (hm : m < es.length)
    (h0 : probeP kw es[m] ≠ 0) (hB : Before (probeP kw) es m) (hA : After (probeP kw) es m) :
    ∀ e ∈ es, pref kw e = false :=
  fun e he => pref_false_of_ne hz (ne_zero_of_landing hm h0 hB hA e he)

/-- `boardIDInCache[:len(keyword)]` is inside the array. -/
theorem probe_slice {nameLen : Nat} {kw : List Nat} (ok : KwOK nameLen kw) {e : Entry} (hl : e.b.name.length = nameLen) :
    slice e.b.name 0 kw.length = .ok (e.b.name.take kw.length) := by
  unfold slice
  rw [if_pos ⟨Nat.zero_le _, by rw [hl]; exact ok.len⟩]
  rfl

theorem probe_value (kw : List Nat) (h0 : ∀ x ∈ kw, x ≠ 0) (e : Entry) :
    cstrcasecmp kw (e.b.name.take kw.length) = .ok (probeP kw e) := by
  rw [cstrcasecmp_eq, low_take, ← low_length kw h0]
  rfl

/-! ### the specification; the frame of the ascending search -/

/-- the specification of FindBoardAutoCompleteStartIdx: the first (last) position whose name carries the keyword
as a prefix up to case, 1-based; `-1`: none. -/
def specAuto (kw : List Nat) (es : List Entry) (isAsc : Bool) : Int :=
  let x := if isAsc then scanFirst (pref kw) es 0 else scanLast (pref kw) es
  if x = -1 then -1 else x + 1

theorem specAuto_asc (kw : List Nat) (es : List Entry) : specAuto kw es true = oneBased (scanFirst (pref kw) es 0) := rfl

theorem specAuto_desc (kw : List Nat) (es : List Entry) : specAuto kw es false = oneBased (scanLast (pref kw) es) := rfl

theorem startPos_of_found (p : Nat) (d : Int) :
    (if Int.ofNat p + 1 = -1 then d else Int.ofNat p + 1) - 1 = Int.ofNat p := by
  have h : ¬ Int.ofNat p + 1 = -1 := by simp only [Int.ofNat_eq_natCast]; omega
  rw [if_neg h, Int.add_sub_cancel]

theorem low_copyInto {nameLen : Nat} {kw : List Nat} (ok : KwOK nameLen kw) : low (copyInto nameLen kw) = low kw := by
  unfold low; rw [cstr_copyInto, cstr_of_nonzero' kw ok.nz, List.take_of_length_le ok.len]

theorem low_ne_nil {nameLen : Nat} {kw : List Nat} (ok : KwOK nameLen kw) : low kw ≠ [] := by
  intro h
  have := low_length kw ok.nz
  rw [h] at this
  exact ok.ne (List.length_eq_zero_iff.mp this.symm)

theorem autoStart_asc_of {maxBoard nameLen : Nat} {es : List Entry} {kw : List Nat} (ok : KwOK nameLen kw) {r : Int}
    (hr : findIdx maxBoard (cmpName (copyInto nameLen kw)) es false = .ok r) {m : Nat}
    (hm : (if r = -1 then 1 else r) - 1 = Int.ofNat m) {x : Int}
    (hx : probeAsc maxBoard kw maxIterAutoComplete (es.drop m) m = .ok x) :
    autoStart maxBoard nameLen es kw true = .ok (oneBased x) := by
  unfold autoStart closestKeyword
  rw [if_neg (Nat.not_lt.mpr ok.lt), if_neg (fun h => ok.ne (List.length_eq_zero_iff.mp h))]
  simp only [if_true, bind, Except.bind, pure, Except.pure, Bool.not_true]
  rw [hr]
  simp only
  rw [hm, show (Int.ofNat m).toNat = m from rfl, hx]
  exact pure_oneBased x

/-! ### one iteration of the probe loops -/

section
variable {maxBoard nameLen : Nat} {es : List Entry} (W : NameView maxBoard nameLen es) {kw : List Nat}
  (ok : KwOK nameLen kw)
include W ok

theorem probeAsc_cons (f : Nat) {e : Entry} (he : e ∈ es) (rest : List Entry) (i : Nat) :
    probeAsc maxBoard kw (f + 1) (e :: rest) i =
      if probeP kw e = 0 then .ok (Int.ofNat i)
      else if probeP kw e < 0 then .ok (-1) else probeAsc maxBoard kw f rest (i + 1) := by
  have hve : validBid maxBoard e = true := decide_eq_true (W.valid e he)
  rw [probeAsc]
  simp only [hve, not_true_eq_false, if_false, probe_slice ok (W.names e he), probe_value kw ok.nz e, bind, Except.bind,
    pure, Except.pure]

theorem probeDesc_cons (f : Nat) {e : Entry} (he : e ∈ es) (rest : List Entry) (i : Nat) :
    probeDesc maxBoard kw (f + 1) (e :: rest) i =
      if probeP kw e = 0 then .ok (Int.ofNat i)
      else if 0 < probeP kw e then .ok (-1) else probeDesc maxBoard kw f rest (i - 1) := by
  have hve : validBid maxBoard e = true := decide_eq_true (W.valid e he)
  rw [probeDesc]
  simp only [hve, not_true_eq_false, if_false, probe_slice ok (W.names e he), probe_value kw ok.nz e, bind, Except.bind,
    pure, Except.pure, gt_iff_lt]

/-! ### ascending -/

/-- probing from a position `m` before which every name is below the keyword and at which the name is not. -/
theorem probeAsc_at (f m : Nat) (hB : Before (probeP kw) es m) (hat : ∀ (hm : m < es.length), probeP kw es[m] ≤ 0) :
    probeAsc maxBoard kw (f + 1) (es.drop m) m = .ok (scanFirst (pref kw) es 0) := by
  have hnp : ∀ k (hk : k < es.length), k < m → pref kw es[k] = false :=
    fun k hk hlt => pref_false_of_ne ok.nz (Int.ne_of_gt (hB k hk hlt))
  by_cases hm : m < es.length
  · rw [List.drop_eq_getElem_cons hm, probeAsc_cons W ok f (List.getElem_mem hm)]
    by_cases h0 : probeP kw es[m] = 0
    · rw [if_pos h0, scanFirst_eq_of (pref kw) es m hm ((pref_iff_probeP ok.nz _).mpr h0)
        (fun k hk => hnp k (Nat.lt_trans hk hm) hk)]
    · -- `es[m]` is above everything carrying the keyword, and so is everything behind it
      have hneg : probeP kw es[m] < 0 := Int.lt_iff_le_and_ne.mpr ⟨hat hm, h0⟩
      rw [if_neg h0, if_pos hneg,
        scanFirst_none (pref_none_of_landing ok.nz hm h0 hB ((mono_probeP kw W.sorted).after m hm hneg))]
  · rw [List.drop_eq_nil_of_le (Nat.le_of_not_lt hm), scanFirst_none]
    · rfl
    · intro e he
      obtain ⟨k, hk, rfl⟩ := List.getElem_of_mem he
      exact hnp k hk (Nat.lt_of_lt_of_le hk (Nat.le_of_not_lt hm))

/-- … and from a position that may itself still be below the keyword: one step more. -/
theorem probeAsc_near (f m : Nat) (hB : Before (probeP kw) es m)
    (hA : ∀ k (hk : k < es.length), m < k → probeP kw es[k] ≤ 0) :
    probeAsc maxBoard kw (f + 2) (es.drop m) m = .ok (scanFirst (pref kw) es 0) := by
  by_cases hg : ∃ hm : m < es.length, 0 < probeP kw es[m]
  · obtain ⟨hm, hg⟩ := hg
    rw [List.drop_eq_getElem_cons hm, probeAsc_cons W ok (f + 1) (List.getElem_mem hm), if_neg (Int.ne_of_gt hg),
      if_neg (Int.lt_asymm hg)]
    apply probeAsc_at W ok f (m + 1)
    · intro k hk hlt
      rcases Nat.eq_or_lt_of_le (Nat.le_of_lt_succ hlt) with rfl | h
      · exact hg
      · exact hB k hk h
    · exact fun hm' => hA (m + 1) hm' (Nat.lt_succ_self m)
  · exact probeAsc_at W ok (f + 1) m hB (fun hm => Int.not_lt.mp (fun h => hg ⟨hm, h⟩))

/-- FindBoardAutoCompleteStartIdx, ascending = the first board carrying the prefix. -/
theorem autoStart_asc : autoStart maxBoard nameLen es kw true = .ok (specAuto kw es true) := by
  obtain ⟨q, hq⟩ : ∃ q, q = copyInto nameLen kw := ⟨_, rfl⟩
  have hK : low q = low kw := by rw [hq]; exact low_copyInto ok
  -- the search for the keyword and the probe agree on which names are below the keyword
  have hpos : ∀ e, 0 < cmpNameP q e ↔ 0 < probeP kw e := fun e => by
    rw [probeP_pos_iff, ← hK]; exact (cmpNameP_sign q e).2.2
  have hq0 : low q ≠ [] := by rw [hK]; exact low_ne_nil ok
  suffices h : ∃ r m, findIdx maxBoard (cmpName q) es false = .ok r ∧ (if r = -1 then 1 else r) - 1 = Int.ofNat m ∧
      Before (cmpNameP q) es m ∧ After (cmpNameP q) es m by
    obtain ⟨r, m, hf, hm, hB, hA⟩ := h
    rw [hq] at hf
    apply autoStart_asc_of ok hf hm
    apply probeAsc_near W ok 1 m
    · exact fun k hk hlt => (hpos _).mp (hB k hk hlt)
    · exact fun k hk hlt => Int.not_lt.mp (fun h => Int.lt_asymm (hA k hk hlt) ((hpos _).mpr h))
  rcases findIdx_lands (cmpName_eq q) W.valid (mono_cmpName q es W.sorted) (unique0_of_distinct q es W.distinct hq0) false with
    ⟨hf, hall⟩ | ⟨p, hp, hf, hB, hA⟩
  · -- every name is above the keyword: probe from the first
    exact ⟨-1, 0, hf, rfl, fun k _ h => absurd h (Nat.not_lt_zero k), fun k hk _ => hall _ (List.getElem_mem hk)⟩
  · exact ⟨_, p, hf, startPos_of_found p 1, hB, hA⟩

/-! ### descending -/

/-- probing downwards from position `m - 1`, when every name from `m` on is above everything carrying the keyword and
the name at `m - 1` is not. -/
theorem probeDesc_at (f m : Nat) (hm : m ≤ es.length)
    (hA : ∀ k (hk : k < es.length), m ≤ k → probeP kw es[k] < 0)
    (hat : ∀ (h0 : 0 < m), 0 ≤ probeP kw (es[m - 1]'(by omega))) :
    probeDesc maxBoard kw (f + 1) (downTo es m) (m - 1) = .ok (scanLast (pref kw) es) := by
  have hnp : ∀ k (hk : k < es.length), m ≤ k → pref kw es[k] = false :=
    fun k hk hle => pref_false_of_ne ok.nz (Int.ne_of_lt (hA k hk hle))
  cases m with
  | zero =>
    rw [scanLast_none]
    · rfl
    · intro e he
      obtain ⟨k, hk, rfl⟩ := List.getElem_of_mem he
      exact hnp k hk (Nat.zero_le k)
  | succ m' =>
    have hm' : m' < es.length := hm
    have hge := hat (Nat.succ_pos m')
    simp only [Nat.add_sub_cancel] at hge ⊢
    rw [downTo_succ es m' hm', probeDesc_cons W ok f (List.getElem_mem hm')]
    by_cases h0 : probeP kw es[m'] = 0
    · rw [if_pos h0, scanLast_eq_of (pref kw) es m' hm' ((pref_iff_probeP ok.nz _).mpr h0) hnp]
    · -- `es[m']` is below the keyword, and so is everything before it
      have hpos : 0 < probeP kw es[m'] := Int.lt_iff_le_and_ne.mpr ⟨hge, Ne.symm h0⟩
      rw [if_neg h0, if_pos hpos, scanLast_none (pref_none_of_landing ok.nz hm' h0
        (fun k hk hlt => (mono_probeP kw W.sorted).before m' hm' hpos k hk (Nat.lt_succ_of_lt hlt)) hA)]

/-- … and from a position `m` that may itself still be above everything carrying the keyword: one step more. -/
theorem probeDesc_near (f m : Nat) (hm : m < es.length) (hA : After (probeP kw) es m)
    (hB : ∀ k (hk : k < es.length), k < m → 0 ≤ probeP kw es[k]) :
    probeDesc maxBoard kw (f + 2) (downTo es (m + 1)) m = .ok (scanLast (pref kw) es) := by
  by_cases hg : probeP kw es[m] < 0
  · rw [downTo_succ es m hm, probeDesc_cons W ok (f + 1) (List.getElem_mem hm), if_neg (Int.ne_of_lt hg),
      if_neg (Int.lt_asymm hg)]
    apply probeDesc_at W ok f m (Nat.le_of_lt hm)
    · intro k hk hle
      rcases Nat.eq_or_lt_of_le hle with rfl | h
      · exact hg
      · exact hA k hk h
    · exact fun h0 => hB (m - 1) (Nat.lt_of_le_of_lt (Nat.sub_le m 1) hm) (Nat.sub_lt h0 Nat.one_pos)
  · exact probeDesc_at W ok (f + 1) (m + 1) hm hA (fun _ => Int.not_lt.mp hg)

theorem probeDesc_none (f : Nat) (l : List Entry) (i : Nat) (hl : ∀ e ∈ l, e ∈ es ∧ pref kw e = false) :
    probeDesc maxBoard kw f l i = .ok (-1) := by
  induction f generalizing l i with
  | zero => rw [probeDesc]; rfl
  | succ f ih =>
    cases l with
    | nil => rw [probeDesc]; rfl
    | cons e rest =>
      obtain ⟨he, hno⟩ := hl e (List.mem_cons_self ..)
      have h0 : probeP kw e ≠ 0 := fun h => by rw [(pref_iff_probeP ok.nz e).mpr h] at hno; cases hno
      rw [probeDesc_cons W ok f he, if_neg h0]
      split
      · rfl
      · exact ih rest (i - 1) (fun y hy => hl y (List.mem_cons_of_mem _ hy))

end

/-! ### descending: the successor keyword -/

/-- the last byte of a descending keyword for which `CcharTolower(last byte) + 1` is its successor in the case-folded
order: not `0xff` (the increment wraps to NUL), not `'@'` (its successor `'A'` folds to `'a'`, which skips the six byte values
`[ \ ] ^ _ \`` between `'Z'` and `'a'`).
`'Z'` is admitted: since fix b555081 the byte is lower-cased before the increment (`'z' + 1`, not `'['`). -/
def LastOK (x : Nat) : Prop := x < 255 ∧ x ≠ 64

theorem lower_of_upper (x : Nat) (h : 65 ≤ x ∧ x ≤ 90) : ccharTolower x = x + 97 - 65 := if_pos h

theorem lower_of_not_upper (x : Nat) (h : ¬ (65 ≤ x ∧ x ≤ 90)) : ccharTolower x = x := if_neg h

theorem lower_lt (x : Nat) (h : x < 255) : ccharTolower x < 255 := by
  by_cases hu : 65 ≤ x ∧ x ≤ 90
  · rw [lower_of_upper x hu]; omega
  · rw [lower_of_not_upper x hu]; exact h

/-- the successor byte the code computes (`CcharTolower(b) + 1`) is its own lower-case form. -/
theorem lower_succ (x : Nat) (h : LastOK x) : ccharTolower (ccharTolower x + 1) = ccharTolower x + 1 := by
  obtain ⟨_, h3⟩ := h
  by_cases hu : 65 ≤ x ∧ x ≤ 90
  · rw [lower_of_upper x hu]
    exact lower_of_not_upper _ (by omega)
  · rw [lower_of_not_upper x hu]
    exact lower_of_not_upper _ (by omega)

theorem closestKeyword_desc (nameLen : Nat) (kw0 : List Nat) (x : Nat) (hl : (kw0 ++ [x]).length ≤ nameLen) :
    closestKeyword nameLen (kw0 ++ [x]) false =
      .ok (copyInto nameLen (kw0 ++ [(ccharTolower x + 1) % 256])) := by
  have hlen : (kw0 ++ [x]).length = kw0.length + 1 := List.length_append
  have hl' : (kw0 ++ [(ccharTolower x + 1) % 256]).length ≤ nameLen := by rw [List.length_append]; exact hlen ▸ hl
  unfold closestKeyword
  -- the descending branch, for a keyword that is not empty
  rw [if_neg Bool.false_ne_true, if_neg (by rw [hlen]; exact Nat.succ_ne_zero _)]
  -- both keywords fit: their copies are the keyword followed by zeros
  rw [copyInto_of_le nameLen _ hl, copyInto_of_le nameLen _ hl', hlen, Nat.add_sub_cancel, List.append_assoc,
    List.append_assoc]
  -- the byte read at `len - 1` is the last byte of the keyword
  have hget : ∀ s, idx (kw0 ++ ([x] ++ s)) kw0.length = .ok x := fun s => idx_append_len kw0 x s
  rw [hget]
  simp only [bind, Except.bind, pure, Except.pure]
  rw [List.set_append_right _ _ (Nat.le_refl _)]
  simp only [Nat.sub_self, List.cons_append, List.nil_append, List.set_cons_zero, List.length_append,
    List.length_cons, List.length_nil]

theorem low_append_singleton (kw0 : List Nat) (x : Nat) (h0 : ∀ y ∈ kw0 ++ [x], y ≠ 0) :
    low (kw0 ++ [x]) = kw0.map ccharTolower ++ [ccharTolower x] := by
  rw [low_of_nonzero _ h0]; simp

/-- the keyword the descending search looks for is the successor of the keyword: a name compares below it exactly when
the probe does not put that name above the names carrying the keyword. -/
theorem succKeyword_spec {nameLen : Nat} {kw0 : List Nat} {x : Nat} (ok : KwOK nameLen (kw0 ++ [x])) (hx : LastOK x) :
    low (copyInto nameLen (kw0 ++ [(ccharTolower x + 1) % 256])) ≠ [] ∧
      ∀ e, 0 < cmpNameP (copyInto nameLen (kw0 ++ [(ccharTolower x + 1) % 256])) e ↔ 0 ≤ probeP (kw0 ++ [x]) e := by
  have hnz' : ∀ y ∈ kw0 ++ [ccharTolower x + 1], y ≠ 0 := by
    intro y hy
    rcases List.mem_append.mp hy with h | h
    · exact ok.nz y (List.mem_append_left _ h)
    · rw [List.mem_singleton.mp h]; exact Nat.succ_ne_zero _
  have ok' : KwOK nameLen (kw0 ++ [ccharTolower x + 1]) := ⟨by simp, hnz', by simpa using ok.lt⟩
  rw [Nat.mod_eq_of_lt (Nat.lt_of_lt_of_le (Nat.succ_lt_succ (lower_lt x hx.1)) (Nat.le_refl 256))]
  obtain ⟨q, hq⟩ : ∃ q, q = copyInto nameLen (kw0 ++ [ccharTolower x + 1]) := ⟨_, rfl⟩
  have hS : low q = succStr (kw0.map ccharTolower) (ccharTolower x) := by
    rw [hq, low_copyInto ok', low_append_singleton kw0 (ccharTolower x + 1) hnz', lower_succ x hx]; rfl
  rw [← hq]
  refine ⟨by rw [hS]; simp [succStr], fun e => ?_⟩
  rw [(cmpNameP_sign q e).2.2, hS, lt_succ_iff, ← low_append_singleton kw0 x ok.nz, ← probeP_pos_iff,
    ← pref_iff _ ok.nz, pref_iff_probeP ok.nz]
  omega

section
variable {maxBoard nameLen : Nat} {es : List Entry} (W : NameView maxBoard nameLen es) {kw0 : List Nat} {x : Nat}
  (ok : KwOK nameLen (kw0 ++ [x]))
include ok

/-- an equation with the probe left in place (unlike `autoStart_asc_of`): `autoStart_desc_none` uses it without knowing
the start `s`. -/
theorem autoStart_desc_of (r : Int)
    (hr : findIdx maxBoard (cmpName (copyInto nameLen (kw0 ++ [(ccharTolower x + 1) % 256]))) es true = .ok r) (s : Int)
    (hs : (if r = -1 then Int.ofNat es.length else r) - 1 = s) :
    autoStart maxBoard nameLen es (kw0 ++ [x]) false =
      (if s < 0 then Except.ok (-1)
        else probeDesc maxBoard (kw0 ++ [x]) maxIterAutoComplete (downFrom es s.toNat) s.toNat).bind
        (fun y => if y = -1 then .ok (-1) else .ok (y + 1)) := by
  unfold autoStart
  rw [if_neg (Nat.not_lt.mpr ok.lt), if_neg (fun h => ok.ne (List.length_eq_zero_iff.mp h))]
  simp only [bind, Except.bind]
  rw [closestKeyword_desc nameLen kw0 x ok.len]
  simp only [Bool.false_eq_true, if_false, Bool.not_false]
  rw [hr]
  simp only
  rw [hs]
  by_cases h : s < 0
  · rw [if_pos h, if_pos h]
    rfl
  · rw [if_neg h, if_neg h]
    rfl

include W

/-- FindBoardAutoCompleteStartIdx, descending = the last board carrying the prefix. -/
theorem autoStart_desc (hx : LastOK x) :
    autoStart maxBoard nameLen es (kw0 ++ [x]) false = .ok (specAuto (kw0 ++ [x]) es false) := by
  obtain ⟨q, hq⟩ : ∃ q, q = copyInto nameLen (kw0 ++ [(ccharTolower x + 1) % 256]) := ⟨_, rfl⟩
  obtain ⟨hq0, hpos⟩ := succKeyword_spec ok hx
  rw [← hq] at hq0 hpos
  by_cases hne : es = []
  · subst hne
    rw [autoStart_desc_of ok (-1) rfl (-1) rfl]
    rfl
  have hlen : 0 < es.length := List.length_pos_iff.mpr hne
  suffices h : ∃ r m, ∃ _ : m < es.length, findIdx maxBoard (cmpName q) es true = .ok r ∧
      (if r = -1 then Int.ofNat es.length else r) - 1 = Int.ofNat m ∧
      After (cmpNameP q) es m ∧ Before (cmpNameP q) es m by
    obtain ⟨r, m, hm, hf, hs, hA, hB⟩ := h
    rw [hq] at hf
    rw [autoStart_desc_of ok r hf (Int.ofNat m) hs,
      if_neg (c := Int.ofNat m < 0) (Int.not_lt.mpr (Int.natCast_nonneg m))]
    show (probeDesc maxBoard (kw0 ++ [x]) (1 + 2) (downTo es (m + 1)) m).bind _ = _
    rw [probeDesc_near W ok 1 m hm
      (fun k hk hlt => Int.not_le.mp (fun h => Int.lt_asymm (hA k hk hlt) ((hpos _).mpr h)))
      (fun k hk hlt => (hpos _).mp (hB k hk hlt))]
    exact pure_oneBased _
  rcases findIdx_lands (cmpName_eq q) W.valid (mono_cmpName q es W.sorted) (unique0_of_distinct q es W.distinct hq0) true with
    ⟨hf, hall⟩ | ⟨p, hp, hf, hB, hA⟩
  · -- every name is below the successor keyword: probe from the last board
    refine ⟨-1, es.length - 1, Nat.sub_lt hlen Nat.one_pos, hf, ?_, fun k hk hlt => ?_,
      fun k hk _ => hall _ (List.getElem_mem hk)⟩
    · show Int.ofNat es.length - 1 = Int.ofNat (es.length - 1)
      simp only [Int.ofNat_eq_natCast]
      omega
    · omega
  · exact ⟨_, p, hp, hf, startPos_of_found p _, hA, hB⟩

/-- descending, any last byte: if no board carries the prefix the answer is `-1`, wherever the search for the
meaningless successor lands, because the probe only answers with a board carrying the prefix. -/
theorem autoStart_desc_none (hno : ∀ e ∈ es, pref (kw0 ++ [x]) e = false) :
    autoStart maxBoard nameLen es (kw0 ++ [x]) false = .ok (specAuto (kw0 ++ [x]) es false) := by
  obtain ⟨q, hq⟩ : ∃ q, q = copyInto nameLen (kw0 ++ [(ccharTolower x + 1) % 256]) := ⟨_, rfl⟩
  obtain ⟨r, hr, _⟩ := findIdx_post (cmpName_eq q) W.valid (mono_cmpName q es W.sorted) true
  rw [hq] at hr
  obtain ⟨s, hs⟩ : ∃ s, (if r = -1 then Int.ofNat es.length else r) - 1 = s := ⟨_, rfl⟩
  rw [specAuto_desc, scanLast_none hno, autoStart_desc_of ok r hr s hs]
  by_cases h : s < 0
  · rw [if_pos h]
    rfl
  · rw [if_neg h, probeDesc_none W ok _ _ _ (fun e he => ⟨mem_of_mem_downFrom he, hno e (mem_of_mem_downFrom he)⟩)]
    rfl

end

/-- FindBoardAutoCompleteStartIdx, descending, for EVERY non-empty NUL-free keyword of at most IDLEN bytes (bytes
below 256), over tables whose names contain neither `'@'` nor `0xff`: a keyword whose last byte has no usable
successor is carried by no board. -/
theorem autoStart_desc_all {maxBoard nameLen : Nat} {es : List Entry} (W : NameView maxBoard nameLen es)
    {kw : List Nat} (ok : KwOK nameLen kw) (hb : ∀ x ∈ kw, x < 256) (V : NoAtFF es) :
    autoStart maxBoard nameLen es kw false = .ok (specAuto kw es false) := by
  rcases List.eq_nil_or_concat kw with h | ⟨kw0, x, h⟩
  · exact absurd h ok.ne
  · rw [List.concat_eq_append] at h
    subst h
    have hx : x < 256 := hb x (by simp)
    by_cases hok : LastOK x
    · exact autoStart_desc W ok hok
    · apply autoStart_desc_none W ok
      intro e he
      cases hp : pref (kw0 ++ [x]) e with
      | false => rfl
      | true =>
        exfalso
        rw [pref_iff _ ok.nz, hasPrefix_iff, low_append_singleton kw0 x ok.nz] at hp
        have hmem : ccharTolower x ∈ nkey e := hp.subset (by simp)
        unfold LastOK at hok
        rw [lower_of_not_upper x (by omega)] at hmem
        have := V e he x hmem
        omega

/-! ### the empty keyword and keywords longer than a board name (fix b555081) -/

theorem pref_nil (e : Entry) : pref [] e = true := by
  unfold pref cstrCaseHasPrefix cstrTolower
  simp only [List.map_nil]
  cases (List.map ccharTolower e.b.name) <;> rfl

theorem autoStart_empty (maxBoard nameLen : Nat) (es : List Entry) (hl : 1 ≤ nameLen) (isAsc : Bool) :
    autoStart maxBoard nameLen es [] isAsc = .ok (specAuto [] es isAsc) := by
  unfold autoStart
  rw [if_neg (c := ([] : List Nat).length + 1 > nameLen) (Nat.not_lt.mpr hl),
    if_pos (c := ([] : List Nat).length = 0) rfl]
  by_cases hes : es = []
  · subst hes
    cases isAsc <;> rfl
  · have hlen : 0 < es.length := List.length_pos_iff.mpr hes
    rw [if_neg (Nat.ne_of_gt hlen)]
    cases isAsc with
    | true =>
      rw [if_pos rfl, specAuto_asc,
        scanFirst_eq_of (pref []) es 0 hlen (pref_nil _) (fun k hk => absurd hk (Nat.not_lt_zero k))]
      rfl
    | false =>
      have hlast : Int.ofNat (es.length - 1) + 1 = Int.ofNat es.length := by
        simp only [Int.ofNat_eq_natCast]
        omega
      rw [if_neg Bool.false_ne_true, specAuto_desc,
        scanLast_eq_of (pref []) es (es.length - 1) (Nat.sub_lt hlen Nat.one_pos) (pref_nil _)
          (fun k hk hlt => absurd hk (Nat.not_lt.mpr (Nat.le_of_pred_lt hlt))),
        oneBased_ofNat, hlast]
      rfl

theorem autoStart_short {maxBoard nameLen : Nat} {es : List Entry} (W : NameView maxBoard nameLen es) (V : NoAtFF es)
    {kw : List Nat} (h0 : ∀ x ∈ kw, x ≠ 0) (hb : ∀ x ∈ kw, x < 256) (hl : 1 ≤ nameLen) (hlt : kw.length < nameLen)
    (isAsc : Bool) : autoStart maxBoard nameLen es kw isAsc = .ok (specAuto kw es isAsc) := by
  by_cases hem : kw = []
  · subst hem
    exact autoStart_empty maxBoard nameLen es hl isAsc
  · have ok : KwOK nameLen kw := ⟨hem, h0, hlt⟩
    cases isAsc with
    | true => exact autoStart_asc W ok
    | false => exact autoStart_desc_all W ok hb V

/-- a keyword longer than IDLEN is answered `-1` without touching the table … -/
theorem autoStart_long (maxBoard nameLen : Nat) (es : List Entry) (kw : List Nat) (isAsc : Bool)
    (h : nameLen ≤ kw.length) : autoStart maxBoard nameLen es kw isAsc = .ok (-1) := by
  unfold autoStart
  rw [if_pos (by omega)]
  rfl

/-- … which is what the scan gives when every name is NUL-terminated inside its array. -/
theorem specAuto_long (nameLen : Nat) (es : List Entry) (kw : List Nat) (isAsc : Bool)
    (h0 : ∀ x ∈ kw, x ≠ 0) (h : nameLen ≤ kw.length) (ht : ∀ e ∈ es, (nkey e).length < nameLen) :
    specAuto kw es isAsc = -1 := by
  have hno : ∀ e ∈ es, pref kw e = false := by
    intro e he
    cases hp : pref kw e with
    | false => rfl
    | true =>
      rw [pref_iff kw h0, hasPrefix_iff] at hp
      have := hp.length_le
      rw [low_length kw h0] at this
      have := ht e he
      omega
  unfold specAuto
  cases isAsc with
  | true => simp only [if_true]; rw [scanFirst_none hno]; rfl
  | false => simp only [Bool.false_eq_true, if_false]; rw [scanLast_none hno]; rfl

end PttVerif.C11
