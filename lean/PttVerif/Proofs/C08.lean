import PttVerif.Model.C08
import PttVerif.Spec.C08
/-
C08 — lemmas under the property theorems: the tests and the integer arithmetic of the Go code against the clauses of
the rule set, and the general facts about `runEvents` (acceptance = no guard fires; a refusal after `guardsFirst`
leaves nothing touched).
-/
namespace PttVerif.C08
open PttVerif

/-! ### the clauses of the rule set as the Booleans the Go code tests

The regenerated bits evaluate to the hand-written ones: after `has_iff` a Go test and its clause agree up to
unfolding, and `exact Iff.rfl` closes the goal.  Where a `rw`/`simp` has to recognise one side in the other
syntactically, the bits are first rewritten by `source_constants` (Props/C08.lean). -/

theorem has_iff (l m : UInt32) : has l m = true ↔ Spec.hasBit l m := by
  simp [has, Spec.hasBit]

theorem isBMCache_iff (u : User) (b : Board) : isBMCache u b = true ↔ Spec.moderator u b := by
  unfold isBMCache Spec.moderator Spec.verified
  rw [← has_iff, ← has_iff]
  show _ ↔ has u.level PERM_BASIC = true ∧ has u.level PERM_LOGINOK = true ∧ _
  cases has u.level PERM_BASIC <;> cases has u.level PERM_LOGINOK <;> simp

/-- the form in which `boardPermStatNormally` tests BRD_POSTMASK. -/
theorem and_beq_zero (l m : UInt32) : (l &&& m == 0) = !has l m := by
  rw [has, bne, Bool.not_not]

theorem not_and_not_eq_true (a b : Bool) : ¬ (a && !b) = true ↔ (a = true → b = true) := by
  cases a <;> cases b <;> simp

theorem lowerByte_eq : lowerByte = Spec.lower := rfl

/-! ### a cascade of `if … return` as a proposition

A branch that returns the accepting value contributes a disjunct, one that returns a refusing value a negated
conjunct; `boardPermStat` accepts with a non-zero status, `postpermMsg` with `none`. -/

section cascade
variable (c : Prop) [Decidable c]

theorem ite_one_ne_zero (e : Nat) : (if c then 1 else e) ≠ 0 ↔ c ∨ e ≠ 0 := by
  split <;> simp [*]

theorem ite_zero_ne_zero (e : Nat) : (if c then 0 else e) ≠ 0 ↔ ¬ c ∧ e ≠ 0 := by
  split <;> simp [*]

theorem ite_ne_zero (a e : Nat) : (if c then a else e) ≠ 0 ↔ (c ∧ a ≠ 0) ∨ (¬ c ∧ e ≠ 0) := by
  split <;> simp [*]

variable {α : Type}

theorem ite_eq_then_iff (z e : α) : (if c then z else e) = z ↔ c ∨ e = z :=
  ite_eq_left_iff.trans Decidable.or_iff_not_imp_left.symm

theorem ite_eq_of_ne {a z : α} (h : a ≠ z) (e : α) : (if c then a else e) = z ↔ ¬ c ∧ e = z := by
  split <;> simp [*]

theorem ite_some_eq_none (a : α) (e : Option α) : (if c then some a else e) = none ↔ ¬ c ∧ e = none :=
  ite_eq_of_ne c (Option.some_ne_none a) e

theorem ite_eq_none (a e : Option α) : (if c then a else e) = none ↔ (c → a = none) ∧ (¬ c → e = none) := by
  split <;> simp [*]

end cascade

/-! ### the limits (uint8 / uint32 as in Go) and the flood table -/

theorem getRestrictionReason_eq (d : UInt32) (bp lg lb : UInt8) :
    getRestrictionReason d bp lg lb = 0 ↔ (lg.toNat ≤ d.toNat / 10 ∧ bp.toNat + lb.toNat ≤ 255) := by
  have hb : lb.toNat ≤ 255 := Nat.le_of_lt_succ lb.toNat_lt
  have e1 : (d / 10 < lg.toUInt32) ↔ d.toNat / 10 < lg.toNat := by
    rw [UInt32.lt_iff_toNat_lt, UInt32.toNat_div, UInt8.toNat_toUInt32]
    exact Iff.rfl
  -- `255 - lb` does not wrap
  have e2 : (bp > 255 - lb) ↔ 255 < bp.toNat + lb.toNat := by
    rw [gt_iff_lt, UInt8.lt_iff_toNat_lt, UInt8.toNat_sub_of_le _ _ (UInt8.le_iff_toNat_le.mpr hb)]
    exact Nat.sub_lt_iff_lt_add hb
  unfold getRestrictionReason
  rw [ite_eq_of_ne _ (by decide), ite_eq_of_ne _ (by decide), e1, e2]
  simp only [Nat.not_lt, and_true]

/-- the `limit` array of checkCooldown as it lists a table of pairs. -/
def flattenPairs : List (Int × Nat) → List Int
  | [] => []
  | (a, k) :: r => a :: (k : Int) :: flattenPairs r

theorem limitHit_flatten (n : Int) (pt : Nat) (L : List (Int × Nat)) :
    limitHit n (pt : Int) (flattenPairs L) = true ↔ ∃ p ∈ L, p.1 < n ∧ p.2 ≤ pt := by
  induction L with
  | nil => simp [flattenPairs, limitHit]
  | cons p r ih =>
    obtain ⟨a, k⟩ := p
    simp only [flattenPairs, limitHit, Bool.or_eq_true, Bool.and_eq_true, decide_eq_true_eq, ih, List.mem_cons,
      exists_eq_or_imp, Int.ofNat_le]

/-- `Gen.WriteGuards.cooldownLimit` is `flattenPairs Spec.floodLimits` by evaluation (`source_flood_table`). -/
theorem floodHit_iff (n : Int) (pt : Nat) :
    limitHit n (pt : Int) Gen.WriteGuards.cooldownLimit = true ↔ ∃ p ∈ Spec.floodLimits, p.1 < n ∧ p.2 ≤ pt :=
  limitHit_flatten n pt Spec.floodLimits

/-! ### the two fields of the cool-down word -/

theorem cdTime_eq (w : UInt32) : (cooldownTimeOf w).toNat = Spec.cdTime w := rfl

theorem postTimes_eq (w : UInt32) : (posttimesOf w).toNat = Spec.postTimes w := rfl

theorem posttimes_full (w : UInt32) : (posttimesOf w == 0xf) = true ↔ Spec.postTimes w = 15 := by
  rw [beq_iff_eq, ← UInt32.toNat_inj]
  exact Iff.rfl

theorem postTimes_mod (w : UInt32) : Spec.postTimes w = w.toNat % 16 := by
  rw [Spec.postTimes, UInt32.toNat_and]
  exact Nat.and_two_pow_sub_one_eq_mod w.toNat 4

/-- cache.AddPosttimes leaves a counter of at least one (it saturates at 15). -/
theorem one_le_postTimes_addPosttimes (w : UInt32) : 1 ≤ Spec.postTimes (addPosttimes w) := by
  unfold addPosttimes
  rw [postTimes_eq]
  split
  · rename_i h
    rw [postTimes_mod] at h ⊢
    rw [UInt32.toNat_add]
    show 1 ≤ (w.toNat + 1) % 2 ^ 32 % 16
    rw [Nat.mod_mod_of_dvd _ (by decide : 16 ∣ 2 ^ 32), Nat.add_mod,
      Nat.mod_eq_of_lt (Nat.lt_trans h (by decide : 15 < 16))]
    exact Nat.le_add_left 1 _
  · have full : ∀ k : Fin 16, k.val ||| 15 = 15 := by decide
    rw [postTimes_mod, UInt32.toNat_or]
    show 1 ≤ (w.toNat ||| 15) % 2 ^ 4
    rw [Nat.or_mod_two_pow, full ⟨w.toNat % 2 ^ 4, Nat.mod_lt _ (by decide)⟩]
    decide

/-! ### the friend list row -/

theorem hbflScan_zeros (uid k : Nat) : hbflScan uid (List.replicate k 0) = false := by
  cases k <;> simp [List.replicate, hbflScan]

theorem hbflScan_nonzero_append (uid : Nat) (fs rest : List Nat) (hnz : ∀ f ∈ fs, f ≠ 0) :
    hbflScan uid (fs ++ rest) = (decide (uid ∈ fs) || hbflScan uid rest) := by
  induction fs with
  | nil => simp
  | cons f r ih =>
    rw [List.forall_mem_cons] at hnz
    rw [List.cons_append, hbflScan, if_neg hnz.1, ih hnz.2]
    by_cases h : f = uid
    · simp [h]
    · simp [h, Ne.symm h]

theorem hbflFill_nonzero (es : List Nat) : ∀ f ∈ hbflFill es, f ≠ 0 := by
  intro f hf
  have := List.mem_of_mem_take hf
  simpa using (List.mem_filter.mp this).2

theorem hbflFill_length (es : List Nat) : (hbflFill es).length ≤ MAX_FRIEND := by
  rw [hbflFill, List.length_take]
  exact Nat.min_le_left _ _

theorem hbflScan_reload (row : List Nat) (file : Option (List Nat)) (now uid : Nat) :
    hbflScan uid (((hbflReload true false row file now).drop 1).take MAX_FRIEND) =
      decide (uid ∈ hbflFill (file.getD [])) := by
  have hl := hbflFill_length (file.getD [])
  have e : hbflReload true false row file now =
      now :: (hbflFill (file.getD []) ++ List.replicate (MAX_FRIEND - (hbflFill (file.getD [])).length) 0) := by
    cases file <;> rfl
  rw [e, List.drop_succ_cons, List.drop_zero, List.take_of_length_le (by simp; omega),
    hbflScan_nonzero_append _ _ _ (hbflFill_nonzero _), hbflScan_zeros, Bool.or_false]

/-! ### runEvents -/

theorem runEvents_err_none (x : Row) (evs : List Event) (t : Bool) :
    (runEvents x evs t).err = none ↔ evs.all (fun | .guard c _ => !evalCond x c | .effect .. => true) = true := by
  induction evs generalizing t with
  | nil => exact ⟨fun _ => rfl, fun _ => rfl⟩
  | cons e r ih =>
    cases e with
    | guard c s =>
      rw [runEvents, List.all_cons]
      show _ ↔ (!evalCond x c && _) = true
      cases evalCond x c
      · exact ih t
      · exact ⟨nofun, nofun⟩
    | effect n p c => exact ih _

theorem quiet_sound (x : Row) (c : Cond) : c.quiet = true → evalCond x c = false := by
  -- by the clauses of `Cond.quiet`: the two quiet atoms, the three clauses that answer `false`, `and`, `or`
  fun_induction Cond.quiet c with
  | case1 | case2 => exact fun _ => rfl
  | case3 | case4 | case5 => exact nofun
  | case6 a b iha ihb =>
    intro h
    rw [Bool.or_eq_true] at h
    rw [evalCond, Bool.and_eq_false_iff]
    exact h.imp iha ihb
  | case7 a b iha ihb =>
    intro h
    rw [Bool.and_eq_true] at h
    rw [evalCond, Bool.or_eq_false_iff]
    exact ⟨iha h.1, ihb h.2⟩

theorem runEvents_quiet (x : Row) (evs : List Event) (t : Bool) (h : evs.all Event.isQuiet = true) :
    (runEvents x evs t).err = none := by
  rw [runEvents_err_none, List.all_eq_true]
  intro e he
  cases e with
  | guard c s => exact congrArg (!·) (quiet_sound x c (List.all_eq_true.mp h _ he))
  | effect n p c => rfl

/-- when no refusal that the model can take follows the first persistent effect, a refusal has touched nothing. -/
theorem refused_untouched_of_guardsFirst (x : Row) (evs : List Event) (h : guardsFirst evs = true) :
    (runEvents x evs false).err ≠ none → (runEvents x evs false).touched = false := by
  induction evs with
  | nil => exact fun _ => rfl
  | cons e r ih =>
    cases e with
    | guard c s =>
      rw [runEvents]
      split
      · exact fun _ => rfl
      · exact ih h
    | effect n p c =>
      cases p with
      | false => exact ih h
      | true => exact fun hne => absurd (runEvents_quiet x r _ h) hne

/-! ### acceptance of the four operations in terms of the hand-modelled decisions -/

/-- what the guards of the regenerated body of an operation demand, in source order (the I/O and opaque guards fire
on no row of the model).  The grouping of the conjuncts and the forms `a = true → b = false` are what the `simp only`
of `accepted_iff_demands` leaves of the negated guards, so that its proof ends in `Iff.rfl`. -/
def demands (op : Op) (x : Row) : Prop :=
  match op with
  | .newpost =>
      boardPermStat x.u x.src ≠ 0 ∧ postpermMsg x.u x.src x.now = none ∧ getBoardRestrictionReason x.u x.src = 0 ∧
      checkCooldown x.u x.src x.cd x.now = false ∧ has x.u.level PERM_LOGINOK = true
  | .recommend =>
      boardPermStat x.u x.src ≠ 0 ∧ postpermMsg x.u x.src x.now = none ∧ getBoardRestrictionReason x.u x.src = 0 ∧
      checkCooldown x.u x.src x.cd x.now = false ∧
      x.art.total0 = false ∧ x.art.found = true ∧
      ((has x.src.attr BRD_NORECOMMEND = false ∧ firstIs x.art.entName 76 = false) ∧
        (has x.art.entMode.toUInt32 FILE_MARKED = true → has x.art.entMode.toUInt32 FILE_SOLVED = false))
  | .editpost =>
      boardPermStat x.u x.src ≠ 0 ∧
      (isReadonlyBoard x.src.name = false ∧ has x.src.attr BRD_VOTEBOARD = false) ∧
      x.art.found = true ∧ has x.art.entMode.toUInt32 FILE_VOTE = false ∧ firstIs x.art.entName 46 = false ∧
      has x.u.level PERM_BASIC = true ∧
      postpermMsg x.u x.src x.now = none ∧ getBoardRestrictionReason x.u x.src = 0 ∧
      (isFileOwner x.art x.u = false → has x.u.level PERM_SYSOP = true)
  | .crosspost =>
      has x.src.attr BRD_VOTEBOARD = false ∧ boardPermStat x.u x.src ≠ 0 ∧
      x.art.found = true ∧ firstIs x.art.entOwner 45 = false ∧ x.art.fileExists = true ∧
      has x.u.level PERM_VIOLATELAW = false ∧ has x.u.level PERM_LOGINOK = true ∧
      (has x.src.attr BRD_CPLOG = true →
        postpermMsg x.u x.src x.now = none ∧ getBoardRestrictionReason x.u x.src = 0) ∧
      boardPermStat x.u x.tgt ≠ 0 ∧ postpermMsg x.u x.tgt x.now = none ∧
      getBoardRestrictionReason x.u x.tgt = 0 ∧ checkCooldown x.u x.tgt x.cd x.now = false

theorem accepted_iff_demands (op : Op) (x : Row) : accepted op x ↔ demands op x := by
  unfold accepted run
  rw [runEvents_err_none]
  cases op
  all_goals
    simp only [Op.events, demands, Gen.WriteGuards.newpost, Gen.WriteGuards.recommend, Gen.WriteGuards.editpost,
      Gen.WriteGuards.crosspost, List.all_cons, List.all_nil, evalCond, evalAtom, Row.board, checkPostRestriction,
      hasPostPerm, Bool.not_false, Bool.not_true, Bool.not_not, Bool.true_and, Bool.and_true, Bool.and_false,
      Bool.false_or, Bool.and_eq_true, Bool.or_eq_false_iff, Bool.and_eq_false_imp, Bool.not_eq_true',
      Bool.not_eq_false', beq_iff_eq, beq_eq_false_iff_ne, bne_eq_false_iff_eq, Option.isSome_eq_false_iff,
      Option.isNone_iff_eq_none]
    -- the masks in the bodies are the named bits by unfolding
    exact Iff.rfl

theorem accepted_newpost_model (x : Row) :
    accepted .newpost x ↔
      boardPermStat x.u x.src ≠ 0 ∧ postpermMsg x.u x.src x.now = none ∧ getBoardRestrictionReason x.u x.src = 0 ∧
      checkCooldown x.u x.src x.cd x.now = false ∧ has x.u.level PERM_LOGINOK = true :=
  accepted_iff_demands .newpost x

def Op.written (op : Op) (x : Row) : Board :=
  match op with
  | .crosspost => x.tgt
  | _ => x.src

/-- every operation consults the posting decision of the board it writes to. -/
theorem accepted_postperm (op : Op) (x : Row) :
    accepted op x → postpermMsg x.u (op.written x) x.now = none := by
  intro h
  have h := (accepted_iff_demands op x).mp h
  cases op
  · exact h.2.1
  · exact h.2.1
  · obtain ⟨_read, _board, _found, _vote, _deleted, _basic, hpost, _⟩ := h
    exact hpost
  · obtain ⟨_vote, _read, _found, _deleted, _file, _law, _verified, _cplog, _readTgt, hpost, _⟩ := h
    exact hpost

end PttVerif.C08
