import PttVerif.Model.C06
import PttVerif.Props.C13
/-
C06 — FindRecordStartIdx against the linear scan over the first `T` records (`Spec`).  File positions are `Int`s read
through the total accessors `ent`/`tm`; the parts of the search come in the order of the Go code.
-/
namespace PttVerif.C06
open PttVerif

/-! ### the specification: a linear scan over the first `T` records -/
namespace Spec

/-- greatest position below `n` satisfying `p` (scan downwards from the end). -/
def lastBelow (p : Nat → Bool) : Nat → Option Nat
  | 0 => none
  | n + 1 => if p n then some n else lastBelow p n

/-- least position in `[s, s+n)` satisfying `p` (scan upwards). -/
def firstFrom (p : Nat → Bool) : Nat → Nat → Option Nat
  | 0, _ => none
  | n + 1, s => if p s then some s else firstFrom p n (s + 1)

/-- entry `i` has creation time `ct` and name key `k`. -/
def hitAt (idx : Index) (ct : Int) (k : List Nat) (i : Nat) : Bool :=
  match idx[i]? with
  | some e => e.time? == some ct && k == e.key
  | none => false

/-- entry `i` is parsable and not newer than `ct`. -/
def leAt (idx : Index) (ct : Int) (i : Nat) : Bool :=
  match idx[i]? with
  | some e => (match e.time? with | some t => decide (t ≤ ct) | none => false)
  | none => false

/-- entry `i` is parsable and not older than `ct`. -/
def geAt (idx : Index) (ct : Int) (i : Nat) : Bool :=
  match idx[i]? with
  | some e => (match e.time? with | some t => decide (ct ≤ t) | none => false)
  | none => false

/-- 0-based position of the cursor `(ct, fn)` among the first `T` records, in listing direction:
the entry itself if present, else the nearest one in that direction, else none. -/
def position (idx : Index) (T : Nat) (ct : Int) (fn : Option (List Nat)) (isDesc : Bool) : Option Nat :=
  let exact := match fn with
    | none => none
    | some k => if isDesc then lastBelow (hitAt idx ct k) T else firstFrom (hitAt idx ct k) T 0
  match exact with
  | some i => some i
  | none => if isDesc then lastBelow (leAt idx ct) T else firstFrom (geAt idx ct) T 0

/-- what FindRecordStartIdx has to return: the 1-based position or ErrRecordNotFound. -/
def find (idx : Index) (T : Nat) (ct : Int) (fn : Option (List Nat)) (isDesc : Bool) : R Int :=
  match position idx T ct fn isDesc with
  | some i => .ok (i + 1)
  | none => .error .notFound

theorem lastBelow_some {p : Nat → Bool} : ∀ {n i : Nat}, lastBelow p n = some i →
    i < n ∧ p i = true ∧ ∀ j, i < j → j < n → p j = false := by
  intro n
  induction n with
  | zero => intro i h; cases h
  | succ n ih =>
    intro i h
    unfold lastBelow at h
    by_cases hp : p n = true
    · rw [if_pos hp] at h
      cases h
      exact ⟨Nat.lt_succ_self _, hp, fun j h1 h2 => absurd (Nat.le_of_lt_succ h2) (Nat.not_le.mpr h1)⟩
    · rw [if_neg hp] at h
      obtain ⟨h1, h2, h3⟩ := ih h
      refine ⟨Nat.lt_succ_of_lt h1, h2, fun j hj1 hj2 => ?_⟩
      rcases Nat.lt_succ_iff_lt_or_eq.mp hj2 with hlt | heq
      · exact h3 j hj1 hlt
      · rw [heq]; exact Bool.eq_false_iff.mpr hp

theorem lastBelow_none {p : Nat → Bool} : ∀ {n : Nat}, lastBelow p n = none → ∀ j, j < n → p j = false := by
  intro n
  induction n with
  | zero => intro _ j hj; exact absurd hj (Nat.not_lt_zero j)
  | succ n ih =>
    intro h j hj
    unfold lastBelow at h
    by_cases hp : p n = true
    · rw [if_pos hp] at h; cases h
    · rw [if_neg hp] at h
      rcases Nat.lt_succ_iff_lt_or_eq.mp hj with hlt | heq
      · exact ih h j hlt
      · rw [heq]; exact Bool.eq_false_iff.mpr hp

theorem firstFrom_some {p : Nat → Bool} : ∀ {n s i : Nat}, firstFrom p n s = some i →
    s ≤ i ∧ i < s + n ∧ p i = true ∧ ∀ j, s ≤ j → j < i → p j = false := by
  intro n
  induction n with
  | zero => intro s i h; cases h
  | succ n ih =>
    intro s i h
    unfold firstFrom at h
    by_cases hp : p s = true
    · rw [if_pos hp] at h
      cases h
      exact ⟨Nat.le_refl _, Nat.lt_add_of_pos_right (Nat.succ_pos n), hp,
        fun j h1 h2 => absurd h1 (Nat.not_le.mpr h2)⟩
    · rw [if_neg hp] at h
      obtain ⟨h1, h2, h3, h4⟩ := ih h
      refine ⟨Nat.le_of_succ_le h1, by rwa [Nat.add_succ, ← Nat.succ_add], h3, fun j hj1 hj2 => ?_⟩
      rcases Nat.lt_or_eq_of_le hj1 with hlt | heq
      · exact h4 j hlt hj2
      · rw [← heq]; exact Bool.eq_false_iff.mpr hp

theorem firstFrom_none {p : Nat → Bool} : ∀ {n s : Nat}, firstFrom p n s = none →
    ∀ j, s ≤ j → j < s + n → p j = false := by
  intro n
  induction n with
  | zero => intro s _ j h1 h2; exact absurd h1 (Nat.not_le.mpr h2)
  | succ n ih =>
    intro s h j h1 h2
    unfold firstFrom at h
    by_cases hp : p s = true
    · rw [if_pos hp] at h; cases h
    · rw [if_neg hp] at h
      rcases Nat.lt_or_eq_of_le h1 with hlt | heq
      · exact ih h j hlt (by rwa [Nat.add_succ, ← Nat.succ_add] at h2)
      · rw [← heq]; exact Bool.eq_false_iff.mpr hp

end Spec

/-! ### reading positions -/

/-- total accessor: the entry at an in-range position (an entry without a time otherwise). -/
def ent (idx : Index) (i : Int) : Entry := if i < 0 then default else idx.getD i.toNat default

/-- creation time of the entry at position `i`, `none` if unparsable or out of range. -/
def tm (idx : Index) (i : Int) : Option Int := (ent idx i).time?

theorem rd_ok {idx : Index} {i : Int} (h0 : 0 ≤ i) (h1 : i < idx.length) : rd idx i = .ok (ent idx i) := by
  have hlt : i.toNat < idx.length := (Int.toNat_lt h0).mpr h1
  unfold rd ent
  rw [if_neg (Int.not_lt.mpr h0), if_neg (Int.not_lt.mpr h0), List.getD_eq_getElem?_getD,
    List.getElem?_eq_getElem hlt]
  rfl

theorem ent_natCast (idx : Index) (i : Nat) : ent idx (i : Int) = idx.getD i default := by
  simp [ent, Int.not_lt.mpr (Int.natCast_nonneg i)]

theorem tm_none_of_ge {idx : Index} {i : Int} (h : (idx.length : Int) ≤ i) : tm idx i = none := by
  have : idx.length ≤ i.toNat := by omega
  simp [tm, ent, Int.not_lt.mpr (Int.le_trans (Int.natCast_nonneg _) h), List.getD, List.getElem?_eq_none this]
  rfl

theorem tm_none_of_neg {idx : Index} {i : Int} (h : i < 0) : tm idx i = none := by
  simp [tm, ent, h]; rfl

theorem tm_some_range {idx : Index} {i : Int} {t : Int} (h : tm idx i = some t) : 0 ≤ i ∧ i < idx.length := by
  refine ⟨Int.not_lt.mp fun h0 => ?_, Int.not_le.mp fun h1 => ?_⟩
  · rw [tm_none_of_neg h0] at h; cases h
  · rw [tm_none_of_ge h1] at h; cases h

/-- the entry at position `j` is parsable. -/
def Valid (idx : Index) (j : Int) : Prop := (tm idx j).isSome = true

instance (idx : Index) (j : Int) : Decidable (Valid idx j) := by unfold Valid; infer_instance

theorem valid_iff {idx : Index} {j : Int} : Valid idx j ↔ ∃ t, tm idx j = some t := by
  unfold Valid; cases tm idx j <;> simp

theorem not_valid_iff {idx : Index} {j : Int} : ¬ Valid idx j ↔ tm idx j = none := by
  unfold Valid; cases tm idx j <;> simp

theorem valid_range {idx : Index} {j : Int} (h : Valid idx j) : 0 ≤ j ∧ j < idx.length := by
  obtain ⟨t, ht⟩ := valid_iff.mp h
  exact tm_some_range ht

/-! ### the hypotheses on the index, in list form and in position form

The property theorems assume the list form (`SortedValid`, `UniqueKeys`), which can be evaluated on a concrete index;
the loops are followed on positions, so the proofs use the position form below a total `T` (`SortedT`, `UniqueKeysT`). -/

/-- the parsable entries are in non-decreasing creation-time order. -/
def SortedValid (idx : Index) : Prop :=
  idx.Pairwise (fun a b => ∀ ta tb, a.time? = some ta → b.time? = some tb → ta ≤ tb)

/-- no two parsable entries share creation time and name key. -/
def UniqueKeys (idx : Index) : Prop :=
  idx.Pairwise (fun a b => ∀ t, a.time? = some t → b.time? = some t → a.key ≠ b.key)

instance (idx : Index) : Decidable (SortedValid idx) :=
  have : DecidableRel fun a b : Entry => ∀ ta tb, a.time? = some ta → b.time? = some tb → ta ≤ tb := fun a b =>
    decidable_of_iff (∀ ta ∈ a.time?, ∀ tb ∈ b.time?, ta ≤ tb)
      ⟨fun h ta tb h1 h2 => h ta h1 tb h2, fun h ta h1 tb h2 => h ta tb h1 h2⟩
  inferInstanceAs (Decidable (List.Pairwise _ idx))

instance (idx : Index) : Decidable (UniqueKeys idx) :=
  have : DecidableRel fun a b : Entry => ∀ t, a.time? = some t → b.time? = some t → a.key ≠ b.key := fun a b =>
    inferInstanceAs (Decidable (∀ t ∈ a.time?, b.time? = some t → a.key ≠ b.key))
  inferInstanceAs (Decidable (List.Pairwise _ idx))

/-- the parsable entries among the first `T` records are in non-decreasing time order (position form). -/
def SortedT (idx : Index) (T : Nat) : Prop :=
  ∀ a b ta tb, a < b → b < (T : Int) → tm idx a = some ta → tm idx b = some tb → ta ≤ tb

/-- no two parsable entries among the first `T` share creation time and name key. -/
def UniqueKeysT (idx : Index) (T : Nat) : Prop :=
  ∀ a b t, a < (T : Int) → b < (T : Int) → tm idx a = some t → tm idx b = some t →
    (ent idx a).key = (ent idx b).key → a = b

theorem ent_eq_getElem {idx : Index} {a : Int} (h0 : 0 ≤ a) (h : a.toNat < idx.length) : ent idx a = idx[a.toNat] := by
  simp [ent, Int.not_lt.mpr h0, List.getD, List.getElem?_eq_getElem h]

theorem pairwise_take_pos {idx : Index} {T : Nat} {R : Entry → Entry → Prop} (hT : T ≤ idx.length)
    (h : (idx.take T).Pairwise R) {a b : Int} (h0 : 0 ≤ a) (hab : a < b) (hbT : b < T) :
    R (ent idx a) (ent idx b) := by
  have hb : b.toNat < T := (Int.toNat_lt (Int.le_trans h0 (Int.le_of_lt hab))).mpr hbT
  have hlt : a.toNat < b.toNat := (Int.toNat_lt_toNat (Int.lt_of_le_of_lt h0 hab)).mpr hab
  have hlen : (idx.take T).length = T := by rw [List.length_take]; exact Nat.min_eq_left hT
  have := List.pairwise_iff_getElem.mp h a.toNat b.toNat (hlen.symm ▸ Nat.lt_trans hlt hb) (hlen.symm ▸ hb) hlt
  rw [List.getElem_take, List.getElem_take] at this
  rw [ent_eq_getElem h0 (Nat.lt_of_lt_of_le (Nat.lt_trans hlt hb) hT),
    ent_eq_getElem (Int.le_trans h0 (Int.le_of_lt hab)) (Nat.lt_of_lt_of_le hb hT)]
  exact this

theorem sortedT_of {idx : Index} {T : Nat} (hT : T ≤ idx.length) (h : SortedValid (idx.take T)) : SortedT idx T :=
  fun _ _ ta tb hab hbT hta htb => pairwise_take_pos hT h (tm_some_range hta).1 hab hbT ta tb hta htb

theorem uniqueT_of {idx : Index} {T : Nat} (hT : T ≤ idx.length) (h : UniqueKeys (idx.take T)) : UniqueKeysT idx T := by
  intro a b t haT hbT hta htb hk
  rcases Int.lt_trichotomy a b with hlt | heq | hgt
  · exact absurd hk (pairwise_take_pos hT h (tm_some_range hta).1 hlt hbT t hta htb)
  · exact heq
  · exact absurd hk.symm (pairwise_take_pos hT h (tm_some_range htb).1 hgt haT t htb hta)

theorem sortedT_full {idx : Index} (h : SortedValid idx) : SortedT idx idx.length :=
  sortedT_of (Nat.le_refl _) (idx.take_length.symm ▸ h)

theorem uniqueT_full {idx : Index} (h : UniqueKeys idx) : UniqueKeysT idx idx.length :=
  uniqueT_of (Nat.le_refl _) (idx.take_length.symm ▸ h)

/-! ### where a loop stops

At the first position `j` (in its direction) whose body does not `continue`, with that body's result, or one past
the bound when there is no such position: the two disjuncts of `hr`. -/

theorem forUp_stop {α} {idx : Index} {hi : Int} {body : Int → Entry → Step α} {j : Int} {r : R (Out α)}
    (hl : hi < idx.length)
    (hr : j ≤ hi ∧ stepOut j (body j (ent idx j)) = some r ∨ j = hi + 1 ∧ r = .ok (.exit j)) :
    ∀ (fuel : Nat) (i : Int), 0 ≤ i → i ≤ j → hi + 1 - i ≤ fuel →
      (∀ j', i ≤ j' → j' < j → stepOut j' (body j' (ent idx j')) = none) →
      forUp idx hi body fuel i = r := by
  -- what either case of `hr` gives: an exit past the bound, at `j` at the latest, is `r`; so is the body's result at
  -- a `j` within the bound
  obtain ⟨hexit, hbody⟩ : (∀ i, i ≤ j → ¬ i ≤ hi → (.ok (.exit i) : R (Out α)) = r) ∧
      (j ≤ hi → stepOut j (body j (ent idx j)) = some r) := by
    rcases hr with ⟨hj, hb⟩ | ⟨rfl, rfl⟩
    · exact ⟨fun i hij hgt => absurd (Int.le_trans hij hj) hgt, fun _ => hb⟩
    · refine ⟨fun i hij hgt => ?_, fun h => absurd h (Int.not_le.mpr (Int.lt_succ hi))⟩
      rw [Int.le_antisymm hij (Int.add_one_le_of_lt (Int.not_le.mp hgt))]
  intro fuel
  induction fuel with
  | zero =>
    intro i _ hij hf _
    have hgt : ¬ i ≤ hi := by omega
    rw [forUp.eq_1, if_neg hgt]
    exact hexit i hij hgt
  | succ f ih =>
    intro i h0 hij hf hc
    rw [forUp.eq_2]
    by_cases hle : i ≤ hi
    · rw [if_pos hle, rd_ok h0 (Int.lt_of_le_of_lt hle hl)]
      by_cases hji : j = i
      · subst hji
        simp only [hbody hle]
      · have hlt : i < j := Int.lt_iff_le_and_ne.mpr ⟨hij, fun h => hji h.symm⟩
        simp only [hc i (Int.le_refl _) hlt]
        exact ih (i + 1) (Int.le_add_one h0) hlt (by omega) fun j' h1 h2 => hc j' (Int.le_of_lt h1) h2
    · rw [if_neg hle]
      exact hexit i hij hle

theorem forDown_stop {α} {idx : Index} {lo : Int} {body : Int → Entry → Step α} {j : Int} {r : R (Out α)}
    (h0 : 0 ≤ lo)
    (hr : lo ≤ j ∧ stepOut j (body j (ent idx j)) = some r ∨ j = lo - 1 ∧ r = .ok (.exit j)) :
    ∀ (fuel : Nat) (i : Int), i < idx.length → j ≤ i → i + 1 - lo ≤ fuel →
      (∀ j', j < j' → j' ≤ i → stepOut j' (body j' (ent idx j')) = none) →
      forDown idx lo body fuel i = r := by
  obtain ⟨hexit, hbody⟩ : (∀ i, j ≤ i → ¬ lo ≤ i → (.ok (.exit i) : R (Out α)) = r) ∧
      (lo ≤ j → stepOut j (body j (ent idx j)) = some r) := by
    rcases hr with ⟨hj, hb⟩ | ⟨rfl, rfl⟩
    · exact ⟨fun i hji hgt => absurd (Int.le_trans hj hji) hgt, fun _ => hb⟩
    · refine ⟨fun i hji hgt => ?_, fun h => absurd h (Int.not_le.mpr (Int.sub_one_lt_of_le (Int.le_refl lo)))⟩
      rw [Int.le_antisymm (Int.le_sub_one_of_lt (Int.not_le.mp hgt)) hji]
  intro fuel
  induction fuel with
  | zero =>
    intro i _ hji hf _
    have hgt : ¬ lo ≤ i := by omega
    rw [forDown.eq_1, if_neg hgt]
    exact hexit i hji hgt
  | succ f ih =>
    intro i hl hji hf hc
    rw [forDown.eq_2]
    by_cases hle : lo ≤ i
    · rw [if_pos hle, rd_ok (Int.le_trans h0 hle) hl]
      by_cases hij : j = i
      · subst hij
        simp only [hbody hle]
      · have hlt : j < i := Int.lt_iff_le_and_ne.mpr ⟨hji, hij⟩
        simp only [hc i hlt (Int.le_refl _)]
        exact ih (i - 1) (Int.sub_one_lt_of_le (Int.le_of_lt hl)) (Int.le_sub_one_of_lt hlt)
          (by omega) fun j' h1 h2 => hc j' h1 (Int.le_of_lt (Int.lt_of_le_sub_one h2))
    · rw [if_neg hle]
      exact hexit i hji hle

theorem le_span (lo hi : Int) : hi + 1 - lo ≤ (span lo hi : Int) := Int.self_le_toNat _

/-! ### the first and the last position with a property in a bounded range -/

theorem exists_least (P : Int → Prop) (lo hi : Int) :
    (∀ j, lo ≤ j → j ≤ hi → ¬ P j) ∨ (∃ j, lo ≤ j ∧ j ≤ hi ∧ P j ∧ ∀ j', lo ≤ j' → j' < j → ¬ P j') := by
  have key : ∀ (n : Nat) (lo : Int), hi + 1 - lo ≤ n →
      (∀ j, lo ≤ j → j ≤ hi → ¬ P j) ∨ (∃ j, lo ≤ j ∧ j ≤ hi ∧ P j ∧ ∀ j', lo ≤ j' → j' < j → ¬ P j') := by
    intro n
    induction n with
    | zero => intro lo hn; left; intro j h1 h2; omega
    | succ n ih =>
      intro lo hn
      by_cases hle : lo ≤ hi
      · by_cases hp : P lo
        · right; exact ⟨lo, Int.le_refl _, hle, hp, fun j' h1 h2 => absurd h1 (Int.not_le.mpr h2)⟩
        · have hstep : ∀ j, lo ≤ j → ¬ P j ∨ lo + 1 ≤ j := fun j h =>
            (Int.lt_or_eq_of_le h).elim (fun h' => Or.inr (Int.add_one_le_of_lt h')) fun e => Or.inl (e ▸ hp)
          rcases ih (lo + 1) (by omega) with h | ⟨j, h1, h2, h3, h4⟩
          · left; exact fun j h1 h2 => (hstep j h1).elim id fun h' => h j h' h2
          · right
            exact ⟨j, Int.le_of_lt h1, h2, h3, fun j' h5 h6 => (hstep j' h5).elim id fun h' => h4 j' h' h6⟩
      · left; exact fun j h1 h2 => absurd (Int.le_trans h1 h2) hle
  exact key _ lo (Int.self_le_toNat _)

theorem exists_greatest (P : Int → Prop) (lo hi : Int) :
    (∀ j, lo ≤ j → j ≤ hi → ¬ P j) ∨ (∃ j, lo ≤ j ∧ j ≤ hi ∧ P j ∧ ∀ j', j < j' → j' ≤ hi → ¬ P j') := by
  rcases exists_least (fun j => P (-j)) (-hi) (-lo) with h | ⟨j, h1, h2, h3, h4⟩
  · left; intro j h1 h2
    have := h (-j) (Int.neg_le_neg h2) (Int.neg_le_neg h1)
    rwa [Int.neg_neg] at this
  · right; refine ⟨-j, Int.le_neg_of_le_neg h2, Int.neg_le_of_neg_le h1, h3, fun j' h5 h6 => ?_⟩
    have := h4 (-j') (Int.neg_le_neg h6) (Int.neg_lt_of_neg_lt h5)
    rwa [Int.neg_neg] at this

/-! ### findValidRecordIdxInStore: the nearest parsable position -/

theorem validBody_cont {idx : Index} {j : Int} (h : ¬ Valid idx j) :
    stepOut j (validBody j (ent idx j)) = none := by
  unfold validBody
  rw [if_neg (show ¬ (ent idx j).time?.isSome = true from h)]
  rfl

theorem validBody_ret {idx : Index} {j : Int} (h : Valid idx j) :
    stepOut j (validBody j (ent idx j)) = some (.ok (.val (j, ent idx j))) := by
  unfold validBody
  rw [if_pos (show (ent idx j).time?.isSome = true from h)]
  rfl

theorem findValid_up_some (idx : Index) (i st hi j : Int) (h0 : 0 ≤ i) (hl : hi < idx.length)
    (hij : i ≤ j) (hj : j ≤ hi) (hv : Valid idx j) (hmin : ∀ j', i ≤ j' → j' < j → ¬ Valid idx j') :
    findValid idx i false st hi = .ok (j, ent idx j) := by
  have := forUp_stop hl (Or.inl ⟨hj, validBody_ret hv⟩) _ i h0 hij (le_span i hi)
    (fun j' h1 h2 => validBody_cont (hmin j' h1 h2))
  simp [findValid, this]

theorem findValid_up_none (idx : Index) (i st hi : Int) (h0 : 0 ≤ i) (hl : hi < idx.length) (hi1 : i ≤ hi + 1)
    (hnone : ∀ j, i ≤ j → j ≤ hi → ¬ Valid idx j) :
    findValid idx i false st hi = .error .notFound := by
  have := forUp_stop (body := validBody) hl (Or.inr ⟨rfl, rfl⟩) _ i h0 hi1 (le_span i hi)
    (fun j h1 h2 => validBody_cont (hnone j h1 (Int.le_of_lt_add_one h2)))
  simp [findValid, this]

theorem findValid_down_some (idx : Index) (i lo en j : Int) (h0 : 0 ≤ lo) (hl : i < idx.length)
    (hlj : lo ≤ j) (hji : j ≤ i) (hv : Valid idx j) (hmax : ∀ j', j < j' → j' ≤ i → ¬ Valid idx j') :
    findValid idx i true lo en = .ok (j, ent idx j) := by
  have := forDown_stop h0 (Or.inl ⟨hlj, validBody_ret hv⟩) _ i hl hji (le_span lo i)
    (fun j' h1 h2 => validBody_cont (hmax j' h1 h2))
  simp [findValid, this]

theorem findValid_down_none (idx : Index) (i lo en : Int) (h0 : 0 ≤ lo) (hl : i < idx.length) (hi1 : lo - 1 ≤ i)
    (hnone : ∀ j, lo ≤ j → j ≤ i → ¬ Valid idx j) :
    findValid idx i true lo en = .error .notFound := by
  have := forDown_stop (body := validBody) h0 (Or.inr ⟨rfl, rfl⟩) _ i hl hi1 (le_span lo i)
    (fun j h1 h2 => validBody_cont (hnone j (Int.le_of_sub_one_lt h1) h2))
  simp [findValid, this]

/-! ### the linear scans of the post-search -/

/-- position `j` holds the cursor: its time is `ct` and its name matches (`fn = none` matches any name). -/
def Hit (idx : Index) (ct : Int) (fn : Option (List Nat)) (j : Int) : Prop :=
  tm idx j = some ct ∧ keyMatch fn (ent idx j) = true

theorem descStep_cont {idx : Index} {ct : Int} {fn : Option (List Nat)} {j : Int}
    (hge : ∀ t, tm idx j = some t → ct ≤ t) (hn : ¬ Hit idx ct fn j) :
    stepOut j (descLinearBody ct fn j (ent idx j)) = none := by
  unfold descLinearBody
  cases ht : (ent idx j).time? with
  | none => rfl
  | some ft =>
    simp only
    rw [if_neg (fun h => hn ⟨by rw [h.1]; exact ht, h.2⟩), if_neg (Int.not_lt.mpr (hge ft ht))]
    rfl

theorem descStep_hit {idx : Index} {ct : Int} {fn : Option (List Nat)} {j : Int} (h : Hit idx ct fn j) :
    stepOut j (descLinearBody ct fn j (ent idx j)) = some (.ok (.val j)) := by
  unfold descLinearBody
  rw [show (ent idx j).time? = some ct from h.1]
  dsimp only
  rw [if_pos ⟨rfl, h.2⟩]
  rfl

theorem descStep_older {idx : Index} {ct : Int} {fn : Option (List Nat)} {j t : Int}
    (ht : tm idx j = some t) (hlt : t < ct) :
    stepOut j (descLinearBody ct fn j (ent idx j)) =
      some (if fn.isSome then .error .notFound else .ok (.exit j)) := by
  unfold descLinearBody
  rw [show (ent idx j).time? = some t from ht]
  simp only
  rw [if_neg (fun h => Int.lt_irrefl t (by rw [h.1] at hlt; exact hlt)), if_pos hlt]
  cases fn <;> rfl

theorem ascStep_cont {idx : Index} {ct : Int} {fn : Option (List Nat)} {j : Int}
    (hle : ∀ t, tm idx j = some t → t ≤ ct) (hn : ¬ Hit idx ct fn j) :
    stepOut j (ascLinearBody ct fn j (ent idx j)) = none := by
  unfold ascLinearBody
  cases ht : (ent idx j).time? with
  | none => rfl
  | some ft =>
    simp only
    rw [if_neg (fun h => hn ⟨by rw [h.1]; exact ht, h.2⟩), if_neg (Int.not_lt.mpr (hle ft ht))]
    rfl

theorem ascStep_hit {idx : Index} {ct : Int} {fn : Option (List Nat)} {j : Int} (h : Hit idx ct fn j) :
    stepOut j (ascLinearBody ct fn j (ent idx j)) = some (.ok (.val j)) := by
  unfold ascLinearBody
  rw [show (ent idx j).time? = some ct from h.1]
  dsimp only
  rw [if_pos ⟨rfl, h.2⟩]
  rfl

theorem ascStep_newer {idx : Index} {ct : Int} {fn : Option (List Nat)} {j t : Int}
    (ht : tm idx j = some t) (hlt : ct < t) :
    stepOut j (ascLinearBody ct fn j (ent idx j)) =
      some (if fn.isSome then .error .notFound else .ok (.exit j)) := by
  unfold ascLinearBody
  rw [show (ent idx j).time? = some t from ht]
  simp only
  rw [if_neg (fun h => Int.lt_irrefl t (by rw [h.1] at hlt; exact hlt)), if_pos hlt]
  cases fn <;> rfl

/-- what the post-search knows about the file: `[ss, q]` is inside the file, nothing parsable lies below `ss`,
the parsable entries below `T` are in time order, and everything parsable above `q` (below `T`) is newer
than the cursor. -/
structure DescCtx (idx : Index) (T : Int) (ss q ct : Int) : Prop where
  h0 : 0 ≤ ss
  hq : q < T
  hT : T ≤ idx.length
  below : ∀ j, j < ss → tm idx j = none
  above : ∀ j t, q < j → j < T → tm idx j = some t → ct < t
  sorted : ∀ a b ta tb, a < b → b < T → tm idx a = some ta → tm idx b = some tb → ta ≤ tb

theorem DescCtx.range {idx : Index} {T ss q ct : Int} (c : DescCtx idx T ss q ct) {j t : Int}
    (hjT : j < T) (ht : tm idx j = some t) (hle : t ≤ ct) : ss ≤ j ∧ j ≤ q :=
  ⟨Int.not_lt.mp (fun h => by rw [c.below j h] at ht; cases ht),
   Int.not_lt.mp fun h => Int.not_lt.mpr hle (c.above j t h hjT ht)⟩

theorem descLinear_ok {idx : Index} {T ss q ct : Int} (c : DescCtx idx T ss q ct) (fn : Option (List Nat))
    {j t : Int} (hjT : j < T) (ht : tm idx j = some t) (hstop : Hit idx ct fn j ∨ fn = none ∧ t < ct)
    (hcont : ∀ j', j < j' → j' < T → (∀ t', tm idx j' = some t' → ct ≤ t') ∧ ¬ Hit idx ct fn j') :
    descLinear idx q ss ct fn = .ok j := by
  have hle : t ≤ ct := by
    rcases hstop with hh | ⟨_, hlt⟩
    · rw [hh.1] at ht; cases ht; exact Int.le_refl _
    · exact Int.le_of_lt hlt
  obtain ⟨hss, hjq⟩ := c.range hjT ht hle
  have hc : ∀ j', j < j' → j' ≤ q → stepOut j' (descLinearBody ct fn j' (ent idx j')) = none :=
    fun j' h1 h2 => (hcont j' h1 (Int.lt_of_le_of_lt h2 c.hq)).elim descStep_cont
  have hl := Int.lt_of_lt_of_le c.hq c.hT
  unfold descLinear
  rcases hstop with hh | ⟨hfn, hlt⟩
  · rw [forDown_stop c.h0 (Or.inl ⟨hss, descStep_hit hh⟩) _ q hl hjq (le_span ss q) hc]
  · subst hfn
    rw [forDown_stop c.h0 (Or.inl ⟨hss, descStep_older ht hlt⟩) _ q hl hjq (le_span ss q) hc]
    exact if_neg (Int.not_lt.mpr hss)

theorem descLinear_notFound {idx : Index} {T ss q ct : Int} (c : DescCtx idx T ss q ct) (fn : Option (List Nat))
    (hsq : ss - 1 ≤ q) (hno : ∀ j, j < T → ¬ Hit idx ct fn j)
    (hnewer : fn = none → ∀ j t, j < T → tm idx j = some t → ct < t) :
    descLinear idx q ss ct fn = .error .notFound := by
  have hl := Int.lt_of_lt_of_le c.hq c.hT
  unfold descLinear
  have hcont : ∀ j, j ≤ q → (¬ ∃ t, tm idx j = some t ∧ t < ct) →
      stepOut j (descLinearBody ct fn j (ent idx j)) = none := fun j hj hn =>
    descStep_cont (fun t ht => Int.not_lt.mp fun hlt => hn ⟨t, ht, hlt⟩) (hno j (Int.lt_of_le_of_lt hj c.hq))
  -- the scan runs to the first older entry, if there is one: there a scan by name gives up, and a scan by time
  -- alone would have its answer, which `hnewer` excludes
  rcases exists_greatest (fun j => ∃ t, tm idx j = some t ∧ t < ct) ss q with h | ⟨j, h1, h2, ⟨t, ht, hlt⟩, h4⟩
  · rw [forDown_stop c.h0 (Or.inr ⟨rfl, rfl⟩) _ q hl hsq (le_span ss q)
      fun j h1 h2 => hcont j h2 (h j (Int.le_of_sub_one_lt h1) h2)]
    exact if_pos (Int.sub_one_lt_of_le (Int.le_refl _))
  · rw [forDown_stop c.h0 (Or.inl ⟨h1, descStep_older ht hlt⟩) _ q hl h2 (le_span ss q)
      fun j' h5 h6 => hcont j' h6 (h4 j' h5 h6)]
    cases fn with
    | none => exact absurd (hnewer rfl j t (Int.lt_of_le_of_lt h2 c.hq) ht) (Int.not_lt.mpr (Int.le_of_lt hlt))
    | some k => rfl

/-- the same for the ascending scan from `q` up to `ee`.  `above` carries the bound `j < T`: records past the cached
total may be parsable and are not read; `DescCtx.below` needs no bound, there is nothing below position 0. -/
structure AscCtx (idx : Index) (T : Int) (q ee ct : Int) : Prop where
  h0 : 0 ≤ q
  hee : ee < T
  hT : T ≤ idx.length
  above : ∀ j, ee < j → j < T → tm idx j = none
  below : ∀ j t, j < q → tm idx j = some t → t < ct
  sorted : ∀ a b ta tb, a < b → b < T → tm idx a = some ta → tm idx b = some tb → ta ≤ tb

theorem AscCtx.range {idx : Index} {T q ee ct : Int} (c : AscCtx idx T q ee ct) {j t : Int}
    (hjT : j < T) (ht : tm idx j = some t) (hge : ct ≤ t) : q ≤ j ∧ j ≤ ee :=
  ⟨Int.not_lt.mp fun h => Int.not_lt.mpr hge (c.below j t h ht),
   Int.not_lt.mp (fun h => by rw [c.above j h hjT] at ht; cases ht)⟩

theorem ascLinear_ok {idx : Index} {T q ee ct : Int} (c : AscCtx idx T q ee ct) (fn : Option (List Nat))
    {j t : Int} (hjT : j < T) (ht : tm idx j = some t) (hstop : Hit idx ct fn j ∨ fn = none ∧ ct < t)
    (hcont : ∀ j', j' < j → (∀ t', tm idx j' = some t' → t' ≤ ct) ∧ ¬ Hit idx ct fn j') :
    ascLinear idx q ee ct fn = .ok j := by
  have hge : ct ≤ t := by
    rcases hstop with hh | ⟨_, hlt⟩
    · rw [hh.1] at ht; cases ht; exact Int.le_refl _
    · exact Int.le_of_lt hlt
  obtain ⟨hqj, hje⟩ := c.range hjT ht hge
  have hc : ∀ j', q ≤ j' → j' < j → stepOut j' (ascLinearBody ct fn j' (ent idx j')) = none :=
    fun j' _ h2 => (hcont j' h2).elim ascStep_cont
  have hl := Int.lt_of_lt_of_le c.hee c.hT
  unfold ascLinear
  rcases hstop with hh | ⟨hfn, hlt⟩
  · rw [forUp_stop hl (Or.inl ⟨hje, ascStep_hit hh⟩) _ q c.h0 hqj (le_span q ee) hc]
  · subst hfn
    rw [forUp_stop hl (Or.inl ⟨hje, ascStep_newer ht hlt⟩) _ q c.h0 hqj (le_span q ee) hc]
    exact if_neg (Int.not_lt.mpr hje)

theorem ascLinear_notFound {idx : Index} {T q ee ct : Int} (c : AscCtx idx T q ee ct) (fn : Option (List Nat))
    (hqe : q ≤ ee + 1) (hno : ∀ j, j < T → ¬ Hit idx ct fn j)
    (holder : fn = none → ∀ j t, j < T → tm idx j = some t → t < ct) :
    ascLinear idx q ee ct fn = .error .notFound := by
  have hl := Int.lt_of_lt_of_le c.hee c.hT
  unfold ascLinear
  have hcont : ∀ j, j ≤ ee → (¬ ∃ t, tm idx j = some t ∧ ct < t) →
      stepOut j (ascLinearBody ct fn j (ent idx j)) = none := fun j hj hn =>
    ascStep_cont (fun t ht => Int.not_lt.mp fun hlt => hn ⟨t, ht, hlt⟩) (hno j (Int.lt_of_le_of_lt hj c.hee))
  rcases exists_least (fun j => ∃ t, tm idx j = some t ∧ ct < t) q ee with h | ⟨j, h1, h2, ⟨t, ht, hlt⟩, h4⟩
  · rw [forUp_stop hl (Or.inr ⟨rfl, rfl⟩) _ q c.h0 hqe (le_span q ee)
      fun j h1 h2 => hcont j (Int.le_of_lt_add_one h2) (h j h1 (Int.le_of_lt_add_one h2))]
    exact if_pos (Int.lt_succ _)
  · rw [forUp_stop hl (Or.inl ⟨h2, ascStep_newer ht hlt⟩) _ q c.h0 h1 (le_span q ee)
      fun j' h5 h6 => hcont j' (Int.le_trans (Int.le_of_lt h6) h2) (h4 j' h5 h6)]
    cases fn with
    | none => exact absurd (holder rfl j t (Int.lt_of_le_of_lt h2 c.hee) ht) (Int.not_lt.mpr (Int.le_of_lt hlt))
    | some k => rfl

/-! ### the scans of the specification, read on file positions

`p` is one of the Boolean tests of `Spec` on record numbers, `P` the property of positions it decides. -/

theorem not_of_test_false {p : Nat → Bool} {P : Int → Prop} (hp : ∀ i : Nat, p i = true ↔ P i)
    (h0 : ∀ j, P j → 0 ≤ j) {j : Int} (h : 0 ≤ j → p j.toNat = false) : ¬ P j := by
  intro hP
  have hj := h0 j hP
  rw [← Int.toNat_of_nonneg hj, ← hp, h hj] at hP
  cases hP

theorem lastBelow_some_pos {p : Nat → Bool} {P : Int → Prop} (hp : ∀ i : Nat, p i = true ↔ P i)
    (h0 : ∀ j, P j → 0 ≤ j) {T i : Nat} (h : Spec.lastBelow p T = some i) :
    P i ∧ (i : Int) < T ∧ ∀ j : Int, i < j → j < T → ¬ P j := by
  obtain ⟨h1, h2, h3⟩ := Spec.lastBelow_some h
  exact ⟨(hp i).mp h2, Int.ofNat_lt.mpr h1, fun j hij hjT =>
    not_of_test_false hp h0 fun hj => h3 j.toNat (Int.lt_toNat.mpr hij) ((Int.toNat_lt hj).mpr hjT)⟩

theorem lastBelow_none_pos {p : Nat → Bool} {P : Int → Prop} (hp : ∀ i : Nat, p i = true ↔ P i)
    (h0 : ∀ j, P j → 0 ≤ j) {T : Nat} (h : Spec.lastBelow p T = none) : ∀ j : Int, j < T → ¬ P j :=
  fun j hjT => not_of_test_false hp h0 fun hj => Spec.lastBelow_none h j.toNat ((Int.toNat_lt hj).mpr hjT)

theorem firstFrom_some_pos {p : Nat → Bool} {P : Int → Prop} (hp : ∀ i : Nat, p i = true ↔ P i)
    (h0 : ∀ j, P j → 0 ≤ j) {T i : Nat} (h : Spec.firstFrom p T 0 = some i) :
    P i ∧ (i : Int) < T ∧ ∀ j : Int, j < i → ¬ P j := by
  obtain ⟨_, h1, h2, h3⟩ := Spec.firstFrom_some h
  rw [Nat.zero_add] at h1
  exact ⟨(hp i).mp h2, Int.ofNat_lt.mpr h1, fun j hji =>
    not_of_test_false hp h0 fun hj => h3 j.toNat (Nat.zero_le _) ((Int.toNat_lt hj).mpr hji)⟩

theorem firstFrom_none_pos {p : Nat → Bool} {P : Int → Prop} (hp : ∀ i : Nat, p i = true ↔ P i)
    (h0 : ∀ j, P j → 0 ≤ j) {T : Nat} (h : Spec.firstFrom p T 0 = none) : ∀ j : Int, j < T → ¬ P j :=
  fun j hjT => not_of_test_false hp h0 fun hj =>
    Spec.firstFrom_none h j.toNat (Nat.zero_le _) (by rw [Nat.zero_add]; exact (Int.toNat_lt hj).mpr hjT)

def AtMost (idx : Index) (ct : Int) (j : Int) : Prop := ∃ t, tm idx j = some t ∧ t ≤ ct

def AtLeast (idx : Index) (ct : Int) (j : Int) : Prop := ∃ t, tm idx j = some t ∧ ct ≤ t

theorem tm_natCast (idx : Index) (i : Nat) : tm idx (i : Int) = (idx[i]?).bind (·.time?) := by
  unfold tm; rw [ent_natCast]
  cases h : idx[i]? <;> simp [List.getD, h]
  rfl

theorem hitAt_iff (idx : Index) (ct : Int) (k : List Nat) (i : Nat) :
    Spec.hitAt idx ct k i = true ↔ Hit idx ct (some k) (i : Int) := by
  unfold Spec.hitAt Hit tm keyMatch
  rw [ent_natCast]
  cases h : idx[i]? <;> simp [List.getD, h]

theorem leAt_iff (idx : Index) (ct : Int) (i : Nat) : Spec.leAt idx ct i = true ↔ AtMost idx ct (i : Int) := by
  unfold AtMost; rw [tm_natCast]; unfold Spec.leAt
  cases h : idx[i]? with
  | none => simp
  | some e => cases h2 : e.time? <;> simp [h2]

theorem geAt_iff (idx : Index) (ct : Int) (i : Nat) : Spec.geAt idx ct i = true ↔ AtLeast idx ct (i : Int) := by
  unfold AtLeast; rw [tm_natCast]; unfold Spec.geAt
  cases h : idx[i]? with
  | none => simp
  | some e => cases h2 : e.time? <;> simp [h2]

theorem hit_nonneg {idx : Index} {ct : Int} {fn : Option (List Nat)} (j : Int) (h : Hit idx ct fn j) : 0 ≤ j :=
  (tm_some_range h.1).1

theorem atMost_nonneg {idx : Index} {ct : Int} (j : Int) (h : AtMost idx ct j) : 0 ≤ j :=
  h.elim fun _ ht => (tm_some_range ht.1).1

theorem atLeast_nonneg {idx : Index} {ct : Int} (j : Int) (h : AtLeast idx ct j) : 0 ≤ j :=
  h.elim fun _ ht => (tm_some_range ht.1).1

/-! ### the post-search from any landing position -/

/-- `[ss, ee]` brackets the parsable entries among the first `T` records. -/
structure Frame (idx : Index) (T : Nat) (ss ee : Int) : Prop where
  h0 : 0 ≤ ss
  hse : ss ≤ ee
  heT : ee < T
  hT : T ≤ idx.length
  below : ∀ j, j < ss → tm idx j = none
  above : ∀ j, ee < j → j < T → tm idx j = none

/-- the specification as a 0-based file position. -/
def pos0 (idx : Index) (T : Nat) (ct : Int) (fn : Option (List Nat)) (isDesc : Bool) : R Int :=
  match Spec.position idx T ct fn isDesc with
  | some i => .ok (i : Int)
  | none => .error .notFound

theorem descPhase1_cont {idx : Index} {ct j : Int} (h : ¬ ∃ t, tm idx j = some t ∧ ct < t) :
    stepOut j (descPhase1Body ct j (ent idx j)) = none := by
  unfold descPhase1Body
  cases ht : (ent idx j).time? with
  | none => rfl
  | some ft => simp only; rw [if_neg fun hlt => h ⟨ft, ht, hlt⟩]; rfl

theorem descPhase1_brk {idx : Index} {ct j t : Int} (ht : tm idx j = some t) (hlt : ct < t) :
    stepOut j (descPhase1Body ct j (ent idx j)) = some (.ok (.exit j)) := by
  unfold descPhase1Body
  rw [show (ent idx j).time? = some t from ht]
  simp only; rw [if_pos hlt]; rfl

theorem ascPhase1_cont {idx : Index} {ct j : Int} (h : ¬ ∃ t, tm idx j = some t ∧ t < ct) :
    stepOut j (ascPhase1Body ct j (ent idx j)) = none := by
  unfold ascPhase1Body
  cases ht : (ent idx j).time? with
  | none => rfl
  | some ft => simp only; rw [if_neg fun hlt => h ⟨ft, ht, hlt⟩]; rfl

theorem ascPhase1_brk {idx : Index} {ct j t : Int} (ht : tm idx j = some t) (hlt : t < ct) :
    stepOut j (ascPhase1Body ct j (ent idx j)) = some (.ok (.exit j)) := by
  unfold ascPhase1Body
  rw [show (ent idx j).time? = some t from ht]
  simp only; rw [if_pos hlt]; rfl

/-- first phase of the descending post-search: from any `p` in the frame it stops at a `q` above which
everything parsable is newer than the cursor. -/
theorem descPhase1 {idx : Index} {T : Nat} {ss ee : Int} (F : Frame idx T ss ee) (S : SortedT idx T)
    (ct p : Int) (hp1 : ss ≤ p) (hp2 : p ≤ ee) :
    ∃ q1 q, forUp idx ee (descPhase1Body ct) (span p ee) p = .ok (.exit q1) ∧
      (if q1 > ee then ee else q1) = q ∧ p ≤ q ∧ q ≤ ee ∧ DescCtx idx T ss q ct := by
  have hT : (T : Int) ≤ idx.length := Int.ofNat_le.mpr F.hT
  have hl : ee < idx.length := Int.lt_of_lt_of_le F.heT hT
  have h0 : 0 ≤ p := Int.le_trans F.h0 hp1
  rcases exists_least (fun j => ∃ t, tm idx j = some t ∧ ct < t) p ee with h | ⟨j, h1, h2, ⟨t, ht, hlt⟩, h4⟩
  · refine ⟨ee + 1, ee, ?_, if_pos (Int.lt_succ _), hp2, Int.le_refl _, ?_⟩
    · exact forUp_stop hl (Or.inr ⟨rfl, rfl⟩) _ p h0 (Int.le_add_one hp2) (le_span p ee) fun j h1 h2 =>
        descPhase1_cont (h j h1 (Int.le_of_lt_add_one h2))
    · exact ⟨F.h0, F.heT, hT, F.below, (fun j t h1 h2 h3 => by rw [F.above j h1 h2] at h3; cases h3), S⟩
  · refine ⟨j, j, ?_, if_neg (Int.not_lt.mpr h2), h1, h2, ?_⟩
    · exact forUp_stop hl (Or.inl ⟨h2, descPhase1_brk ht hlt⟩) _ p h0 h1 (le_span p ee) fun j' h5 h6 =>
        descPhase1_cont (h4 j' h5 h6)
    · exact ⟨F.h0, Int.lt_of_le_of_lt h2 F.heT, hT, F.below,
        fun j' t' h5 h6 h7 => Int.lt_of_lt_of_le hlt (S j j' t t' h5 h6 ht h7), S⟩

theorem ascPhase1 {idx : Index} {T : Nat} {ss ee : Int} (F : Frame idx T ss ee) (S : SortedT idx T)
    (ct p : Int) (hp1 : ss ≤ p) (hp2 : p ≤ ee) :
    ∃ q1 q, forDown idx ss (ascPhase1Body ct) (span ss p) p = .ok (.exit q1) ∧
      (if q1 < ss then ss else q1) = q ∧ ss ≤ q ∧ q ≤ p ∧ AscCtx idx T q ee ct := by
  have hT : (T : Int) ≤ idx.length := Int.ofNat_le.mpr F.hT
  have hpT : p < T := Int.lt_of_le_of_lt hp2 F.heT
  have hl : p < idx.length := Int.lt_of_lt_of_le hpT hT
  rcases exists_greatest (fun j => ∃ t, tm idx j = some t ∧ t < ct) ss p with h | ⟨j, h1, h2, ⟨t, ht, hlt⟩, h4⟩
  · refine ⟨ss - 1, ss, ?_, if_pos (Int.sub_one_lt_of_le (Int.le_refl _)), Int.le_refl _, hp1, ?_⟩
    · exact forDown_stop F.h0 (Or.inr ⟨rfl, rfl⟩) _ p hl (Int.le_of_lt (Int.sub_one_lt_of_le hp1))
        (le_span ss p) fun j h1 h2 => ascPhase1_cont (h j (Int.le_of_sub_one_lt h1) h2)
    · exact ⟨F.h0, F.heT, hT, F.above, (fun j t h1 h3 => by rw [F.below j h1] at h3; cases h3), S⟩
  · refine ⟨j, j, ?_, if_neg (Int.not_lt.mpr h1), h1, h2, ?_⟩
    · exact forDown_stop F.h0 (Or.inl ⟨h1, ascPhase1_brk ht hlt⟩) _ p hl h2 (le_span ss p) fun j' h5 h6 =>
        ascPhase1_cont (h4 j' h5 h6)
    · exact ⟨Int.le_trans F.h0 h1, F.heT, hT, F.above,
        fun j' t' h5 h7 => Int.lt_of_le_of_lt (S j' j t' t h5 (Int.lt_of_le_of_lt h2 hpT) h7 ht) hlt, S⟩

theorem descLinear_near {idx : Index} {T : Nat} {ss q ct : Int} (C : DescCtx idx T ss q ct) (hsq : ss - 1 ≤ q) :
    descLinear idx q ss ct none =
      match Spec.lastBelow (Spec.leAt idx ct) T with
      | some i => .ok (i : Int)
      | none => .error .notFound := by
  cases h : Spec.lastBelow (Spec.leAt idx ct) T with
  | some i =>
    obtain ⟨⟨t, ht, hle⟩, hiT, hmax⟩ := lastBelow_some_pos (leAt_iff idx ct) atMost_nonneg h
    have hgt : ∀ j' t', (i : Int) < j' → j' < T → tm idx j' = some t' → ct < t' :=
      fun j' t' h1 h2 ht' => Int.not_le.mp fun hle' => hmax j' h1 h2 ⟨t', ht', hle'⟩
    refine descLinear_ok C none hiT ht ?_ fun j' h1 h2 =>
      ⟨fun t' ht' => Int.le_of_lt (hgt j' t' h1 h2 ht'), fun hh => Int.lt_irrefl ct (hgt j' ct h1 h2 hh.1)⟩
    rcases Int.lt_or_eq_of_le hle with hlt | heq
    · exact Or.inr ⟨rfl, hlt⟩
    · exact Or.inl ⟨heq ▸ ht, rfl⟩
  | none =>
    have hnone := lastBelow_none_pos (leAt_iff idx ct) atMost_nonneg h
    have hgt : ∀ j t, j < (T : Int) → tm idx j = some t → ct < t :=
      fun j t hj ht => Int.not_le.mp fun hle => hnone j hj ⟨t, ht, hle⟩
    exact descLinear_notFound C none hsq (fun j hj hh => Int.lt_irrefl ct (hgt j ct hj hh.1)) fun _ => hgt

theorem ascLinear_near {idx : Index} {T : Nat} {q ee ct : Int} (C : AscCtx idx T q ee ct) (hqe : q ≤ ee + 1) :
    ascLinear idx q ee ct none =
      match Spec.firstFrom (Spec.geAt idx ct) T 0 with
      | some i => .ok (i : Int)
      | none => .error .notFound := by
  cases h : Spec.firstFrom (Spec.geAt idx ct) T 0 with
  | some i =>
    obtain ⟨⟨t, ht, hge⟩, hiT, hmin⟩ := firstFrom_some_pos (geAt_iff idx ct) atLeast_nonneg h
    have hlt : ∀ j' t', j' < (i : Int) → tm idx j' = some t' → t' < ct :=
      fun j' t' h1 ht' => Int.not_le.mp fun hge' => hmin j' h1 ⟨t', ht', hge'⟩
    refine ascLinear_ok C none hiT ht ?_ fun j' h1 =>
      ⟨fun t' ht' => Int.le_of_lt (hlt j' t' h1 ht'), fun hh => Int.lt_irrefl ct (hlt j' ct h1 hh.1)⟩
    rcases Int.lt_or_eq_of_le hge with hlt | heq
    · exact Or.inr ⟨rfl, hlt⟩
    · exact Or.inl ⟨heq ▸ ht, rfl⟩
  | none =>
    have hnone := firstFrom_none_pos (geAt_iff idx ct) atLeast_nonneg h
    have hlt : ∀ j t, j < (T : Int) → tm idx j = some t → t < ct :=
      fun j t hj ht => Int.not_le.mp fun hge => hnone j hj ⟨t, ht, hge⟩
    exact ascLinear_notFound C none hqe (fun j hj hh => Int.lt_irrefl ct (hlt j ct hj hh.1)) fun _ => hlt

/-- from ANY landing position inside the frame the descending post-search returns the linear-scan answer. -/
theorem postSearchDesc_spec {idx : Index} {T : Nat} {ss ee : Int} (F : Frame idx T ss ee) (S : SortedT idx T)
    (ct p : Int) (fn : Option (List Nat)) (hp1 : ss ≤ p) (hp2 : p ≤ ee) :
    postSearchDesc idx p ss ee ct fn = pos0 idx T ct fn true := by
  obtain ⟨q1, q, hfor, hq, hpq, hqe, C⟩ := descPhase1 F S ct p hp1 hp2
  have hsq : ss - 1 ≤ q := Int.le_trans (Int.le_of_lt (Int.sub_one_lt_of_le hp1)) hpq
  have hnear := descLinear_near C hsq
  unfold postSearchDesc pos0 Spec.position
  rw [hfor]
  simp only [hq]
  cases fn with
  | none =>
    rw [hnear]
    cases Spec.lastBelow (Spec.leAt idx ct) T <;> rfl
  | some k =>
    simp only [if_true]
    cases hE : Spec.lastBelow (Spec.hitAt idx ct k) T with
    | some i =>
      obtain ⟨hh, hiT, hmax⟩ := lastBelow_some_pos (hitAt_iff idx ct k) hit_nonneg hE
      -- a later record holding the cursor time is not older, by the time order
      rw [descLinear_ok C (some k) hiT hh.1 (Or.inl hh) fun j' h1 h2 =>
        ⟨fun t' ht' => C.sorted i j' ct t' h1 h2 hh.1 ht', hmax j' h1 h2⟩]
    | none =>
      rw [descLinear_notFound C (some k) hsq (lastBelow_none_pos (hitAt_iff idx ct k) hit_nonneg hE)
        (fun h => nomatch h), hnear]

theorem postSearchAsc_spec {idx : Index} {T : Nat} {ss ee : Int} (F : Frame idx T ss ee) (S : SortedT idx T)
    (ct p : Int) (fn : Option (List Nat)) (hp1 : ss ≤ p) (hp2 : p ≤ ee) :
    postSearchAsc idx p ss ee ct fn = pos0 idx T ct fn false := by
  obtain ⟨q1, q, hfor, hq, hsq, hqp, C⟩ := ascPhase1 F S ct p hp1 hp2
  have hqe : q ≤ ee + 1 := Int.le_add_one (Int.le_trans hqp hp2)
  have hnear := ascLinear_near C hqe
  unfold postSearchAsc pos0 Spec.position
  rw [hfor]
  simp only [hq]
  cases fn with
  | none =>
    rw [hnear]
    cases Spec.firstFrom (Spec.geAt idx ct) T 0 <;> rfl
  | some k =>
    simp only [Bool.false_eq_true, if_false]
    cases hE : Spec.firstFrom (Spec.hitAt idx ct k) T 0 with
    | some i =>
      obtain ⟨hh, hiT, hmin⟩ := firstFrom_some_pos (hitAt_iff idx ct k) hit_nonneg hE
      rw [ascLinear_ok C (some k) hiT hh.1 (Or.inl hh) fun j' h1 =>
        ⟨fun t' ht' => C.sorted j' i t' ct h1 hiT ht' hh.1, hmin j' h1⟩]
    | none =>
      rw [ascLinear_notFound C (some k) hqe (firstFrom_none_pos (hitAt_iff idx ct k) hit_nonneg hE)
        (fun h => nomatch h), hnear]

/-! ### the bisection -/

/-- loop invariant of the bisection: `start ≤ end`, both inside the file, both parsable. -/
def BInv (idx : Index) (s e : Int) : Prop :=
  0 ≤ s ∧ s ≤ e ∧ e < idx.length ∧ Valid idx s ∧ Valid idx e

/-- what one iteration guarantees. -/
def BPost (idx : Index) (s e : Int) : BinNext → Prop
  | .done i h => s ≤ i ∧ i ≤ e ∧ h = ent idx i ∧ Valid idx i
  | .next s' e' => BInv idx s' e' ∧ s ≤ s' ∧ e' ≤ e ∧ e' - s' < e - s

theorem binDecide_post {idx : Index} {s e : Int} (B : BInv idx s e) (ct i ft : Int)
    (h1 : s ≤ i) (h2 : i ≤ e) (h3 : s ≠ e → i < e) (hv : Valid idx i) :
    BPost idx s e (binDecide ct i (ent idx i) ft s e) := by
  obtain ⟨b0, b1, b2, b3, b4⟩ := B
  have hdone : BPost idx s e (.done i (ent idx i)) := ⟨h1, h2, rfl, hv⟩
  unfold binDecide
  simp only
  by_cases hj : subT4 ct ft = 0
  · rw [if_pos hj]; exact hdone
  · rw [if_neg hj]
    by_cases hes : e = s
    · rw [if_pos hes]; exact hdone
    · rw [if_neg hes]
      have hie : i < e := h3 fun h => hes h.symm
      by_cases his : i = s
      · rw [if_pos his]
        exact ⟨⟨Int.le_trans b0 b1, Int.le_refl _, b2, b4, b4⟩, b1, Int.le_refl _,
          Int.sub_lt_sub_left (his ▸ hie) e⟩
      · rw [if_neg his]
        have hsi : s < i := Int.lt_iff_le_and_ne.mpr ⟨h1, fun h => his h.symm⟩
        by_cases hpos : subT4 ct ft > 0
        · rw [if_pos hpos]
          exact ⟨⟨Int.le_trans b0 h1, h2, b2, hv, b4⟩, h1, Int.le_refl _, Int.sub_lt_sub_left hsi e⟩
        · rw [if_neg hpos]
          exact ⟨⟨b0, h1, Int.lt_trans hie b2, b3, hv⟩, Int.le_refl _, h2, Int.sub_lt_sub_right hie s⟩

theorem validIdxInStore_inside {idx : Index} {s e m : Int} (B : BInv idx s e) (hsm : s ≤ m) (hme : m ≤ e)
    (hinv : ¬ Valid idx m) :
    ∃ i, validIdxInStore idx m s e = .ok (i, ent idx i, s, e) ∧ s ≤ i ∧ i < e ∧ Valid idx i := by
  obtain ⟨b0, b1, b2, b3, b4⟩ := B
  have hms : m ≠ s := fun h => hinv (h ▸ b3)
  have hme' : m ≠ e := fun h => hinv (h ▸ b4)
  unfold validIdxInStore
  rw [if_neg hms, if_neg hme']
  rcases exists_least (Valid idx) m e with hn | ⟨j, j1, j2, j3, j4⟩
  · exact absurd b4 (hn e hme (Int.le_refl _))
  · rw [findValid_up_some idx m s e j (Int.le_trans b0 hsm) b2 j1 j2 j3 j4]
    simp only
    by_cases hje : j = e
    · rw [if_pos hje]
      rcases exists_greatest (Valid idx) s m with hn | ⟨j', k1, k2, k3, k4⟩
      · exact absurd b3 (hn s (Int.le_refl _) hsm)
      · rw [findValid_down_some idx m s e j' b0 (Int.lt_of_le_of_lt hme b2) k1 k2 k3 k4]
        exact ⟨j', rfl, k1, Int.lt_of_le_of_lt k2 (Int.lt_iff_le_and_ne.mpr ⟨hme, hme'⟩), k3⟩
    · rw [if_neg hje]
      exact ⟨j, rfl, Int.le_trans hsm j1, Int.lt_iff_le_and_ne.mpr ⟨j2, hje⟩, j3⟩

theorem mid_bounds {s e : Int} (h0 : 0 ≤ s) (h : s ≤ e) :
    Int.tdiv (s + e) 2 = (s + e) / 2 ∧ s ≤ (s + e) / 2 ∧ (s + e) / 2 ≤ e ∧ (s ≠ e → (s + e) / 2 < e) :=
  ⟨Int.tdiv_eq_ediv_of_nonneg (Int.add_nonneg h0 (Int.le_trans h0 h)), by omega⟩

theorem binStep_post {idx : Index} {s e : Int} (B : BInv idx s e) (ct : Int) :
    ∃ out, binStep idx ct s e = .ok out ∧ BPost idx s e out := by
  obtain ⟨b0, b1, b2, b3, b4⟩ := id B
  obtain ⟨hdiv, hi1, hi2, hi3⟩ := mid_bounds b0 b1
  unfold binStep
  simp only [hdiv]
  generalize (s + e) / 2 = m at hi1 hi2 hi3
  rw [rd_ok (Int.le_trans b0 hi1) (Int.lt_of_le_of_lt hi2 b2)]
  simp only
  cases hmid : (ent idx m).time? with
  | some ft => exact ⟨_, rfl, binDecide_post B ct m ft hi1 hi2 hi3 (by unfold Valid tm; rw [hmid]; rfl)⟩
  | none =>
    have hinv : ¬ Valid idx m := by unfold Valid tm; rw [hmid]; simp
    -- the bounds are parsable, `m` is not: so `s < e` and `m` is strictly inside
    have hse : s ≠ e := fun h => hinv ((Int.le_antisymm (h ▸ hi2) hi1 : m = s) ▸ b3)
    simp only
    rw [if_neg hse]
    obtain ⟨i, hv, i1, i2, i3⟩ := validIdxInStore_inside B hi1 hi2 hinv
    rw [hv]
    exact ⟨_, rfl, binDecide_post B ct i _ i1 (Int.le_of_lt i2) (fun _ => i2) i3⟩

/-- the bisection terminates within `(end - start) + 1` iterations and lands on a parsable position inside
`[start, end]`, returning that position's header. -/
theorem binSearch_lands_fuel {idx : Index} (ct : Int) :
    ∀ (fuel : Nat) (s e : Int), BInv idx s e → e - s < fuel →
      ∃ i, binSearch idx ct fuel s e = .ok (i, ent idx i) ∧ s ≤ i ∧ i ≤ e ∧ Valid idx i := by
  intro fuel
  induction fuel with
  | zero => intro s e B h; exact absurd (Int.sub_nonneg_of_le B.2.1) (Int.not_le.mpr h)
  | succ f ih =>
    intro s e B hf
    obtain ⟨out, hout, hpost⟩ := binStep_post B ct
    rw [binSearch, hout]
    cases out with
    | done i h =>
      obtain ⟨h1, h2, h3, h4⟩ := hpost
      exact ⟨i, by rw [h3], h1, h2, h4⟩
    | next s' e' =>
      obtain ⟨B2, h1, h2, h3⟩ := hpost
      obtain ⟨i, hi, hi1, hi2, hi3⟩ := ih s' e' B2 (Int.lt_of_lt_of_le h3 (Int.le_of_lt_add_one hf))
      exact ⟨i, hi, Int.le_trans h1 hi1, Int.le_trans hi2 h2, hi3⟩

theorem lt_binFuel (s e : Int) : e - s < (binFuel s e : Int) :=
  Int.lt_of_le_of_lt (Int.self_le_toNat _) (Int.ofNat_lt.mpr (Nat.lt_add_of_pos_right (by decide)))

/-! ### FindRecordStartIdx against the scan -/

theorem Spec.position_some {idx : Index} {T : Nat} {ct : Int} {fn : Option (List Nat)} {isDesc : Bool} {i : Nat}
    (h : Spec.position idx T ct fn isDesc = some i) : i < T ∧ Valid idx i := by
  have key : ∀ (p q : Nat → Bool) (j : Nat),
      (if isDesc then Spec.lastBelow p T else Spec.firstFrom q T 0) = some j → j < T ∧ (p j = true ∨ q j = true) := by
    intro p q j hh
    cases isDesc
    · obtain ⟨_, h1, h2, _⟩ := Spec.firstFrom_some hh
      exact ⟨Nat.zero_add T ▸ h1, Or.inr h2⟩
    · obtain ⟨h1, h2, _⟩ := Spec.lastBelow_some hh
      exact ⟨h1, Or.inl h2⟩
  have vh : ∀ k j, Spec.hitAt idx ct k j = true → Valid idx j :=
    fun k j hj => valid_iff.mpr ⟨ct, ((hitAt_iff idx ct k j).mp hj).1⟩
  have vl : ∀ j, Spec.leAt idx ct j = true → Valid idx j :=
    fun j hj => ((leAt_iff idx ct j).mp hj).elim fun t ht => valid_iff.mpr ⟨t, ht.1⟩
  have vg : ∀ j, Spec.geAt idx ct j = true → Valid idx j :=
    fun j hj => ((geAt_iff idx ct j).mp hj).elim fun t ht => valid_iff.mpr ⟨t, ht.1⟩
  have near : ∀ j, (if isDesc then Spec.lastBelow (Spec.leAt idx ct) T else Spec.firstFrom (Spec.geAt idx ct) T 0)
      = some j → j < T ∧ Valid idx j :=
    fun j hj => ⟨(key _ _ j hj).1, (key _ _ j hj).2.elim (vl j) (vg j)⟩
  unfold Spec.position at h
  cases fn with
  | none => exact near i h
  | some k =>
    simp only at h
    cases hE : (if isDesc then Spec.lastBelow (Spec.hitAt idx ct k) T else Spec.firstFrom (Spec.hitAt idx ct k) T 0) with
    | some j =>
      rw [hE] at h
      cases h
      exact ⟨(key _ _ i hE).1, (key _ _ i hE).2.elim (vh k i) (vh k i)⟩
    | none => rw [hE] at h; exact near i h

theorem hit_key {idx : Index} {ct : Int} {k : List Nat} {j : Int} (h : Hit idx ct (some k) j) :
    (ent idx j).key = k := (eq_of_beq h.2).symm

/-- under `UniqueKeysT`, a position holding the cursor is the one the scan reports. -/
theorem Spec.position_of_hit {idx : Index} {T : Nat} (U : UniqueKeysT idx T) {ct : Int} {k : List Nat} {i : Int}
    (hiT : i < T) (hh : Hit idx ct (some k) i) (isDesc : Bool) :
    Spec.position idx T ct (some k) isDesc = some i.toNat := by
  have huniq : ∀ j : Nat, (j : Int) < T → Hit idx ct (some k) j → some j = some i.toNat := by
    intro j hj hj'
    rw [← U j i ct hj hiT hj'.1 hh.1 ((hit_key hj').trans (hit_key hh).symm), Int.toNat_natCast]
  unfold Spec.position
  cases isDesc
  · simp only [Bool.false_eq_true, if_false]
    cases hE : Spec.firstFrom (Spec.hitAt idx ct k) T 0 with
    | none => exact absurd hh (firstFrom_none_pos (hitAt_iff idx ct k) hit_nonneg hE i hiT)
    | some j =>
      obtain ⟨h1, h2, _⟩ := firstFrom_some_pos (hitAt_iff idx ct k) hit_nonneg hE
      exact huniq j h2 h1
  · simp only [if_true]
    cases hE : Spec.lastBelow (Spec.hitAt idx ct k) T with
    | none => exact absurd hh (lastBelow_none_pos (hitAt_iff idx ct k) hit_nonneg hE i hiT)
    | some j =>
      obtain ⟨h1, h2, _⟩ := lastBelow_some_pos (hitAt_iff idx ct k) hit_nonneg hE
      exact huniq j h2 h1

/-- FindRecordStartIdx with a cached total `T` not larger than the file equals the linear scan over the
first `T` records. -/
theorem find_spec {idx : Index} {T : Nat} (hT : T ≤ idx.length) (S : SortedT idx T) (U : UniqueKeysT idx T)
    (ct : Int) (fn : Option (List Nat)) (isDesc : Bool) :
    findRecordStartIdx idx T ct fn isDesc = Spec.find idx T ct fn isDesc := by
  unfold findRecordStartIdx Spec.find
  simp only
  have hTl : (T : Int) - 1 < idx.length := Int.sub_one_lt_of_le (Int.ofNat_le.mpr hT)
  have hlt : ∀ j : Int, j ≤ T - 1 → j < T := fun _ => Int.lt_of_le_sub_one
  rcases exists_least (Valid idx) 0 ((T : Int) - 1) with hn | ⟨ss, s1, s2, s3, s4⟩
  · -- no parsable record among the first `T`: neither search nor scan finds anything
    rw [findValid_up_none idx 0 0 _ (Int.le_refl _) hTl (by omega) hn]
    simp only
    cases hp : Spec.position idx T ct fn isDesc with
    | none => rfl
    | some i =>
      obtain ⟨h1, h2⟩ := Spec.position_some hp
      exact absurd h2 (hn i (Int.natCast_nonneg i) (Int.le_sub_one_of_lt (Int.ofNat_lt.mpr h1)))
  · rw [findValid_up_some idx 0 0 _ ss (Int.le_refl _) hTl s1 s2 s3 s4]
    simp only
    rcases exists_greatest (Valid idx) ss ((T : Int) - 1) with hn | ⟨ee, e1, e2, e3, e4⟩
    · exact absurd s3 (hn ss (Int.le_refl _) s2)
    · rw [findValid_down_some idx _ ss _ ee s1 hTl e1 e2 e3 e4]
      simp only
      have F : Frame idx T ss ee := ⟨s1, e1, hlt ee e2, hT,
        fun j hj => (Int.lt_or_le j 0).elim tm_none_of_neg fun h0 => not_valid_iff.mp (s4 j h0 hj),
        fun j h1 h2 => not_valid_iff.mp (e4 j h1 (Int.le_sub_one_of_lt h2))⟩
      obtain ⟨i, hbin, i1, i2, i3⟩ := binSearch_lands_fuel (idx := idx) ct (binFuel ss ee) ss ee
        ⟨s1, e1, Int.lt_of_le_of_lt e2 hTl, s3, e3⟩ (lt_binFuel ss ee)
      rw [hbin]
      simp only
      obtain ⟨ft, hft⟩ := valid_iff.mp i3
      rw [show (ent idx i).time? = some ft from hft]
      simp only
      by_cases hearly : ct = ft ∧ fn.isSome = true ∧ keyMatch fn (ent idx i) = true
      · -- the bisection landed on the cursor itself: by `UniqueKeysT` that is what the scan reports
        rw [if_pos hearly]
        obtain ⟨h1, h2, h3⟩ := hearly
        cases fn with
        | none => cases h2
        | some k =>
          rw [Spec.position_of_hit U (hlt i (Int.le_trans i2 e2)) ⟨h1 ▸ hft, h3⟩ isDesc]
          simp only
          rw [Int.toNat_of_nonneg (Int.le_trans s1 i1)]
      · rw [if_neg hearly]
        cases isDesc
        · simp only [Bool.false_eq_true, if_false]
          rw [postSearchAsc_spec F S ct i fn i1 i2]
          unfold pos0
          cases Spec.position idx T ct fn false <;> rfl
        · simp only [if_true]
          rw [postSearchDesc_spec F S ct i fn i1 i2]
          unfold pos0
          cases Spec.position idx T ct fn true <;> rfl

/-! ### the scan over a prefix -/

theorem Spec.lastBelow_congr {p q : Nat → Bool} : ∀ {n : Nat}, (∀ j, j < n → p j = q j) →
    Spec.lastBelow p n = Spec.lastBelow q n := by
  intro n
  induction n with
  | zero => intro _; rfl
  | succ n ih =>
    intro h
    unfold Spec.lastBelow
    rw [h n (Nat.lt_succ_self n), ih fun j hj => h j (Nat.lt_succ_of_lt hj)]

theorem Spec.firstFrom_congr {p q : Nat → Bool} : ∀ {n s : Nat}, (∀ j, s ≤ j → j < s + n → p j = q j) →
    Spec.firstFrom p n s = Spec.firstFrom q n s := by
  intro n
  induction n with
  | zero => intro _ _; rfl
  | succ n ih =>
    intro s h
    unfold Spec.firstFrom
    rw [h s (Nat.le_refl s) (Nat.lt_add_of_pos_right (Nat.succ_pos n)),
      ih fun j h1 h2 => h j (Nat.le_of_succ_le h1) (by rwa [Nat.add_succ, ← Nat.succ_add])]

/-- the scan over the first `T` records only looks at those records. -/
theorem Spec.position_take (idx : Index) (T : Nat) (ct : Int) (fn : Option (List Nat)) (isDesc : Bool) :
    Spec.position (idx.take T) T ct fn isDesc = Spec.position idx T ct fn isDesc := by
  have hget : ∀ j, j < T → (idx.take T)[j]? = idx[j]? := by
    intro j hj; rw [List.getElem?_take]; simp [hj]
  have hh : ∀ k j, j < T → Spec.hitAt (idx.take T) ct k j = Spec.hitAt idx ct k j := by
    intro k j hj; unfold Spec.hitAt; rw [hget j hj]
  have hl : ∀ j, j < T → Spec.leAt (idx.take T) ct j = Spec.leAt idx ct j := by
    intro j hj; unfold Spec.leAt; rw [hget j hj]
  have hg : ∀ j, j < T → Spec.geAt (idx.take T) ct j = Spec.geAt idx ct j := by
    intro j hj; unfold Spec.geAt; rw [hget j hj]
  unfold Spec.position
  rw [Spec.lastBelow_congr hl, Spec.firstFrom_congr (fun j _ h2 => hg j (by omega))]
  cases fn with
  | none => rfl
  | some k =>
    simp only
    rw [Spec.lastBelow_congr (hh k), Spec.firstFrom_congr (fun j _ h2 => hh k j (by omega))]

end PttVerif.C06
