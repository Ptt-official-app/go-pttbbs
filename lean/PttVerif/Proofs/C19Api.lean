import PttVerif.Proofs.C19
/-
C19 — the trees `AddBoard`/`AddLine`/`AddFolder` build from the empty tree: every entry carries the FAV bit and
ids run 1, 2, … on each level (`ApiInv`), so a save followed by a load gives the tree back unchanged.
-/
namespace PttVerif.C19
open PttVerif

attribute [local simp] Item.isBoard Item.isLine Item.isFolder

/-- every entry (at every depth) carries the FAV bit. -/
def allValid : List Item → Bool
  | [] => true
  | .folder a _ _ _ _ _ sub :: rest => isValidAttr a && allValid sub && allValid rest
  | it :: rest => isValidAttr it.attr && allValid rest

/-- lines and folders are numbered `l+1, l+2, …` / `f+1, f+2, …` in order, from 1 in every folder. -/
def idsSeq : Nat → Nat → List Item → Bool
  | _, _, [] => true
  | l, f, .board .. :: rest => idsSeq l f rest
  | l, f, .line _ lid :: rest => lid == l + 1 && idsSeq (l + 1) f rest
  | l, f, .folder _ fid _ _ _ _ sub :: rest => fid == f + 1 && idsSeq 0 0 sub && idsSeq l (f + 1) rest

/-- what holds of every tree the API builds from the empty tree. -/
def ApiInv (f : Fav) : Prop := wfFav f = true ∧ allValid f.items = true ∧ idsSeq 0 0 f.items = true

theorem apiInv_empty : ApiInv emptyFav := by
  refine ⟨?_, ?_, ?_⟩ <;> simp [emptyFav, allValid, idsSeq, wfFav, wfItems, fitsLevel]

/-! ### a level split in two -/

theorem wfItems_append (a b : List Item) : wfItems (a ++ b) = (wfItems a && wfItems b) := by
  induction a with
  | nil => simp [wfItems]
  | cons it r ih => cases it <;> simp [wfItems, ih, Bool.and_assoc]

theorem allValid_append (a b : List Item) : allValid (a ++ b) = (allValid a && allValid b) := by
  induction a with
  | nil => simp [allValid]
  | cons it r ih => cases it <;> simp [allValid, ih, Bool.and_assoc]

theorem idsSeq_append (a b : List Item) : ∀ (l f : Nat),
    idsSeq l f (a ++ b) = (idsSeq l f a && idsSeq (l + cntL a) (f + cntF a) b) := by
  induction a with
  | nil => intro l f; simp [idsSeq]
  | cons it r ih =>
    intro l f
    cases it <;> simp [idsSeq, ih, Bool.and_assoc, Nat.add_assoc, Nat.add_comm 1]

theorem totalCount_append (a b : List Item) : totalCount (a ++ b) = totalCount a + totalCount b := by
  induction a with
  | nil => simp [totalCount]
  | cons it r ih => cases it <;> simp [totalCount, ih] <;> omega

theorem length_le_totalCount (items : List Item) : items.length ≤ totalCount items := by
  induction items with
  | nil => simp [totalCount]
  | cons it r ih => cases it <;> simp [totalCount] <;> omega

theorem split_at : ∀ (items : List Item) (i : Nat) (x : Item), items[i]? = some x →
    ∃ a b, items = a ++ x :: b ∧ ∀ y, items.set i y = a ++ y :: b
  | [], i, x, h => by simp at h
  | it :: r, 0, x, h => by
      simp at h; subst h
      exact ⟨[], r, by simp, by simp⟩
  | it :: r, i + 1, x, h => by
      simp at h
      obtain ⟨a, b, e, hs⟩ := split_at r i x h
      exact ⟨it :: a, b, by simp [e], by intro y; simp [hs y]⟩

theorem MAX_BOARD_lt : MAX_BOARD < 4294967296 := by decide
theorem isValid_FAV : isValidAttr FAVH_FAV = true := by decide
theorem isValid_one : isValidAttr 1 = true := by decide

/-! ### an accepted add keeps `ApiInv` -/

theorem addHere_added {full : Bool} {k : AddKind} {f g : Fav} (h : addHere full k f = .added g) :
    full = false ∧
      match k with
      | .board bid => bid ≤ MAX_BOARD
          ∧ g = ⟨(f.nB + 1) % 65536, f.nL, f.nF, f.items ++ [.board FAVH_FAV bid 0 0]⟩
      | .line => (f.nL < 128 → f.nL < MAX_LINE)
          ∧ g = ⟨f.nB, (f.nL + 1) % 256, f.nF, f.items ++ [.line FAVH_FAV ((f.nL + 1) % 256)]⟩
      | .folder => (f.nF < 128 → f.nF < MAX_FOLDER)
          ∧ g = ⟨f.nB, f.nL, (f.nF + 1) % 256,
              f.items ++ [.folder FAVH_FAV ((f.nF + 1) % 256) (List.replicate TITLE_LEN 0) 0 0 0 []]⟩ := by
  -- along the tests of `addHere` in their order; only the last branch of each kind is an accepted add
  cases k with
  | board bid =>
    simp only [addHere] at h
    split at h
    · cases h
    · rename_i hb
      split at h
      · cases h
      · split at h
        · cases h
        · rename_i hfull
          simp at hb hfull
          exact ⟨hfull, hb.2, (AddRes.added.inj h).symm⟩
  | line =>
    simp only [addHere] at h
    split at h
    · cases h
    · rename_i hfull
      split at h
      · cases h
      · rename_i hq
        simp [neg8] at hq hfull
        exact ⟨hfull, fun hn => hq (by omega), (AddRes.added.inj h).symm⟩
  | folder =>
    simp only [addHere] at h
    split at h
    · cases h
    · rename_i hfull
      split at h
      · cases h
      · rename_i hq
        simp [neg8] at hq hfull
        exact ⟨hfull, fun hn => hq (by omega), (AddRes.added.inj h).symm⟩

/-- `isMaxSize()` refuses every add, at every path. -/
theorem addHere_full (k : AddKind) (f g : Fav) (h : addHere true k f = .added g) : False :=
  Bool.noConfusion (addHere_added h).1

theorem addAt_full (k : AddKind) : ∀ (p : List Nat) (f g : Fav), addAt true k p f = .added g → False
  | [], f, g, h => addHere_full k f g (by simpa [addAt] using h)
  | i :: p, f, g, h => by
      simp only [addAt] at h
      split at h
      · split at h
        · rename_i hrec; exact addAt_full k p _ _ hrec
        · simp at h
        · simp at h
      · simp at h

theorem apiInv_snoc {items : List Item} (x : Item) (hinv : ApiInv ⟨cntB items, cntL items, cntF items, items⟩)
    (hfit : fitsLevel (items ++ [x]) = true) (hwx : wfItems [x] = true) (hvx : allValid [x] = true)
    (hix : idsSeq (cntL items) (cntF items) [x] = true) :
    ApiInv ⟨cntB (items ++ [x]), cntL (items ++ [x]), cntF (items ++ [x]), items ++ [x]⟩ := by
  obtain ⟨hw, hv, hi⟩ := hinv
  refine ⟨wfFav_iff.mpr ⟨rfl, rfl, rfl, hfit, ?_⟩, ?_, ?_⟩
  · simp [wfItems_append, wfItems_of_wfFav hw, hwx]
  · simpa [allValid_append, hvx] using hv
  · simpa [idsSeq_append, hix] using hi

/-- `full` is `isMaxSize()`, a fact about the ROOT: `hfull` hands its negation down to the level addressed, whose
entries are among those of the root. -/
theorem addHere_inv (full : Bool) (k : AddKind) (f g : Fav) (hinv : ApiInv f)
    (hfull : full = false → totalCount f.items < MAX_FAV) (hadd : addHere full k f = .added g) :
    ApiInv g ∧ totalCount g.items = totalCount f.items + 1 := by
  obtain ⟨nB, nL, nF, items⟩ := f
  obtain ⟨rfl, rfl, rfl, hfit, _⟩ := wfFav_iff.mp hinv.1
  obtain ⟨kb, kl, kf, _⟩ := fits_bounds hfit
  obtain ⟨hnf, hk⟩ := addHere_added hadd
  -- the tree is not full, so this level is far from 32767 entries
  have hlen : items.length + 1 < 32768 := by
    have ht : totalCount items < 1024 := by simpa using hfull hnf
    have := length_le_totalCount items
    omega
  cases k with
  | board bid =>
    obtain ⟨hb, rfl⟩ := hk
    have hbid : bid < 4294967296 := Nat.lt_of_le_of_lt hb MAX_BOARD_lt
    have e : (cntB items + 1) % 65536 = cntB items + 1 := Nat.mod_eq_of_lt (by omega)
    have h := apiInv_snoc (.board FAVH_FAV bid 0 0) hinv (by simp [fitsLevel, cntL_append, cntF_append, kl, kf, hlen])
      (by simp [wfItems, rtOK, hbid]) (by simp [allValid, Item.attr, isValid_one]) (by simp [idsSeq])
    exact ⟨by simpa [cntB_append, cntL_append, cntF_append, e] using h, by simp [totalCount_append, totalCount]⟩
  | line =>
    obtain ⟨hq, rfl⟩ := hk
    have hq : cntL items < 64 := by simpa using hq kl
    have e : (cntL items + 1) % 256 = cntL items + 1 := Nat.mod_eq_of_lt (by omega)
    have h := apiInv_snoc (.line FAVH_FAV (cntL items + 1)) hinv
      (by simp [fitsLevel, cntL_append, cntF_append, kf, hlen]; omega)
      (by simp [wfItems, rtOK]) (by simp [allValid, Item.attr, isValid_one]) (by simp [idsSeq])
    exact ⟨by simpa [cntB_append, cntL_append, cntF_append, e] using h, by simp [totalCount_append, totalCount]⟩
  | folder =>
    obtain ⟨hq, rfl⟩ := hk
    have hq : cntF items < 64 := by simpa using hq kf
    have e : (cntF items + 1) % 256 = cntF items + 1 := Nat.mod_eq_of_lt (by omega)
    have h := apiInv_snoc (.folder FAVH_FAV (cntF items + 1) (List.replicate TITLE_LEN 0) 0 0 0 []) hinv
      (by simp [fitsLevel, cntL_append, cntF_append, kl, hlen]; omega)
      (by simp [wfItems, rtOK, fitsLevel]) (by simp [allValid, isValid_one]) (by simp [idsSeq])
    exact ⟨by simpa [cntB_append, cntL_append, cntF_append, e] using h, by simp [totalCount_append, totalCount]⟩

/-- nothing outside a folder depends on what is inside: this carries `addHere_inv` to an add at any path. -/
theorem apiInv_folder {fB fL fF : Nat} {x y : List Item} {a fid : Nat} {t : List Nat} {nB nL nF : Nat}
    {sub : List Item} :
    ApiInv ⟨fB, fL, fF, x ++ .folder a fid t nB nL nF sub :: y⟩ ↔
      ApiInv ⟨nB, nL, nF, sub⟩ ∧ ApiInv ⟨fB, fL, fF, x ++ .folder a fid t 0 0 0 [] :: y⟩ := by
  simp [ApiInv, wfFav, wfItems_append, wfItems, allValid_append, allValid, idsSeq_append, idsSeq,
    cntB_append, cntL_append, cntF_append, fitsLevel, rtOK]
  -- the same conjuncts on both sides: those of `sub` (its three counts against the header, its level bounds, `wfItems`,
  -- `allValid`, `idsSeq 0 0`) stand inside the folder's on the left and in front on the right; the rest stays in place
  constructor
  · intro h; simp [h]
  · intro h; simp [h]

theorem addAt_inv (full : Bool) (k : AddKind) : ∀ (path : List Nat) (f g : Fav), ApiInv f →
    (full = false → totalCount f.items < MAX_FAV) → addAt full k path f = .added g →
    ApiInv g ∧ totalCount g.items = totalCount f.items + 1
  | [], f, g, hinv, hfull, hadd => addHere_inv full k f g hinv hfull (by simpa [addAt] using hadd)
  | i :: p, f, g, hinv, hfull, hadd => by
      obtain ⟨fB, fL, fF, items⟩ := f
      simp only [addAt] at hadd
      split at hadd
      · rename_i a0 fid t nB nL nF sub hget
        obtain ⟨x, y, rfl, hset⟩ := split_at items i _ hget
        obtain ⟨hsub, hrest⟩ := apiInv_folder.mp hinv
        split at hadd
        · rename_i g' hrec
          have hfull' : full = false → totalCount sub < MAX_FAV := by
            intro hf
            have := hfull hf
            simp [totalCount_append, totalCount] at this ⊢
            omega
          obtain ⟨hg', ht'⟩ := addAt_inv full k p ⟨nB, nL, nF, sub⟩ g' hsub hfull' hrec
          simp at hadd; subst hadd
          simp only [hset]
          refine ⟨apiInv_folder.mpr ⟨hg', hrest⟩, ?_⟩
          simp [totalCount_append, totalCount] at ht' ⊢
          omega
        · simp at hadd
        · simp at hadd
      · simp at hadd

/-! ### on a tree with `ApiInv` neither cleanup nor renumbering changes anything -/

theorem noRebuild_of_allValid (items : List Item) (h : allValid items = true) : needRebuild items = false := by
  induction items using items_induction with
  | nil => simp [needRebuild]
  | board a bid lv ba rest ih =>
    simp [allValid, Item.attr] at h
    simp [needRebuild, Item.attr, h.1, ih h.2]
  | line a lid rest ih =>
    simp [allValid, Item.attr] at h
    simp [needRebuild, Item.attr, h.1, ih h.2]
  | folder a fid t nB nL nF sub rest ihs ihr =>
    simp [allValid] at h
    simp [needRebuild, h.1.1, ihs h.1.2, ihr h.2]

theorem step_bounds {c n m : Nat} (h : c + (n + 1) < m) : c + 1 < m ∧ c + 1 + n < m := by omega

theorem zero_add_lt {n m k : Nat} (h : n < m) (hk : m ≤ k) : 0 + n < k := by omega

theorem renumFrom_of_idsSeq (items : List Item) (hw : wfItems items = true) : ∀ (l f : Nat),
    idsSeq l f items = true → l + cntL items < 256 → f + cntF items < 256 → renumFrom l f items = items := by
  induction items, hw using wf_induction with
  | nil => intro l f _ _ _; simp [renumFrom]
  | board a bid lv ba rest _ ih =>
    intro l f hi hl hf
    simp [idsSeq] at hi
    simp at hl hf
    simp [renumFrom, ih l f hi hl hf]
  | line a lid rest ih =>
    intro l f hi hl hf
    simp [idsSeq] at hi
    simp at hl hf
    obtain ⟨hl1, hl2⟩ := step_bounds hl
    simp [renumFrom, Nat.mod_eq_of_lt hl1, hi.1, ih (l + 1) f hi.2 hl2 hf]
  | folder a fid t sub rest _ hfit _ ihs ihr =>
    intro l f hi hl hf
    simp [idsSeq] at hi
    simp at hl hf
    obtain ⟨_, kl, kf, _⟩ := fits_bounds hfit
    obtain ⟨hf1, hf2⟩ := step_bounds hf
    simp [renumFrom, Nat.mod_eq_of_lt hf1, hi.1.1, ihr l (f + 1) hi.2 hl hf2,
      ihs 0 0 hi.1.2 (zero_add_lt kl (by decide)) (zero_add_lt kf (by decide))]

theorem canon_of_allValid (f : Fav) (h : wfFav f = true) (hv : allValid f.items = true) : canon f = renumFav f := by
  rw [canon, keepValidFav_of_noRebuild f h (noRebuild_of_allValid _ hv)]

theorem canon_of_apiInv (f : Fav) (h : ApiInv f) : canon f = f := by
  obtain ⟨hw, hv, hi⟩ := h
  rw [canon_of_allValid f hw hv]
  obtain ⟨nB, nL, nF, items⟩ := f
  obtain ⟨_, _, _, hfit, hwi⟩ := wfFav_iff.mp hw
  obtain ⟨_, kl, kf, _⟩ := fits_bounds hfit
  simp [renumFav, renumFrom_of_idsSeq items hwi 0 0 hi (zero_add_lt kl (by decide)) (zero_add_lt kf (by decide))]

/-! ### every folder of a well-formed tree -/

/-- the `FavRaw` reached from the root through the entry indices `path` (each must name a folder). -/
def levelAt : List Nat → Fav → Option Fav
  | [], f => some f
  | i :: p, f =>
    match f.items[i]? with
    | some (.folder _ _ _ nB nL nF sub) => levelAt p ⟨nB, nL, nF, sub⟩
    | _ => none

theorem wfFav_of_mem {items : List Item} (h : wfItems items = true) {a fid : Nat} {t : List Nat} {nB nL nF : Nat}
    {sub : List Item} (hm : Item.folder a fid t nB nL nF sub ∈ items) : wfFav ⟨nB, nL, nF, sub⟩ = true := by
  induction items with
  | nil => cases hm
  | cons x r ih =>
    rcases List.mem_cons.mp hm with rfl | hr
    · exact (wfItems_folder.mp h).2.1
    · exact ih (wfItems_cons h).2 hr

theorem wf_levelAt : ∀ (path : List Nat) (f g : Fav), wfFav f = true → levelAt path f = some g → wfFav g = true
  | [], f, g, h, hl => by simp [levelAt] at hl; subst hl; exact h
  | i :: p, f, g, h, hl => by
      simp only [levelAt] at hl
      split at hl
      · rename_i a fid t nB nL nF sub hget
        exact wf_levelAt p _ g (wfFav_of_mem (wfItems_of_wfFav h) (List.mem_of_getElem? hget)) hl
      · simp at hl

end PttVerif.C19
