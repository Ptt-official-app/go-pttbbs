import PttVerif.Model.C16
/-!
What the functions of `Model/C16.lean` compute on a presented token `.tok tok`, as conjunctions of what they test (on
`.empty` and `.malformed` they reduce by evaluation).  The verifiers' statements read
`(ReadsAs … ∧ clock not past exp) ∧ own test`: the first conjunct is what `issued_readsAs` proves of a token the
`Create*` functions issue.
-/
namespace PttVerif.C16

section
variable {c : Cfg} {t : Int} {tok : Token} {k : Secret} {id : Ident}

/-- rewritten along a chain of guards this turns `f … = .ok b` into the conjunction of the negated guards -/
theorem ite_error_eq_ok {ε α : Type} {p : Prop} [Decidable p] {e : ε} {x : Except ε α} {b : α} :
    (if p then Except.error e else x) = .ok b ↔ ¬p ∧ x = .ok b := by
  by_cases h : p
  · simp [h]
  · simp [h]

theorem toTime4_of_range {x : Int} (h0 : 0 ≤ x) (h1 : x < 2147483648) : toTime4 x = x := by
  obtain ⟨n, rfl⟩ := Int.eq_ofNat_of_zero_le h0
  have hn : n < 2147483648 := Int.ofNat_lt.mp h1
  unfold toTime4
  rw [Int.emod_eq_of_lt h0 (Int.lt_trans h1 (by decide))]
  exact if_pos hn

theorem srvNow_of_range (h0 : 0 ≤ t) (h1 : t < 2147483648) : srvNow t = t :=
  toTime4_of_range h0 h1

theorem expiry_of_range {t0 d : Int} (h0 : 0 ≤ t0) (hd : 0 ≤ d) (hm : t0 + d < 2147483648) :
    toTime4 (srvNow t0 + toTime4 d) = t0 + d := by
  rw [srvNow_of_range h0 (Int.lt_of_le_of_lt (Int.le_add_of_nonneg_right hd) hm),
    toTime4_of_range hd (Int.lt_of_le_of_lt (Int.le_add_of_nonneg_left h0) hm),
    toTime4_of_range (Int.add_nonneg h0 hd) hm]

theorem verify_iff :
    verify k tok = true ↔ tok.alg.isHMAC = true ∧ tok.hmacOK k = true :=
  Bool.and_eq_true _ _ ▸ Iff.rfl

/-- The cryptographic assumption about ONE signature oracle, used only where a theorem says so:
a signature made with `K` verifies under no other key. -/
def SignedOnly (K : Secret) (σ : Secret → Bool) : Prop := ∀ k, σ k = true → k = K

theorem verify_false_of_signedOnly {K : Secret} (hσ : SignedOnly K tok.hmacOK) (hk : K ≠ k) :
    verify k tok = false := by
  cases hv : verify k tok with
  | false => rfl
  | true => exact absurd (hσ k (verify_iff.mp hv).2).symm hk

theorem claimsValid_exp (h : claimsValid t tok = true) :
    dateOK (fun n e => decide (n < e)) t tok.exp = true := by
  simp only [claimsValid, Bool.and_eq_true] at h
  exact h.1.1

/-- the library's `exp` rule refuses a negative `exp`: it is before a clock past the epoch -/
theorem claimInt_exp_nonneg {x : Claim} {e : Int} (h0 : 0 ≤ t)
    (hd : dateOK (fun n e => decide (n < e)) t x = true) (he : claimInt x = some e) : 0 ≤ e := by
  cases x with
  | absent =>
    cases he
    exact Int.le_refl 0
  | str s => cases hd
  | other => cases hd
  | num fl fr =>
    simp only [dateOK, Bool.or_eq_true, Bool.and_eq_true, beq_iff_eq, decide_eq_true_eq] at hd
    have hfl : 0 ≤ fl := by omega
    -- so `int(exp)` does not round a negative number up: it is the floor
    simp only [claimInt, decide_eq_false (Int.not_lt.mpr hfl), Bool.and_false, Bool.false_eq_true, if_false,
      Option.some.injEq] at he
    exact he ▸ hfl

theorem claimString_nonempty {cl : Claim} {s : Bytes} (h : claimString cl = some s) (hs : s ≠ []) : cl = .str s := by
  cases cl with
  | absent => exact absurd (Option.some.inj h).symm hs
  | str s' => rw [Option.some.inj h]
  | num fl fr => cases h
  | other => cases h

/-- `f` is what a claim parser does with the accepted token, so that the three parsers share this step. -/
theorem parseJwt_tok_bind {β : Type} {f : Token → Option β} {b : β} :
    (parseJwt k t (.tok tok)).bind f = some b ↔
      claimsValid t tok = true ∧ verify k tok = true ∧ f tok = some b := by
  rw [← and_assoc, ← Bool.and_eq_true]
  unfold parseJwt
  dsimp only
  cases claimsValid t tok && verify k tok
  · exact ⟨nofun, fun h => nomatch h.1⟩
  · exact ⟨fun h => ⟨rfl, h⟩, fun h => h.2⟩

/-- What the three claim parsers have in common: `ParseJwt(raw, k)` accepts the token at library time `t` (dates
valid, signature verifies under `k`) and its `cli`, `sub`, `exp` claims read as the identity `id`. -/
structure ReadsAs (k : Secret) (t : Int) (tok : Token) (id : Ident) : Prop where
  valid : claimsValid t tok = true
  verified : verify k tok = true
  cli : claimString tok.cli = some id.cli
  sub : claimString tok.sub = some id.user
  exp : claimInt tok.exp = some id.exp

/-- "has not expired", exactly as enforced on a token that is accepted with the expiry check on:
the server's int32 clock has not passed `int(exp)`, and the library's rule holds (`exp` absent or 0, or
the clock is strictly before `⌊exp⌋`). -/
def Unexpired (t : Int) (tok : Token) : Prop :=
  (∃ e, claimInt tok.exp = some e ∧ srvNow t ≤ e) ∧ dateOK (fun n e => decide (n < e)) t tok.exp = true

theorem unexpired_of_readsAs (h : ReadsAs k t tok id) (he : srvNow t ≤ id.exp) : Unexpired t tok :=
  ⟨⟨id.exp, h.exp, he⟩, claimsValid_exp h.valid⟩

theorem parseJwtClaim_tok : parseJwtClaim c t (.tok tok) = some id ↔ ReadsAs c.vAccess t tok id := by
  unfold parseJwtClaim
  rw [Option.bind_eq_bind, parseJwt_tok_bind]
  simp only [Option.bind_eq_bind, Option.pure_def, Option.bind_eq_some_iff, Option.some.injEq]
  constructor
  · rintro ⟨hcv, hv, _, hcli, _, hsub, _, hexp, rfl⟩
    exact ⟨hcv, hv, hcli, hsub, hexp⟩
  · rintro ⟨hcv, hv, hcli, hsub, hexp⟩
    exact ⟨hcv, hv, _, hcli, _, hsub, _, hexp, rfl⟩

theorem parseRefreshJwtClaim_tok {typ : Bytes} :
    parseRefreshJwtClaim c t (.tok tok) = some (id, typ) ↔
      ReadsAs c.vRefresh t tok id ∧ claimString tok.typ = some typ := by
  unfold parseRefreshJwtClaim
  rw [Option.bind_eq_bind, parseJwt_tok_bind]
  simp only [Option.bind_eq_bind, Option.pure_def, Option.bind_eq_some_iff, Option.some.injEq, Prod.mk.injEq]
  constructor
  · rintro ⟨hcv, hv, _, hcli, _, hsub, _, hexp, _, htyp, rfl, rfl⟩
    exact ⟨⟨hcv, hv, hcli, hsub, hexp⟩, htyp⟩
  · rintro ⟨⟨hcv, hv, hcli, hsub, hexp⟩, htyp⟩
    exact ⟨hcv, hv, _, hcli, _, hsub, _, hexp, _, htyp, rfl, rfl⟩

theorem parseEmailJwtClaim_tok {cl : EmailClaim} :
    parseEmailJwtClaim c t (.tok tok) = some cl ↔
      ReadsAs c.vEmail t tok cl.id ∧ claimString tok.eml = some cl.eml ∧ claimString tok.ctx = some cl.ctx := by
  unfold parseEmailJwtClaim
  rw [Option.bind_eq_bind, parseJwt_tok_bind]
  simp only [Option.bind_eq_bind, Option.pure_def, Option.bind_eq_some_iff, Option.some.injEq]
  constructor
  · rintro ⟨hcv, hv, _, hcli, _, hsub, _, heml, _, hexp, _, hctx, rfl⟩
    exact ⟨⟨hcv, hv, hcli, hsub, hexp⟩, heml, hctx⟩
  · rintro ⟨⟨hcv, hv, hcli, hsub, hexp⟩, heml, hctx⟩
    exact ⟨hcv, hv, _, hcli, _, hsub, _, heml, _, hexp, _, hctx, rfl⟩

theorem verifyJwt_tok {chk : Bool} :
    verifyJwt c t (.tok tok) chk = .ok id ↔ ReadsAs c.vAccess t tok id ∧ (chk = true → srvNow t ≤ id.exp) := by
  rw [← parseJwtClaim_tok]
  unfold verifyJwt
  dsimp only
  cases parseJwtClaim c t (.tok tok) with
  | none => exact ⟨nofun, fun h => nomatch h.1⟩
  | some cl =>
    dsimp only
    rw [ite_error_eq_ok, Except.ok.injEq, Option.some.injEq, Bool.and_eq_true, decide_eq_true_eq, not_and, Int.not_lt,
      and_comm]
    apply and_congr_right
    rintro rfl
    exact Iff.rfl

theorem verifyRefreshJwt_tok :
    verifyRefreshJwt c t (.tok tok) = .ok id ↔
      (ReadsAs c.vRefresh t tok id ∧ srvNow t ≤ id.exp) ∧ claimString tok.typ = some c.refreshType := by
  rw [and_right_comm, ← parseRefreshJwtClaim_tok]
  unfold verifyRefreshJwt
  dsimp only
  cases parseRefreshJwtClaim c t (.tok tok) with
  | none => exact ⟨nofun, fun h => nomatch h.1⟩
  | some p =>
    obtain ⟨cl, typ⟩ := p
    dsimp only
    rw [ite_error_eq_ok, ite_error_eq_ok, Except.ok.injEq, Option.some.injEq, Prod.mk.injEq, Int.not_lt,
      Decidable.not_not]
    constructor
    · rintro ⟨h, rfl, rfl⟩
      exact ⟨⟨rfl, rfl⟩, h⟩
    · rintro ⟨⟨rfl, rfl⟩, h⟩
      exact ⟨h, rfl, rfl⟩

theorem verifyEmailJwt_tok {context : Bytes} {eml : Bytes} :
    verifyEmailJwt c t (.tok tok) context = .ok (id, eml) ↔
      (ReadsAs c.vEmail t tok id ∧ srvNow t ≤ id.exp) ∧
      claimString tok.eml = some eml ∧ claimString tok.ctx = some context := by
  rw [and_right_comm, ← parseEmailJwtClaim_tok (cl := ⟨id, eml, context⟩)]
  unfold verifyEmailJwt
  dsimp only
  cases parseEmailJwtClaim c t (.tok tok) with
  | none => exact ⟨nofun, fun h => nomatch h.1⟩
  | some cl =>
    obtain ⟨cid, ceml, cctx⟩ := cl
    dsimp only
    rw [ite_error_eq_ok, ite_error_eq_ok, Except.ok.injEq, Option.some.injEq, Prod.mk.injEq, EmailClaim.mk.injEq,
      Int.not_lt, Decidable.not_not]
    constructor
    · rintro ⟨h, rfl, rfl, rfl⟩
      exact ⟨⟨rfl, rfl, rfl⟩, h⟩
    · rintro ⟨⟨rfl, rfl, rfl⟩, h⟩
      exact ⟨h, rfl, rfl, rfl⟩

theorem verifyEmailJwt_other_ctx {context : Bytes} (h : claimString tok.ctx ≠ some context) :
    verifyEmailJwt c t (.tok tok) context = .error .invalidToken := by
  unfold verifyEmailJwt
  dsimp only
  cases hp : parseEmailJwtClaim c t (.tok tok) with
  | none => rfl
  | some cl =>
    have hctx := (parseEmailJwtClaim_tok.mp hp).2.2
    dsimp only
    by_cases hexp : srvNow t > cl.id.exp
    · rw [if_pos hexp]
    · rw [if_neg hexp, if_pos]
      exact fun heq => h (heq ▸ hctx)

/-- the token is what the three `Create*` functions issue: HS256 with `cli`, `sub`, a whole-second `exp` and neither
`iat` nor `nbf` -/
theorem issued_readsAs {σ : Secret → Bool} {user cli : Bytes} {e : Int} {typ ctx eml : Claim}
    (hσ : σ k = true) (h0 : 0 ≤ t) (ht : t < e) (hm : e < 2147483648) :
    ReadsAs k t { alg := .hs256, hmacOK := σ, cli := .str cli, sub := .str user, exp := .num e false, typ, ctx, eml,
                  iat := .absent, nbf := .absent } ⟨user, e, cli⟩ ∧
      srvNow t ≤ e := by
  refine ⟨⟨?_, verify_iff.mpr ⟨rfl, hσ⟩, rfl, rfl, rfl⟩, ?_⟩
  · simp [claimsValid, dateOK, ht]
  · rw [srvNow_of_range h0 (Int.lt_trans ht hm)]
    exact Int.le_of_lt ht

/-- the distance guard `> ε ∨ < -ε` is passed iff `-ε ≤ … ∧ … ≤ ε`, which swaps the order of the two bounds -/
theorem refresh_ok {nfields : Nat} {second : Raw} {pcli : Bytes} {praw : Raw}
    {σa σr : Secret → Bool} {out : RefreshOut} :
    refresh c t nfields second pcli praw σa σr = .ok out ↔
      ∃ a r, verifyJwt c t (getJwt nfields second) false = .ok a ∧ verifyRefreshJwt c t praw = .ok r ∧
        (-c.eps ≤ r.exp - a.exp - c.pairDiff ∧ r.exp - a.exp - c.pairDiff ≤ c.eps) ∧
        (r.cli = pcli ∨ r.cli = a.cli) ∧ r.user = a.user ∧
        out = ⟨r.user, (createToken c t r.user r.cli σa).1, (createToken c t r.user r.cli σa).2,
               (createRefreshToken c t r.user r.cli σr).1, (createRefreshToken c t r.user r.cli σr).2⟩ := by
  unfold refresh
  cases verifyJwt c t (getJwt nfields second) false with
  | error e =>
    refine ⟨nofun, ?_⟩
    rintro ⟨_, _, h, _⟩
    cases h
  | ok a =>
    cases verifyRefreshJwt c t praw with
    | error e =>
      refine ⟨nofun, ?_⟩
      rintro ⟨_, _, _, h, _⟩
      cases h
    | ok r =>
      dsimp only
      rw [ite_error_eq_ok, ite_error_eq_ok, ite_error_eq_ok, Except.ok.injEq]
      simp only [Bool.or_eq_true, Bool.and_eq_true, decide_eq_true_eq, not_or, Int.not_lt, gt_iff_lt, ne_eq,
        Decidable.not_not, Decidable.not_and_iff_not_or_not]
      constructor
      · rintro ⟨⟨hd2, hd1⟩, hcli, hu, rfl⟩
        exact ⟨a, r, rfl, rfl, ⟨hd1, hd2⟩, hcli, hu, rfl⟩
      · rintro ⟨_, _, ha, hr, ⟨hd1, hd2⟩, hcli, hu, rfl⟩
        cases ha
        cases hr
        exact ⟨⟨hd2, hd1⟩, hcli, hu, rfl⟩

theorem refresh_far_pair {tk rt : Token} {ea er : Int} {pcli : Bytes} {σa σr : Secret → Bool}
    (hea : tk.exp = .num ea false) (her : rt.exp = .num er false)
    (hfar : c.eps < er - ea - c.pairDiff ∨ er - ea - c.pairDiff < -c.eps) :
    refresh c t 2 (.tok tk) pcli (.tok rt) σa σr = .error .invalidToken := by
  unfold refresh
  cases ha : verifyJwt c t (getJwt 2 (.tok tk)) false with
  | error _ => rfl
  | ok a =>
    cases hr : verifyRefreshJwt c t (.tok rt) with
    | error _ => rfl
    | ok r =>
      have ha' := (verifyJwt_tok.mp ha).1.exp
      have hr' := (verifyRefreshJwt_tok.mp hr).1.1.exp
      rw [hea] at ha'
      rw [her] at hr'
      dsimp only
      rw [if_pos]
      rw [Bool.or_eq_true, decide_eq_true_eq, decide_eq_true_eq, ← Option.some.inj ha', ← Option.some.inj hr']
      exact hfar

end

theorem verifyJwt_error {c : Cfg} {t : Int} {raw : Raw} {chk : Bool} {e : Err} :
    verifyJwt c t raw chk = .error e → e = .invalidToken := by
  intro h
  unfold verifyJwt at h
  split at h
  · cases h
  · split at h
    · cases h; rfl
    · split at h
      · cases h; rfl
      · cases h

open PttVerif.Gen

/-- no ini file, and every ini file shipped with the repository -/
def shippedInis : List Env := [] :: Token.iniFiles.map (·.2)

/-- what separates the kinds at the login check, as a test on a configuration -/
def kindsSeparated (c : Cfg) : Bool :=
  c.sRefresh != c.vAccess && c.sEmail != c.vAccess && c.sAccess == c.vAccess && c.sRefresh == c.vRefresh && c.sEmail == c.vEmail

/-- Three facts about the configuration after `InitConfig()` in one statement, so that the interpreter `runConfig`
runs once per ini file: they share the terms `effEnv ini`, and the kernel evaluates a term once per declaration. -/
theorem shipped_inis_evaluated :
    (shippedInis.all (fun ini => (effSecrets ini).map pairwiseDistinct == some true) = true ∧
     shippedInis.all (fun ini => (effCfg ini).map kindsSeparated == some true) = true) ∧
    effCfg [] = some srcCfg := by
  decide +kernel

end PttVerif.C16
