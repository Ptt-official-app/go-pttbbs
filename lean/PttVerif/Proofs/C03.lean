import PttVerif.Model.C03
import PttVerif.Proofs.Cstr
/-
C03 — the notions in which `Props/C03.lean` states the property, and the lemmas behind it.  Core Lean only.

Every operation is a chain of refusals that hand the state back as it is, followed by at most one `setRec` and one
session entry (`withUser`, `loginAs`, `registerNew`): what an operation leaves alone is read off that chain, in every
state.  The refinement relation `R` is re-established in two places, for writing a record (`R.write`) and for
entering a session (`R.enter`); the front that five operations share is simulated once (`R.withUser_refines`).
-/
namespace PttVerif.C03
open PttVerif

/-! ### character classes (over the regenerated interval lists) -/

theorem isAlpha_iff (c : Nat) : isAlpha c = true ↔ isLetter c := by
  simp [isAlpha, inRanges, Gen.Acct.alphaRanges, isLetter]

theorem isNumber_iff (c : Nat) : isNumber c = true ↔ isDigit c := by
  simp [isNumber, inRanges, Gen.Acct.numberRanges, isDigit]

theorem isAlnum_iff (c : Nat) : isAlnum c = true ↔ (isLetter c ∨ isDigit c) := by
  simp [isAlnum, isAlpha_iff, isNumber_iff]

theorem lenGuard_iff (n : Nat) :
    Gen.Acct.lenGuard.any (fun g => cmpOp g.1 n g.2) = true ↔ (n < 2 ∨ n > 12) := by
  -- the regenerated guard `[(0, 2), (2, 12)]` read through `cmpOp`
  show ((decide (n < 2) || (decide (n > 12) || false)) = true) ↔ _
  simp only [Bool.or_false, Bool.or_eq_true, decide_eq_true_eq]

theorem tolower_eq_zero (c : Nat) : tolower c = 0 ↔ c = 0 := by
  unfold tolower; split <;> omega

theorem tolower_idem (c : Nat) : tolower (tolower c) = tolower c := by
  by_cases h : 65 ≤ c ∧ c ≤ 90
  · simp [tolower, h]; omega
  · simp [tolower, h]

/-! ### C strings -/

theorem cstr_nil : cstr [] = [] := PttVerif.cstr_nil

theorem cstr_idem (a : Bytes) : cstr (cstr a) = cstr a := PttVerif.cstr_idem a

theorem cstr_headD (a : Bytes) : a.headD 0 = 0 ↔ cstr a = [] := by
  cases a with
  | nil => simp [cstr_nil]
  | cons x xs =>
    rw [cstr_cons]
    by_cases h : x = 0 <;> simp [h]

/-! ### Cstrcmp / Cstrcasecmp decide equality of the C-string readings -/

theorem cstrcmp_zero_iff (a b : Bytes) : cstrcmp a b = 0 ↔ cstr a = cstr b := by
  fun_induction cstrcmp a b with
  | case1 => simp
  | case2 y ys => simp [cstr_nil, cstr_cons]
  | case3 xs => simp [cstr_nil, cstr_cons]
  | case4 x xs hx => simp [cstr_nil, cstr_cons, hx]
  | case5 xs ys => simp [cstr_cons]
  | case6 xs y ys hy => simp [cstr_cons, hy]
  | case7 x xs y ys hx hxy =>
    by_cases hy : y = 0
    · simp [cstr_cons, hx, hy]
    · have : (x : Int) - y ≠ 0 := by omega
      simp [cstr_cons, hx, hy, hxy, this]
  | case8 x xs y ys hx hxy ih =>
    cases Classical.not_not.1 hxy
    simp [cstr_cons, hx, ih]

theorem cstrcmp_guest (u : Bytes) : cstrcmp u STR_GUEST ≠ 0 ↔ cstr u ≠ STR_GUEST := by
  rw [Ne, cstrcmp_zero_iff]
  have : cstr STR_GUEST = STR_GUEST := by decide
  rw [this]

theorem foldId_eq (a : Bytes) : foldId a = cstr (a.map tolower) := by
  rw [foldId, cstr_map tolower_eq_zero]

theorem cstrcasecmp_zero_iff (a b : Bytes) : cstrcasecmp a b = 0 ↔ foldId a = foldId b := by
  rw [cstrcasecmp, cstrcmp_zero_iff, foldId_eq, foldId_eq]

theorem foldId_nil_iff (a : Bytes) : foldId a = [] ↔ a.headD 0 = 0 := by
  rw [cstr_headD, foldId]; simp

theorem foldId_length (a : Bytes) : (foldId a).length = (cstr a).length := by simp [foldId]

theorem foldId_copyInto (n : Nat) (src : Bytes) : foldId (copyInto n src) = (foldId src).take n := by
  rw [foldId, cstr_copyInto, foldId, List.map_take]

theorem foldId_of_no_zero (a : Bytes) (h : ∀ c ∈ a, c ≠ 0) : foldId a = a.map tolower := by
  rw [foldId, cstr_of_nonzero a h]

theorem foldId_zeros (n : Nat) : foldId (List.replicate n 0) = [] := by
  rw [foldId, cstr_replicate_zero]
  rfl

/-! ### the id validator -/

/-- the regenerated constants at their present values; of these the lemmas below need `IDSZ = 13` only. -/
theorem consts : IDLEN = 12 ∧ IDSZ = 13 ∧ EMAILSZ = 50 ∧ MAX = 50 ∧ USHM = 31 ∧
    STR_GUEST = [103, 117, 101, 115, 116] ∧ STR_REGNEW = [110, 101, 119] := by decide

theorem validLoop_iff (u : Bytes) (idx k : Nat) :
    validLoop u idx (idx + k) = true ↔ ∀ c ∈ u.take k, isAlnum c = true := by
  induction u generalizing idx k with
  | nil => simp [validLoop]
  | cons c cs ih =>
    unfold validLoop
    cases k with
    | zero => simp
    | succ k =>
      have e : idx + (k + 1) = idx + 1 + k := by omega
      rw [if_neg (by omega), e, List.take_succ_cons, List.forall_mem_cons, ← ih (idx + 1) k]
      by_cases hc : isAlnum c = true
      · simp [hc]
      · simp [hc]

theorem validLoop_cstr (u : Bytes) :
    validLoop u 0 (cstr u).length = true ↔ ∀ c ∈ cstr u, isLetter c ∨ isDigit c := by
  have := validLoop_iff u 0 (cstr u).length
  rw [Nat.zero_add, take_cstr_length] at this
  simp only [this, isAlnum_iff]

theorem isAlpha_head (u : Bytes) : isAlpha (u.headD 0) = true ↔ ∃ c, (cstr u).head? = some c ∧ isLetter c := by
  rw [isAlpha_iff]
  cases u with
  | nil => simp [cstr_nil, isLetter]
  | cons x xs =>
    rw [cstr_cons]
    by_cases hx : x = 0
    · simp [hx, isLetter]
    · simp [hx]

/-- `UserID_t.IsValid` accepts exactly the arrays whose C-string reading is 2–12 alphanumerics with a leading letter. -/
theorem isValidId_iff (u : Bytes) : isValidId u = true ↔ WellFormed (cstr u) := by
  unfold isValidId WellFormed
  simp only [← validLoop_cstr, ← isAlpha_head]
  by_cases hg : (cstr u).length < 2 ∨ (cstr u).length > 12
  · rw [if_pos ((lenGuard_iff _).2 hg)]
    constructor
    · nofun
    · intro h; omega
  · rw [if_neg (fun h => hg ((lenGuard_iff _).1 h))]
    have h2 : 2 ≤ (cstr u).length ∧ (cstr u).length ≤ 12 := by omega
    cases isAlpha (u.headD 0) with
    | false => simp
    | true => simp [h2]

theorem wellFormed_no_zero {s : Bytes} (h : WellFormed s) : ∀ c ∈ s, c ≠ 0 := by
  intro c hc e
  rcases h.2.2.2 c hc with hl | hd
  · unfold isLetter at hl; omega
  · unfold isDigit at hd; omega

theorem wellFormed_ne_nil {s : Bytes} (h : WellFormed s) : s ≠ [] := by
  intro e; have := h.1; rw [e] at this; simp at this

theorem wellFormed_headD {u : Bytes} (h : WellFormed (cstr u)) : u.headD 0 ≠ 0 :=
  fun e => wellFormed_ne_nil h ((cstr_headD u).1 e)

theorem contains_zero_iff (s : Bytes) : s.contains 0 = false ↔ ∀ c ∈ s, c ≠ 0 := by
  rw [← Bool.not_eq_true, List.contains_iff_mem]
  exact ⟨fun h c hc e => h (e ▸ hc), fun h hm => h 0 hm rfl⟩

theorem cstr_copy_of_wf {s : Bytes} (h : WellFormed (cstr s)) : cstr (copyInto IDSZ s) = cstr s := by
  rw [cstr_copyInto, List.take_of_length_le]
  have := h.2.1; rw [consts.2.1]; omega

theorem wf_copy_iff (s : Bytes) : WellFormed (cstr (copyInto IDSZ s)) ↔ WellFormed (cstr s) := by
  constructor
  · intro h
    rw [cstr_copyInto] at h
    have hl := h.2.1
    rw [List.length_take, consts.2.1] at hl
    have h13 : (cstr s).length ≤ IDSZ := by rw [consts.2.1]; omega
    rwa [List.take_of_length_le h13] at h
  · intro h; rw [cstr_copy_of_wf h]; exact h

theorem copy_of_wf {id : Bytes} (hw : WellFormed (cstr id)) :
    isValidId (copyInto IDSZ id) = true ∧ (copyInto IDSZ id).headD 0 ≠ 0 ∧ foldId (copyInto IDSZ id) = foldId id :=
  have hc := (wf_copy_iff id).2 hw
  ⟨(isValidId_iff _).2 hc, wellFormed_headD hc, by rw [foldId, cstr_copy_of_wf hw, foldId]⟩

theorem copy_invalid {id : Bytes} (hw : ¬ WellFormed (cstr id)) : isValidId (copyInto IDSZ id) = false :=
  Bool.eq_false_iff.2 fun h => hw ((wf_copy_iff id).1 ((isValidId_iff _).1 h))

theorem copy_of_wf_submitted {id : Bytes} (hw : WellFormed id) :
    isValidId (copyInto IDSZ id) = true ∧ (copyInto IDSZ id).headD 0 ≠ 0 ∧
      foldId (copyInto IDSZ id) = id.map tolower ∧ cstr (copyInto IDSZ id) = id := by
  have hc : cstr id = id := cstr_of_nonzero id (wellFormed_no_zero hw)
  have hw' : WellFormed (cstr id) := by rw [hc]; exact hw
  obtain ⟨hv, hh, hf⟩ := copy_of_wf hw'
  exact ⟨hv, hh, by rw [hf, foldId, hc], by rw [cstr_copy_of_wf hw', hc]⟩

theorem toUUserID_valid {u : Bytes} (h : isValidId u = true) : toUUserID u = cstr u := by
  unfold toUUserID; rw [if_pos h]

theorem isBadUserID_iff (u : Bytes) :
    isBadUserID u = false ↔ (WellFormed (cstr u) ∧ foldId u ≠ foldId STR_REGNEW ∧ foldId u ≠ foldId STR_GUEST) := by
  have hg : STR_GUEST ≠ [] := by decide
  -- the three tests of `isBadUserID` translated; the remaining names are the Boolean plumbing of the nested `if`s
  simp only [isBadUserID, isValidId_iff, cstrcasecmp_zero_iff, hg, Bool.not_eq_eq_eq_not, Bool.not_true, ne_eq,
    not_false_eq_true, true_and, Bool.if_false_right, Bool.and_true, Bool.if_true_left, Bool.decide_eq_false,
    Bool.or_eq_false_iff, Bool.not_false, decide_eq_false_iff_not]

theorem isReservedUserID_iff (rs : List Bytes) (u : Bytes) :
    isReservedUserID rs u = true ↔ ∃ r ∈ rs, foldId u = foldId r := by
  simp [isReservedUserID, cstrcasecmp_zero_iff]

theorem foldId_consts : foldId STR_REGNEW = STR_REGNEW.map tolower ∧ foldId STR_GUEST = STR_GUEST.map tolower := by decide

/-- the three gates of a registration (NUL test of the wrapper, isBadUserID, isReservedUserID) pass exactly for
the submitted strings that are well-formed and not reserved. -/
theorem gate_iff (rs : List Bytes) (name : Bytes) :
    (name.contains 0 = false ∧ isBadUserID (copyInto IDSZ name) = false ∧ isReservedUserID rs (copyInto IDSZ name) = false) ↔
      (WellFormed name ∧ ¬ Reserved rs name) := by
  constructor
  · rintro ⟨hz, hb, hr⟩
    obtain ⟨hw, h1, h2⟩ := (isBadUserID_iff _).1 hb
    have hc : cstr name = name := cstr_of_nonzero name ((contains_zero_iff name).1 hz)
    have hw' : WellFormed name := hc ▸ (wf_copy_iff name).1 hw
    obtain ⟨_, _, hf, _⟩ := copy_of_wf_submitted hw'
    rw [hf, foldId_consts.1] at h1
    rw [hf, foldId_consts.2] at h2
    refine ⟨hw', ?_⟩
    rintro (h | h | ⟨r, hr1, hr2⟩)
    · exact h1 h
    · exact h2 h
    · rw [(isReservedUserID_iff rs _).2 ⟨r, hr1, hf.trans hr2⟩] at hr
      cases hr
  · rintro ⟨hw, hres⟩
    obtain ⟨hv, _, hf, _⟩ := copy_of_wf_submitted hw
    refine ⟨(contains_zero_iff name).2 (wellFormed_no_zero hw),
      (isBadUserID_iff _).2 ⟨(isValidId_iff _).1 hv, ?_, ?_⟩, Bool.eq_false_iff.2 fun hr => ?_⟩
    · rw [hf, foldId_consts.1]; exact fun h => hres (Or.inl h)
    · rw [hf, foldId_consts.2]; exact fun h => hres (Or.inr (Or.inl h))
    · obtain ⟨r, hr1, hr2⟩ := (isReservedUserID_iff rs _).1 hr
      exact hres (Or.inr (Or.inr ⟨r, hr1, hf.symm.trans hr2⟩))

/-! ### the index search -/

section

variable {C : Crypto}

/-- a slot is in use when its id is not the empty C string. -/
def inUse (r : Rec C) : Prop := r.id.headD 0 ≠ 0

theorem inUse_iff_fold (r : Rec C) : inUse r ↔ foldId r.id ≠ [] := by
  unfold inUse; rw [Ne, Ne, foldId_nil_iff]

theorem searchFrom_zero (rs : List (Rec C)) (q : Bytes) (i : Nat) :
    searchFrom rs q i = 0 ↔ ∀ r ∈ rs, foldId q ≠ foldId r.id := by
  fun_induction searchFrom rs q i with
  | case1 => simp
  | case2 x xs q i h =>
    rw [cstrcasecmp_zero_iff] at h
    simp [h]
  | case3 x xs q i h ih =>
    rw [cstrcasecmp_zero_iff] at h
    rw [ih, List.forall_mem_cons]
    exact (and_iff_right h).symm

theorem searchFrom_pos (rs : List (Rec C)) (q : Bytes) (i : Nat) (h : searchFrom rs q i ≠ 0) :
    ∃ (k : Nat) (r : Rec C), searchFrom rs q i = i + k + 1 ∧ rs[k]? = some r ∧ foldId q = foldId r.id ∧
      ∀ r' ∈ rs.take k, foldId q ≠ foldId r'.id := by
  fun_induction searchFrom rs q i with
  | case1 => exact absurd rfl h
  | case2 x xs q i hc => exact ⟨0, x, rfl, rfl, (cstrcasecmp_zero_iff _ _).1 hc, nofun⟩
  | case3 x xs q i hc ih =>
    obtain ⟨k, r, h1, h2, h3, h4⟩ := ih h
    rw [cstrcasecmp_zero_iff] at hc
    exact ⟨k + 1, r, by omega, by simpa using h2, h3, List.forall_mem_cons.2 ⟨hc, h4⟩⟩

theorem searchFrom_set_new (rs : List (Rec C)) (i k : Nat) (e n : Rec C) (q : Bytes)
    (h0 : searchFrom rs q k = 0) (hi : rs[i]? = some e) (hq : foldId q = foldId n.id) :
    searchFrom (rs.set i n) q k = k + i + 1 := by
  fun_induction searchFrom rs q k generalizing i with
  | case1 => simp at hi
  | case2 x xs q k hx => omega
  | case3 x xs q k hx ih =>
    cases i with
    | zero => simp only [List.set_cons_zero]; unfold searchFrom; rw [if_pos ((cstrcasecmp_zero_iff _ _).2 hq)]
    | succ i =>
      simp only [List.set_cons_succ]
      unfold searchFrom
      rw [if_neg hx, ih i h0 (by simpa using hi) hq]; omega

/-! ### free slots, and overwriting one element of a list -/

def isFree (r : Rec C) : Bool := r.id.headD 0 == 0

theorem isFree_iff (r : Rec C) : isFree r = true ↔ ¬ inUse r := by simp [isFree, inUse]

theorem searchFrom_emptyId (rs : List (Rec C)) (n i : Nat) :
    searchFrom rs (List.replicate n 0) i = 0 ↔ rs.countP isFree = 0 := by
  rw [searchFrom_zero, List.countP_eq_zero, foldId_zeros]
  refine forall₂_congr fun r _ => ?_
  rw [isFree_iff, Classical.not_not, inUse_iff_fold]
  exact ne_comm

/-- `List.countP_set` without the subtraction. -/
theorem countP_set_add {α} (p : α → Bool) (l : List α) (i : Nat) (x y : α) (hx : l[i]? = some x) :
    (l.set i y).countP p + (if p x then 1 else 0) = l.countP p + (if p y then 1 else 0) := by
  obtain ⟨hlt, rfl⟩ := List.getElem?_eq_some_iff.1 hx
  have := List.boole_getElem_le_countP (p := p) hlt
  rw [List.countP_set hlt]
  omega

theorem set_cases {α} (l : List α) (i : Nat) (y : α) (j : Nat) (z : α) (h : (l.set i y)[j]? = some z) :
    (j = i ∧ z = y) ∨ (j ≠ i ∧ l[j]? = some z) := by
  by_cases e : i = j
  · subst e
    rw [List.getElem?_set_self'] at h
    cases hl : l[i]? with
    | none => rw [hl] at h; simp at h
    | some x => rw [hl] at h; simp at h; exact Or.inl ⟨rfl, h.symm⟩
  · rw [List.getElem?_set_ne e] at h
    exact Or.inr ⟨fun x => e x.symm, h⟩

theorem set_self {α} (l : List α) (i : Nat) (x y : α) (hx : l[i]? = some x) : (l.set i y)[i]? = some y := by
  rw [List.getElem?_set_self ((List.getElem?_eq_some_iff.1 hx).1)]

/-! ### the shape of the operations -/

theorem uidValid_succ (i : Nat) : uidValid (i + 1) = true ↔ i < MAX := by
  simp [uidValid]; omega

theorem uidValid_pos {u : Nat} (h : uidValid u = true) : 1 ≤ u := by
  simp [uidValid] at h; exact h.1

theorem uidValid_zero : uidValid 0 = false := by decide

theorem recOf_succ (s : State C) (i : Nat) : recOf s (i + 1) = s.recs[i]? := by simp [recOf]

theorem setRec_recs (s : State C) (i : Nat) (r : Rec C) : (setRec s (i + 1) r).recs = s.recs.set i r := by
  simp [setRec]

/-- The front that login, password check, password change and e-mail change share: `copy` into the 13-byte array,
then four tests — `IsValid`, the empty id, `UID.IsValid` of what the index lookup gives, the read of the record —
refused with `a₁ … a₄` in this order; `k` is what the operation does with the uid and its record. -/
def withUser (s : State C) (id : Bytes) (a₁ a₂ a₃ a₄ : Ans) (k : Nat → Rec C → State C × Ans) : State C × Ans :=
  if !isValidId (copyInto IDSZ id) then (s, a₁) else
  if (copyInto IDSZ id).headD 0 = 0 then (s, a₂) else
  if !uidValid (searchUserRaw s (copyInto IDSZ id)) then (s, a₃) else
  match recOf s (searchUserRaw s (copyInto IDSZ id)) with
  | none => (s, a₄)
  | some user => k (searchUserRaw s (copyInto IDSZ id)) user

/-- the common end of `Login` and `NewRegister`: `userLogin`, then the answer. -/
def loginAs (s : State C) (uid rest : Nat) (user : Rec C) : State C × Ans :=
  if (userLogin s uid rest).2 ≠ .none then ((userLogin s uid rest).1, ⟨(userLogin s uid rest).2, [[]]⟩)
  else ((userLogin s uid rest).1, ⟨.none, [toUUserID user.id]⟩)

/-- `NewRegister` behind its gates: `SetupNewUser`, the lookup of `InitCurrentUser`, `userLogin`. -/
def registerNew (s : State C) (n : Rec C) (rest : Nat) : State C × Ans :=
  let (s1, e1) := setupNewUser s n
  if e1 ≠ .none then (s1, ⟨e1, [[]]⟩) else
  if !uidValid (searchUserRaw s1 n.id) then (s1, ⟨.invalidUserID, [[]]⟩) else
  match recOf s1 (searchUserRaw s1 n.id) with
  | none => (s1, ⟨.io, [[]]⟩)
  | some user => loginAs s1 (searchUserRaw s1 n.id) rest user

theorem login_eq (s : State C) (id pw : Bytes) (rest : Nat) :
    login s id pw rest =
      withUser s id ⟨.invalidUserID, [[]]⟩ ⟨.invalidUserID, [[]]⟩ ⟨.invalidUserID, [[]]⟩ ⟨.io, [[]]⟩ fun uid user =>
        if cstrcmp user.id STR_GUEST ≠ 0 ∧ !C.check user.hash pw then (s, ⟨.invalidUserID, [[]]⟩)
        else loginAs s uid rest user := rfl

theorem checkPasswd_eq (s : State C) (id pw : Bytes) :
    checkPasswd s id pw =
      withUser s id ⟨.invalidParams, []⟩ ⟨.invalidUserID, []⟩ ⟨.invalidUserID, []⟩ ⟨.io, []⟩ fun _ user =>
        if !C.check user.hash pw then (s, ⟨.invalidUserID, []⟩) else (s, ⟨.none, []⟩) := rfl

theorem changePasswd_eq (s : State C) (id old new : Bytes) (salt : Nat) :
    changePasswd s id old new salt =
      withUser s id ⟨.invalidUUserID, []⟩ ⟨.invalidUserID, []⟩ ⟨.invalidUserID, []⟩ ⟨.io, []⟩ fun uid user =>
        if !C.check user.hash old then (s, ⟨.invalidUserID, []⟩)
        else (setRec s uid { user with hash := genPasswd C salt new }, ⟨.none, []⟩) := rfl

theorem changeEmail_eq (s : State C) (id email : Bytes) :
    changeEmail s id email =
      withUser s id ⟨.invalidUUserID, []⟩ ⟨.invalidUserID, []⟩ ⟨.invalidUID, []⟩ ⟨.io, []⟩ fun uid user =>
        (setRec s uid { user with email := copyInto EMAILSZ email }, ⟨.none, []⟩) := rfl

/-- `CheckExistsUser` makes the first and the third test only: a valid id is not empty, and whether the record can be
read does not change its answer. -/
theorem checkExists_eq (s : State C) (id : Bytes) :
    checkExists s id =
      withUser s id ⟨.invalidParams, [[]]⟩ ⟨.invalidParams, [[]]⟩ ⟨.none, [[]]⟩ ⟨.none, [id]⟩ fun _ _ =>
        (s, ⟨.none, [id]⟩) := by
  unfold checkExists withUser
  simp only []
  cases hv : isValidId (copyInto IDSZ id) with
  | false => rfl
  | true =>
    rw [if_neg (wellFormed_headD ((isValidId_iff _).1 hv))]
    cases recOf s (searchUserRaw s (copyInto IDSZ id)) with
    | none => rfl
    | some u => rfl

theorem register_eq (rs : List Bytes) (s : State C) (id pw email : Bytes) (salt rest : Nat) :
    register rs s id pw email salt rest =
      if id.contains 0 then (s, ⟨.invalidUserID, [[]]⟩) else
      if isBadUserID (copyInto IDSZ id) then (s, ⟨.invalidUserID, [[]]⟩) else
      if isReservedUserID rs (copyInto IDSZ id) then (s, ⟨.invalidUserID, [[]]⟩) else
      registerNew s ⟨copyInto IDSZ id, genPasswd C salt pw, copyInto EMAILSZ email, rest⟩ rest := rfl

/-- stated for anything equal to a `withUser` term, so that it applies through the equations `login_eq` …
`changeEmail_eq`. -/
theorem withUser_cases {s : State C} {id : Bytes} {a₁ a₂ a₃ a₄ : Ans} {k : Nat → Rec C → State C × Ans}
    {x : State C × Ans} (hx : x = withUser s id a₁ a₂ a₃ a₄ k) :
    (∃ a, x = (s, a)) ∨
    ∃ user, uidValid (searchUserRaw s (copyInto IDSZ id)) = true ∧
      recOf s (searchUserRaw s (copyInto IDSZ id)) = some user ∧ x = k (searchUserRaw s (copyInto IDSZ id)) user := by
  rw [hx]
  unfold withUser
  by_cases h1 : (!isValidId (copyInto IDSZ id)) = true
  · rw [if_pos h1]; exact .inl ⟨_, rfl⟩
  · by_cases h2 : (copyInto IDSZ id).headD 0 = 0
    · rw [if_neg h1, if_pos h2]; exact .inl ⟨_, rfl⟩
    · by_cases h3 : (!uidValid (searchUserRaw s (copyInto IDSZ id))) = true
      · rw [if_neg h1, if_neg h2, if_pos h3]; exact .inl ⟨_, rfl⟩
      · rw [if_neg h1, if_neg h2, if_neg h3]
        cases recOf s (searchUserRaw s (copyInto IDSZ id)) with
        | none => exact .inl ⟨_, rfl⟩
        | some user => exact .inr ⟨user, by simpa using h3, rfl, rfl⟩

theorem userLogin_cases (s : State C) (uid rest : Nat) :
    userLogin s uid rest = (s, .newUtmp) ∨
    (∃ sess', userLogin s uid rest = ({ s with sess := sess' }, .io)) ∨
    ∃ sess' u, recOf s uid = some u ∧
      userLogin s uid rest = (setRec { s with sess := sess' } uid { u with rest := rest }, .none) := by
  unfold userLogin
  cases utmpEnter s.sess uid with
  | none => exact .inl rfl
  | some sess' =>
    cases recOf s uid with
    | none => exact .inr (.inl ⟨sess', rfl⟩)
    | some u => exact .inr (.inr ⟨sess', u, rfl, rfl⟩)

theorem loginAs_recs (s : State C) (uid rest : Nat) (user : Rec C) :
    (loginAs s uid rest user).1.recs = s.recs ∨
    ∃ u, recOf s uid = some u ∧ (loginAs s uid rest user).1.recs = s.recs.set (uid - 1) { u with rest := rest } := by
  unfold loginAs
  rcases userLogin_cases s uid rest with e | ⟨_, e⟩ | ⟨_, u, hu, e⟩
  · rw [e]; exact .inl rfl
  · rw [e]; exact .inl rfl
  · rw [e]; exact .inr ⟨u, hu, rfl⟩

theorem loginAs_refused (s : State C) (uid rest : Nat) (user : Rec C) (h1 : (loginAs s uid rest user).2.err ≠ .none)
    (h2 : (loginAs s uid rest user).2.err ≠ .io) : loginAs s uid rest user = (s, ⟨.newUtmp, [[]]⟩) := by
  unfold loginAs at h1 h2 ⊢
  rcases userLogin_cases s uid rest with e | ⟨_, e⟩ | ⟨_, _, _, e⟩
  · rw [e]; rfl
  · rw [e] at h2; exact absurd rfl h2
  · rw [e] at h1; exact absurd rfl h1

/-- the uid `SetupNewUser` takes for a new account: the head of the empty-id chain, 0 when no slot is free. -/
abbrev freeUid (s : State C) : Nat := doSearchUserRaw s (List.replicate IDSZ 0)

theorem setupNewUser_exists (s : State C) {n : Rec C} (h : doSearchUserRaw s n.id ≠ 0) :
    setupNewUser s n = (s, .userExists) := by
  unfold setupNewUser
  rw [if_pos h]

theorem setupNewUser_full (s : State C) {n : Rec C} (hz : doSearchUserRaw s n.id = 0)
    (hv : uidValid (freeUid s) = false) : setupNewUser s n = (s, .invalidUID) := by
  unfold setupNewUser
  simp [hz, hv]

theorem setupNewUser_ok (s : State C) {n : Rec C} (hz : doSearchUserRaw s n.id = 0)
    (hv : uidValid (freeUid s) = true) : setupNewUser s n = (setRec s (freeUid s) n, .none) := by
  unfold setupNewUser
  simp [hz, hv]

theorem freeUid_slot {s : State C} (h : freeUid s ≠ 0) :
    ∃ (k : Nat) (r : Rec C), freeUid s = k + 1 ∧ s.recs[k]? = some r ∧ ¬ inUse r := by
  obtain ⟨k, r, e1, e2, e3, _⟩ := searchFrom_pos _ _ _ h
  rw [foldId_zeros] at e3
  exact ⟨k, r, by unfold freeUid doSearchUserRaw; omega, e2, by rw [inUse_iff_fold]; exact fun x => x e3.symm⟩

theorem search_after_setup (s : State C) (n : Rec C) (hh : n.id.headD 0 ≠ 0) (hz : doSearchUserRaw s n.id = 0)
    (hv : uidValid (freeUid s) = true) :
    searchUserRaw (setRec s (freeUid s) n) n.id = freeUid s ∧ recOf (setRec s (freeUid s) n) (freeUid s) = some n := by
  obtain ⟨k, r, hu, e2, _⟩ := freeUid_slot (Nat.ne_of_gt (uidValid_pos hv))
  rw [hu]
  constructor
  · unfold searchUserRaw doSearchUserRaw
    rw [if_neg hh, setRec_recs]
    have := searchFrom_set_new s.recs k 0 r n n.id (by unfold doSearchUserRaw at hz; exact hz) e2 rfl
    rw [this]; omega
  · rw [recOf_succ, setRec_recs]; exact set_self _ _ _ _ e2

theorem registerNew_refused {s : State C} {n : Rec C} {rest : Nat} {e : Err} (hs : setupNewUser s n = (s, e))
    (he : e ≠ .none) : registerNew s n rest = (s, ⟨e, [[]]⟩) := by
  unfold registerNew
  rw [hs]
  exact if_pos he

theorem registerNew_ok (s : State C) (n : Rec C) (rest : Nat) (hh : n.id.headD 0 ≠ 0)
    (hz : doSearchUserRaw s n.id = 0) (hv : uidValid (freeUid s) = true) :
    registerNew s n rest = loginAs (setRec s (freeUid s) n) (freeUid s) rest n := by
  obtain ⟨k1, k2⟩ := search_after_setup s n hh hz hv
  unfold registerNew
  rw [setupNewUser_ok s hz hv]
  simp only [k1, k2, hv, ne_eq, not_true_eq_false, if_false, Bool.not_true, Bool.false_eq_true]

theorem registerNew_cases (s : State C) (n : Rec C) (rest : Nat) (hh : n.id.headD 0 ≠ 0) :
    (∃ a, registerNew s n rest = (s, a)) ∨
    (uidValid (freeUid s) = true ∧
      registerNew s n rest = loginAs (setRec s (freeUid s) n) (freeUid s) rest n) := by
  by_cases hz : doSearchUserRaw s n.id = 0
  · cases hv : uidValid (freeUid s) with
    | true => exact .inr ⟨rfl, registerNew_ok s n rest hh hz hv⟩
    | false => exact .inl ⟨_, registerNew_refused (setupNewUser_full s hz hv) nofun⟩
  · exact .inl ⟨_, registerNew_refused (setupNewUser_exists s hz) nofun⟩

theorem register_refused (rs : List Bytes) (s : State C) (id pw email : Bytes) (salt rest : Nat)
    (hg : ¬ (WellFormed id ∧ ¬ Reserved rs id)) :
    register rs s id pw email salt rest = (s, ⟨.invalidUserID, [[]]⟩) := by
  rw [register_eq]
  cases h1 : id.contains 0 with
  | true => rfl
  | false =>
    cases h2 : isBadUserID (copyInto IDSZ id) with
    | true => rfl
    | false =>
      cases h3 : isReservedUserID rs (copyInto IDSZ id) with
      | true => rfl
      | false => exact absurd ((gate_iff rs id).1 ⟨h1, h2, h3⟩) hg

theorem register_passed (rs : List Bytes) (s : State C) (id pw email : Bytes) (salt rest : Nat)
    (hw : WellFormed id) (hres : ¬ Reserved rs id) :
    register rs s id pw email salt rest =
      registerNew s ⟨copyInto IDSZ id, genPasswd C salt pw, copyInto EMAILSZ email, rest⟩ rest := by
  obtain ⟨g1, g2, g3⟩ := (gate_iff rs id).2 ⟨hw, hres⟩
  rw [register_eq, g1, g2, g3]
  rfl

theorem register_cases (rs : List Bytes) (s : State C) (id pw email : Bytes) (salt rest : Nat) :
    (register rs s id pw email salt rest).1 = s ∨
    ∃ n : Rec C, uidValid (freeUid s) = true ∧
      register rs s id pw email salt rest = loginAs (setRec s (freeUid s) n) (freeUid s) rest n := by
  by_cases hg : WellFormed id ∧ ¬ Reserved rs id
  · rw [register_passed rs s id pw email salt rest hg.1 hg.2]
    rcases registerNew_cases s ⟨copyInto IDSZ id, genPasswd C salt pw, copyInto EMAILSZ email, rest⟩ rest
      (copy_of_wf_submitted hg.1).2.1 with ⟨a, e⟩ | ⟨hv, e⟩
    · rw [e]; exact .inl rfl
    · exact .inr ⟨_, hv, e⟩
  · rw [register_refused rs s id pw email salt rest hg]
    exact .inl rfl

theorem login_cases (s : State C) (id pw : Bytes) (rest : Nat) :
    (login s id pw rest).1 = s ∨
    ∃ user, uidValid (searchUserRaw s (copyInto IDSZ id)) = true ∧
      login s id pw rest = loginAs s (searchUserRaw s (copyInto IDSZ id)) rest user := by
  rcases withUser_cases (login_eq s id pw rest) with ⟨a, e⟩ | ⟨user, hv, _, e⟩
  · rw [e]; exact .inl rfl
  · rw [e]
    split
    · exact .inl rfl
    · exact .inr ⟨user, hv, rfl⟩

theorem checkPasswd_state (s : State C) (id pw : Bytes) : (checkPasswd s id pw).1 = s := by
  rcases withUser_cases (checkPasswd_eq s id pw) with ⟨a, e⟩ | ⟨user, _, _, e⟩
  · rw [e]
  · rw [e]; split <;> rfl

theorem changePasswd_cases (s : State C) (id old new : Bytes) (salt : Nat) :
    (changePasswd s id old new salt).1 = s ∨
    ∃ user, uidValid (searchUserRaw s (copyInto IDSZ id)) = true ∧
      recOf s (searchUserRaw s (copyInto IDSZ id)) = some user ∧
      changePasswd s id old new salt =
        (setRec s (searchUserRaw s (copyInto IDSZ id)) { user with hash := genPasswd C salt new }, ⟨.none, []⟩) := by
  rcases withUser_cases (changePasswd_eq s id old new salt) with ⟨a, e⟩ | ⟨user, hv, hr, e⟩
  · rw [e]; exact .inl rfl
  · rw [e]
    split
    · exact .inl rfl
    · exact .inr ⟨user, hv, hr, rfl⟩

theorem changeEmail_cases (s : State C) (id email : Bytes) :
    (changeEmail s id email).1 = s ∨
    ∃ user, uidValid (searchUserRaw s (copyInto IDSZ id)) = true ∧
      recOf s (searchUserRaw s (copyInto IDSZ id)) = some user ∧
      changeEmail s id email =
        (setRec s (searchUserRaw s (copyInto IDSZ id)) { user with email := copyInto EMAILSZ email }, ⟨.none, []⟩) := by
  rcases withUser_cases (changeEmail_eq s id email) with ⟨a, e⟩ | ⟨user, hv, hr, e⟩
  · rw [e]; exact .inl rfl
  · exact .inr ⟨user, hv, hr, e⟩

theorem checkExists_state (s : State C) (id : Bytes) : (checkExists s id).1 = s := by
  rcases withUser_cases (checkExists_eq s id) with ⟨a, e⟩ | ⟨user, _, _, e⟩
  · rw [e]
  · rw [e]

theorem getUser_state (s : State C) (id : Bytes) : (getUser s id).1 = s := by
  unfold getUser
  simp only []
  split
  · rfl
  · split <;> rfl

/-! ### frame: which record an operation may touch -/

/-- the uid of the one record the operation may write: the first free slot for a registration, the slot the index
resolves the submitted id to for everything else. -/
def target (s : State C) : Op → Nat
  | .register .. => doSearchUserRaw s (List.replicate IDSZ 0)
  | .login id .. => searchUserRaw s (copyInto IDSZ id)
  | .checkPasswd id _ => searchUserRaw s (copyInto IDSZ id)
  | .changePasswd id .. => searchUserRaw s (copyInto IDSZ id)
  | .changeEmail id _ => searchUserRaw s (copyInto IDSZ id)
  | .exists_ id => searchUserRaw s (copyInto IDSZ id)
  | .getUser id => searchUserRaw s (copyInto IDSZ id)

theorem refused_noop (rs : List Bytes) (s : State C) (op : Op) (h1 : (step rs s op).2.err ≠ .none)
    (h2 : (step rs s op).2.err ≠ .io)
    (h3 : ∀ id pw em sa re, op = .register id pw em sa re → (step rs s op).2.err ≠ .newUtmp) :
    (step rs s op).1 = s := by
  cases op with
  | register id pw email salt rest =>
    have h3' := h3 id pw email salt rest rfl
    simp only [step] at h1 h2 h3' ⊢
    rcases register_cases rs s id pw email salt rest with e | ⟨n, _, e⟩
    · exact e
    · rw [e] at h1 h2 h3'
      rw [loginAs_refused _ _ _ _ h1 h2] at h3'
      exact absurd rfl h3'
  | login id pw rest =>
    simp only [step] at h1 h2 ⊢
    rcases login_cases s id pw rest with e | ⟨user, _, e⟩
    · exact e
    · rw [e] at h1 h2 ⊢
      rw [loginAs_refused _ _ _ _ h1 h2]
  | checkPasswd id pw => exact checkPasswd_state s id pw
  | changePasswd id old new salt =>
    simp only [step] at h1 ⊢
    rcases changePasswd_cases s id old new salt with e | ⟨user, _, _, e⟩
    · exact e
    · rw [e] at h1; exact absurd rfl h1
  | changeEmail id email =>
    simp only [step] at h1 ⊢
    rcases changeEmail_cases s id email with e | ⟨user, _, _, e⟩
    · exact e
    · rw [e] at h1; exact absurd rfl h1
  | exists_ id => exact checkExists_state s id
  | getUser id => exact getUser_state s id

/-- which fields of a record an operation leaves alone (registration writes a whole new record). -/
def Kept : Op → Rec C → Rec C → Prop
  | .register .., _, _ => True
  | .login .., r, r' => r'.id = r.id ∧ r'.hash = r.hash ∧ r'.email = r.email
  | .changePasswd .., r, r' => r'.id = r.id ∧ r'.email = r.email ∧ r'.rest = r.rest
  | .changeEmail .., r, r' => r'.id = r.id ∧ r'.hash = r.hash ∧ r'.rest = r.rest
  | _, r, r' => r' = r

theorem kept_refl (op : Op) (r : Rec C) : Kept op r r := by
  cases op with
  | register => trivial
  | login => exact ⟨rfl, rfl, rfl⟩
  | changePasswd => exact ⟨rfl, rfl, rfl⟩
  | changeEmail => exact ⟨rfl, rfl, rfl⟩
  | checkPasswd => rfl
  | exists_ => rfl
  | getUser => rfl

theorem step_touch (rs : List Bytes) (s : State C) (op : Op) :
    (step rs s op).1.recs = s.recs ∨
    ∃ user r', 1 ≤ target s op ∧ recOf s (target s op) = some user ∧ Kept op user r' ∧
      (step rs s op).1.recs = s.recs.set (target s op - 1) r' := by
  cases op with
  | register id pw email salt rest =>
    simp only [step, target]
    rcases register_cases rs s id pw email salt rest with e | ⟨n, hv, e⟩
    · exact .inl (by rw [e])
    · obtain ⟨k, e0, hk, he0, _⟩ := freeUid_slot (Nat.ne_of_gt (uidValid_pos hv))
      have hslot : recOf s (freeUid s) = some e0 := by rw [hk]; exact he0
      rw [e]
      refine .inr ⟨e0, ?_⟩
      -- the new record, with or without the bytes `userLogin` rewrites
      rcases loginAs_recs (setRec s (freeUid s) n) (freeUid s) rest n with e' | ⟨u, _, e'⟩
      · exact ⟨n, uidValid_pos hv, hslot, trivial, e'⟩
      · exact ⟨_, uidValid_pos hv, hslot, trivial, e'.trans (List.set_set ..)⟩
  | login id pw rest =>
    simp only [step, target]
    rcases login_cases s id pw rest with e | ⟨user, hv, e⟩
    · exact .inl (by rw [e])
    · rw [e]
      rcases loginAs_recs s (searchUserRaw s (copyInto IDSZ id)) rest user with e' | ⟨u, hu, e'⟩
      · exact .inl e'
      · exact .inr ⟨u, { u with rest := rest }, uidValid_pos hv, hu, ⟨rfl, rfl, rfl⟩, e'⟩
  | checkPasswd id pw => exact .inl (by simp only [step]; rw [checkPasswd_state])
  | changePasswd id old new salt =>
    simp only [step, target]
    rcases changePasswd_cases s id old new salt with e | ⟨user, hv, hq, e⟩
    · exact .inl (by rw [e])
    · rw [e]
      exact .inr ⟨user, { user with hash := genPasswd C salt new }, uidValid_pos hv, hq, ⟨rfl, rfl, rfl⟩, rfl⟩
  | changeEmail id email =>
    simp only [step, target]
    rcases changeEmail_cases s id email with e | ⟨user, hv, hq, e⟩
    · exact .inl (by rw [e])
    · rw [e]
      exact .inr ⟨user, { user with email := copyInto EMAILSZ email }, uidValid_pos hv, hq, ⟨rfl, rfl, rfl⟩, rfl⟩
  | exists_ id => exact .inl (by simp only [step]; rw [checkExists_state])
  | getUser id => exact .inl (by simp only [step]; rw [getUser_state])

theorem frame_all (rs : List Bytes) (s : State C) (op : Op) (j : Nat) (h : j + 1 ≠ target s op) :
    (step rs s op).1.recs[j]? = s.recs[j]? := by
  rcases step_touch rs s op with e | ⟨_, _, h1, _, _, e⟩
  · rw [e]
  · rw [e]; exact List.getElem?_set_ne (by omega)

theorem kept_all (rs : List Bytes) (s : State C) (op : Op) (j : Nat) (r r1 : Rec C) (hr : s.recs[j]? = some r)
    (h1 : (step rs s op).1.recs[j]? = some r1) : Kept op r r1 := by
  rcases step_touch rs s op with e | ⟨user, r', _, hu, hk, e⟩
  · rw [e, hr] at h1
    rw [← Option.some.inj h1]
    exact kept_refl op r
  · rw [e] at h1
    rcases set_cases _ _ _ _ _ h1 with ⟨ej, e2⟩ | ⟨_, e2⟩
    · unfold recOf at hu
      rw [← ej, hr] at hu
      rw [e2, Option.some.inj hu]
      exact hk
    · rw [hr] at e2
      rw [← Option.some.inj e2]
      exact kept_refl op r

/-! ### read-only requests -/

/-- password checks and lookups: the requests that only read. -/
def Pure : Op → Prop
  | .checkPasswd .. => True
  | .exists_ _ => True
  | .getUser _ => True
  | _ => False

theorem pure_state (rs : List Bytes) (s : State C) (o : Op) (h : Pure o) : (step rs s o).1 = s := by
  cases o with
  | checkPasswd id pw => exact checkPasswd_state s id pw
  | exists_ id => exact checkExists_state s id
  | getUser id => exact getUser_state s id
  | register => cases h
  | login => cases h
  | changePasswd => cases h
  | changeEmail => cases h

theorem pure_run (rs : List Bytes) (s : State C) (ops : List Op) (h : ∀ o ∈ ops, Pure o) :
    run rs s ops = s ∧ outputs rs s ops = ops.map (fun o => (step rs s o).2) := by
  induction ops with
  | nil => exact ⟨rfl, rfl⟩
  | cons o os ih =>
    have h1 := pure_state rs s o (h o (by simp))
    have ih' := ih (fun o' ho' => h o' (by simp [ho']))
    unfold run outputs
    rw [h1]
    exact ⟨ih'.1, by rw [ih'.2]; rfl⟩

/-! ### the refinement relation -/

/-- the stored hash behaves, on the passwords of the universe `pws`, like the account's password says. -/
def HashRel (C : Crypto) (pws : List Bytes) (h : C.H) (pw : Option Bytes) : Prop :=
  ∀ q ∈ pws, C.check h q = decide (pw = some (effKey8 q))

/-- the key of the account that holds uid. -/
def keyOf (s : State C) (uid : Nat) : Bytes :=
  match recOf s uid with
  | some r => foldId r.id
  | none => []

/-- state `s` represents table `t` (read out in the head of `Props/C03.lean`).  `len`: the file has MAX_USERS records,
so a uid that resolves is valid; `uniq` asks `inUse` of `ri` only: a slot with the key of a slot in use is in use;
`sess_ok`: without it a key in `sess_eq` could be the `[]` of `keyOf`. -/
structure R (C : Crypto) (pws : List Bytes) (s : State C) (t : Table) : Prop where
  len : s.recs.length = MAX
  valid : ∀ (i : Nat) (r : Rec C), s.recs[i]? = some r → inUse r → isValidId r.id = true
  uniq : ∀ (i j : Nat) (ri rj : Rec C), s.recs[i]? = some ri → s.recs[j]? = some rj → inUse ri →
    foldId ri.id = foldId rj.id → i = j
  sound : ∀ (i : Nat) (r : Rec C), s.recs[i]? = some r → inUse r →
    ∃ a, t.acc (foldId r.id) = some a ∧ a.id = cstr r.id ∧ a.email = r.email ∧ HashRel C pws r.hash a.pw
  complete : ∀ k a, t.acc k = some a → ∃ (i : Nat) (r : Rec C), s.recs[i]? = some r ∧ inUse r ∧ foldId r.id = k
  free : t.free = s.recs.countP isFree
  sess_eq : t.sess = s.sess.map (keyOf s)
  sess_ok : ∀ uid ∈ s.sess, 1 ≤ uid ∧ ∃ r, recOf s uid = some r ∧ inUse r

variable {pws : List Bytes} {s : State C} {t : Table}

theorem R.lt_max (h : R C pws s t) {k : Nat} {r : Rec C} (hk : s.recs[k]? = some r) : k < MAX :=
  h.len ▸ (List.getElem?_eq_some_iff.1 hk).1

theorem R.lookup_missing (h : R C pws s t) (q : Bytes) (hq : t.acc (foldId q) = none) : searchUserRaw s q = 0 := by
  unfold searchUserRaw
  by_cases h0 : q.headD 0 = 0
  · rw [if_pos h0]
  · rw [if_neg h0]
    unfold doSearchUserRaw
    rw [searchFrom_zero]
    intro r hm e
    obtain ⟨k, hk⟩ := List.getElem?_of_mem hm
    have hu : inUse r := by
      rw [inUse_iff_fold, ← e, Ne, foldId_nil_iff]; exact h0
    obtain ⟨a, ha, _⟩ := h.sound k r hk hu
    rw [← e, hq] at ha; cases ha

structure AccountAt (pws : List Bytes) (s : State C) (a : Account) (i : Nat) (r : Rec C) : Prop where
  slot : s.recs[i]? = some r
  used : inUse r
  id : a.id = cstr r.id
  email : a.email = r.email
  hash : HashRel C pws r.hash a.pw

theorem R.lookup_found (h : R C pws s t) (q : Bytes) (a : Account) (hq : t.acc (foldId q) = some a) :
    ∃ (i : Nat) (r : Rec C), searchUserRaw s q = i + 1 ∧ i < MAX ∧ foldId r.id = foldId q ∧ AccountAt pws s a i r := by
  obtain ⟨i0, r0, hr0, hu0, hk0⟩ := h.complete _ _ hq
  -- the key of an account is not empty, so `SearchUserRaw` does walk the index
  have hne : q.headD 0 ≠ 0 := by rw [Ne, ← foldId_nil_iff, ← hk0, ← Ne, ← inUse_iff_fold]; exact hu0
  have hnz : searchFrom s.recs q 0 ≠ 0 := by
    intro e
    exact (searchFrom_zero _ _ _).1 e r0 (List.mem_of_getElem? hr0) hk0.symm
  obtain ⟨k, r, h1, h2, h3, _⟩ := searchFrom_pos _ _ _ hnz
  have hu : inUse r := by rw [inUse_iff_fold, ← h3, Ne, foldId_nil_iff]; exact hne
  obtain ⟨a', ha', hid, hem, hh⟩ := h.sound k r h2 hu
  rw [← h3, hq] at ha'; cases ha'
  refine ⟨k, r, ?_, h.lt_max h2, h3.symm, h2, hu, hid, hem, hh⟩
  unfold searchUserRaw doSearchUserRaw
  rw [if_neg hne, h1]; omega

theorem R.free_search (h : R C pws s t) :
    (t.free = 0 → freeUid s = 0) ∧
    (t.free ≠ 0 → ∃ (i : Nat) (e : Rec C), freeUid s = i + 1 ∧ i < MAX ∧ s.recs[i]? = some e ∧ ¬ inUse e) := by
  constructor
  · intro h0
    exact (searchFrom_emptyId _ _ _).2 (h.free ▸ h0)
  · intro hne
    obtain ⟨k, r, e1, e2, e3⟩ := freeUid_slot fun e => hne (h.free.trans ((searchFrom_emptyId _ _ _).1 e))
    exact ⟨k, r, e1, h.lt_max e2, e2, e3⟩

/-! ### writing one record -/

theorem updAcc_self (f : Bytes → Option Account) (k : Bytes) (a : Account) (h : f k = some a) : updAcc f k a = f := by
  funext k'; unfold updAcc; by_cases e : k' = k
  · rw [if_pos e, e, h]
  · rw [if_neg e]

theorem keyOf_sess (s : State C) (l : List Nat) (uid : Nat) : keyOf { s with sess := l } uid = keyOf s uid := rfl

/-- the one place where `R` is re-established for a changed file.  `hsame`: a slot in use keeps its key — else its
account would stay in `t.acc` without a slot, and `t.sess` would not list the keys of the uids in the session table. -/
theorem R.write (h : R C pws s t) {i : Nat} {e n : Rec C} (hi : s.recs[i]? = some e) (hv : isValidId n.id = true)
    (hun : inUse n) (hother : ∀ (k : Nat) (r : Rec C), k ≠ i → s.recs[k]? = some r → foldId n.id ≠ foldId r.id)
    (hsame : inUse e → foldId e.id = foldId n.id) {pw : Option Bytes} (hh : HashRel C pws n.hash pw) {f : Nat}
    (hf : f = (s.recs.set i n).countP isFree) :
    R C pws (setRec s (i + 1) n)
      { acc := updAcc t.acc (foldId n.id) ⟨cstr n.id, pw, n.email⟩, free := f, sess := t.sess } := by
  have hin : (s.recs.set i n)[i]? = some n := set_self _ _ _ _ hi
  refine ⟨?_, ?_, ?_, ?_, ?_, ?_, ?_, ?_⟩
  · rw [setRec_recs, List.length_set]; exact h.len
  · intro j z hz huz
    rw [setRec_recs] at hz
    rcases set_cases _ _ _ _ _ hz with ⟨_, rfl⟩ | ⟨_, hz'⟩
    · exact hv
    · exact h.valid j z hz' huz
  · intro j1 j2 z1 z2 hz1 hz2 hu1 hk
    rw [setRec_recs] at hz1 hz2
    rcases set_cases _ _ _ _ _ hz1 with ⟨rfl, rfl⟩ | ⟨hn1, hz1'⟩
    · rcases set_cases _ _ _ _ _ hz2 with ⟨rfl, _⟩ | ⟨hn2, hz2'⟩
      · rfl
      · exact absurd hk (hother j2 z2 hn2 hz2')
    · rcases set_cases _ _ _ _ _ hz2 with ⟨rfl, rfl⟩ | ⟨_, hz2'⟩
      · exact absurd hk.symm (hother j1 z1 hn1 hz1')
      · exact h.uniq j1 j2 z1 z2 hz1' hz2' hu1 hk
  · intro j z hz huz
    rw [setRec_recs] at hz
    rcases set_cases _ _ _ _ _ hz with ⟨_, rfl⟩ | ⟨hn, hz'⟩
    · exact ⟨⟨cstr z.id, pw, z.email⟩, if_pos rfl, rfl, rfl, hh⟩
    · obtain ⟨a, ha, r1, r2, r3⟩ := h.sound j z hz' huz
      exact ⟨a, (if_neg fun x => hother j z hn hz' x.symm).trans ha, r1, r2, r3⟩
  · intro k a hk
    by_cases ek : k = foldId n.id
    · exact ⟨i, n, by rw [setRec_recs]; exact hin, hun, ek.symm⟩
    · obtain ⟨j, z, hz, huz, hkz⟩ := h.complete k a ((if_neg ek).symm.trans hk)
      have hj : j ≠ i := by
        intro x; subst x; rw [hi] at hz; cases hz; exact ek (hkz.symm.trans (hsame huz))
      exact ⟨j, z, by rw [setRec_recs, List.getElem?_set_ne (fun x => hj x.symm)]; exact hz, huz, hkz⟩
  · rw [setRec_recs]; exact hf
  · show t.sess = _
    rw [h.sess_eq]
    apply List.map_congr_left
    intro uid hm
    obtain ⟨_, r0, hr0, hu0⟩ := h.sess_ok uid hm
    unfold keyOf
    unfold recOf at hr0 ⊢
    rw [setRec_recs]
    by_cases e' : uid - 1 = i
    · rw [e'] at hr0 ⊢
      rw [hin, hr0]
      rw [hi] at hr0
      cases hr0
      exact hsame hu0
    · rw [List.getElem?_set_ne (fun x => e' x.symm)]
  · intro uid hm
    obtain ⟨h1, r0, hr0, hu0⟩ := h.sess_ok uid hm
    refine ⟨h1, ?_⟩
    unfold recOf at hr0 ⊢
    rw [setRec_recs]
    by_cases e' : uid - 1 = i
    · rw [e', hin]; exact ⟨n, rfl, hun⟩
    · rw [List.getElem?_set_ne (fun x => e' x.symm)]; exact ⟨r0, hr0, hu0⟩

theorem R.update (h : R C pws s t) {i : Nat} {r r' : Rec C} (hi : s.recs[i]? = some r) (hu : inUse r)
    (hid : r'.id = r.id) {pw' : Option Bytes} (hh : HashRel C pws r'.hash pw') :
    R C pws (setRec s (i + 1) r') { t with acc := updAcc t.acc (foldId r.id) ⟨cstr r.id, pw', r'.email⟩ } := by
  have hu' : inUse r' := by unfold inUse; rw [hid]; exact hu
  have hv : isValidId r'.id = true := by rw [hid]; exact h.valid i r hi hu
  rw [← hid]
  refine h.write hi hv hu' ?_ (fun _ => by rw [hid]) hh ?_
  · intro k z hk hz ek
    rw [hid] at ek
    exact hk (h.uniq i k r z hi hz hu ek).symm
  · have := countP_set_add isFree s.recs i r r' hi
    rw [show isFree r' = isFree r by unfold isFree; rw [hid]] at this
    rw [h.free]; omega

theorem R.sess_mem (h : R C pws s t) {i : Nat} {r : Rec C} (hi : s.recs[i]? = some r) :
    (i + 1) ∈ s.sess ↔ foldId r.id ∈ t.sess := by
  rw [h.sess_eq, List.mem_map]
  constructor
  · intro hm; exact ⟨i + 1, hm, by unfold keyOf; rw [recOf_succ, hi]⟩
  · rintro ⟨uid, hm, hk⟩
    obtain ⟨h1, r0, hr0, hu0⟩ := h.sess_ok uid hm
    unfold keyOf at hk; rw [hr0] at hk
    unfold recOf at hr0
    have := h.uniq (uid - 1) i r0 r hr0 hi hu0 hk
    have : uid = i + 1 := by omega
    rw [← this]; exact hm

theorem R.sess_acc (h : R C pws s t) {k : Bytes} (hk : k ∈ t.sess) : ∃ a, t.acc k = some a := by
  rw [h.sess_eq, List.mem_map] at hk
  obtain ⟨uid, hm, e⟩ := hk
  obtain ⟨_, r, hr, hu⟩ := h.sess_ok uid hm
  obtain ⟨a, ha, _⟩ := h.sound (uid - 1) r hr hu
  unfold keyOf at e
  rw [hr] at e
  exact ⟨a, e ▸ ha⟩

theorem R.enter (h : R C pws s t) {i : Nat} {r : Rec C} (hi : s.recs[i]? = some r) (hu : inUse r)
    (hroom : foldId r.id ∈ t.sess ∨ t.sess.length < USHM) :
    ∃ sess', utmpEnter s.sess (i + 1) = some sess' ∧
      R C pws { s with sess := sess' } { t with sess := sessAdd t.sess (foldId r.id) } := by
  have hlen : t.sess.length = s.sess.length := by rw [h.sess_eq, List.length_map]
  have hmem := h.sess_mem hi
  unfold utmpEnter sessAdd
  by_cases hm : (i + 1) ∈ s.sess
  · rw [if_pos hm, if_pos (hmem.1 hm)]
    exact ⟨_, rfl, h⟩
  · have hk : foldId r.id ∉ t.sess := fun x => hm (hmem.2 x)
    have hl : s.sess.length < USHM := hlen ▸ hroom.resolve_left hk
    rw [if_neg hm, if_pos hl, if_neg hk]
    refine ⟨_, rfl, ⟨h.len, h.valid, h.uniq, h.sound, h.complete, h.free, ?_, ?_⟩⟩
    · show t.sess ++ [foldId r.id] = (s.sess ++ [i + 1]).map (keyOf s)
      rw [List.map_append, ← h.sess_eq]
      simp [keyOf, recOf_succ, hi]
    · intro uid hx
      rcases List.mem_append.1 hx with hx | hx
      · exact h.sess_ok uid hx
      · rw [List.mem_singleton.1 hx]
        exact ⟨Nat.succ_pos i, r, (recOf_succ s i).trans hi, hu⟩

/-- with all entries taken and none of them the user's, `getNewUtmpEnt` fails. -/
theorem R.enter_full (h : R C pws s t) {i : Nat} {r : Rec C} (hi : s.recs[i]? = some r)
    (hk : foldId r.id ∉ t.sess) (hfull : ¬ t.sess.length < USHM) : utmpEnter s.sess (i + 1) = none := by
  have hlen : t.sess.length = s.sess.length := by rw [h.sess_eq, List.length_map]
  have hm : (i + 1) ∉ s.sess := fun x => hk ((h.sess_mem hi).1 x)
  unfold utmpEnter
  rw [if_neg hm, if_neg (by omega)]

theorem R.insert (h : R C pws s t) {i : Nat} {e n : Rec C} (hi : s.recs[i]? = some e) (he : ¬ inUse e)
    (hv : isValidId n.id = true) (hun : inUse n)
    (hnew : ∀ (k : Nat) (r : Rec C), s.recs[k]? = some r → foldId n.id ≠ foldId r.id)
    {pw : Option Bytes} (hh : HashRel C pws n.hash pw) :
    R C pws (setRec s (i + 1) n)
      { acc := updAcc t.acc (foldId n.id) ⟨cstr n.id, pw, n.email⟩, free := t.free - 1, sess := t.sess } := by
  refine h.write hi hv hun (fun k r _ => hnew k r) (fun x => absurd x he) hh ?_
  have := countP_set_add isFree s.recs i e n hi
  rw [(isFree_iff e).2 he, Bool.eq_false_iff.2 fun hx => (isFree_iff n).1 hx hun] at this
  rw [h.free]; simp at this; omega

/-! ### what is assumed of the password hash -/

/-- the facts property C02 proves of GenPasswd / CheckPasswd (`Proofs/C03Crypt.lean` instantiates them with the
DES model of C02): a fresh hash verifies its password, for every salt; passwords with one effective key are not
told apart by any stored hash; the all-zero hash verifies nothing. -/
structure Lawful (C : Crypto) : Prop where
  check_gen : ∀ (r : Nat) (p : Bytes), p ≠ [] → p.headD 0 ≠ 0 → C.check (C.gen r p) p = true
  same_key : ∀ (h : C.H) (p q : Bytes), effKey8 p = effKey8 q → C.check h p = C.check h q
  zero : ∀ q : Bytes, C.check C.zero q = false

/-- the hypothesis C02 cannot prove (DES collisions): among the passwords of the universe `pws`, a hash generated
for one effective key does not verify a password with another one. -/
def Sep (C : Crypto) (pws : List Bytes) : Prop :=
  ∀ (r : Nat) (p q : Bytes), p ∈ pws → q ∈ pws → p ≠ [] → p.headD 0 ≠ 0 → effKey8 p ≠ effKey8 q →
    C.check (C.gen r p) q = false

theorem hashRel_gen (L : Lawful C) (S : Sep C pws) (r : Nat) (p : Bytes) (hp : p ∈ pws) :
    HashRel C pws (genPasswd C r p) (pwOf p) := by
  unfold genPasswd pwOf
  by_cases hz : p.length = 0 ∨ p.headD 0 = 0
  · rw [if_pos hz, if_pos hz]
    intro q _; rw [L.zero]; simp
  · rw [if_neg hz, if_neg hz]
    have h1 : p ≠ [] := by intro e; apply hz; left; rw [e]; rfl
    have h2 : p.headD 0 ≠ 0 := fun e => hz (Or.inr e)
    intro q hq
    by_cases hk : effKey8 p = effKey8 q
    · rw [← L.same_key _ p q hk, L.check_gen r p h1 h2]; simp [hk]
    · rw [S r p q hp hq h1 h2 hk]; simp [hk]

theorem hashRel_check {h : C.H} {a : Account} (hr : HashRel C pws h a.pw) {q : Bytes} (hq : q ∈ pws) :
    C.check h q = true ↔ pwOk a q := by
  rw [hr q hq]; simp [pwOk]

theorem hashRel_check_false {h : C.H} {a : Account} (hr : HashRel C pws h a.pw) {q : Bytes} (hq : q ∈ pws) :
    C.check h q = false ↔ ¬ pwOk a q := by
  rw [← hashRel_check hr hq, Bool.not_eq_true]

/-! ### the passwords of a history, the agreement of answers -/

/-- the passwords an operation mentions belong to the universe. -/
def OpPws (pws : List Bytes) : Op → Prop
  | .register _ pw _ _ _ => pw ∈ pws
  | .login _ pw _ => pw ∈ pws
  | .checkPasswd _ pw => pw ∈ pws
  | .changePasswd _ old new _ => old ∈ pws ∧ new ∈ pws
  | _ => True

/-- the implementation's answer is the one the specification's result class stands for. -/
def AnsAgree (op : Op) (a : Ans) (sa : SpecAns) : Prop :=
  a.err = errOf op sa.res ∧
    match op with
    | .getUser _ => (sa.res ≠ .ok → a.out = sa.out) ∧
        (sa.res = .ok → ∃ id em, a.out = [id, em] ∧ sa.out = [cstr id, em])   -- GetUser hands out the raw UserID field
    | _ => a.out = sa.out

/-! ### the common front, in a represented state -/

theorem R.withUser_found (h : R C pws s t) {id : Bytes} {a₁ a₂ a₃ a₄ : Ans} {k : Nat → Rec C → State C × Ans}
    {x : State C × Ans} (hx : x = withUser s id a₁ a₂ a₃ a₄ k) (hw : WellFormed (cstr id)) {a : Account}
    (ha : t.acc (foldId id) = some a) :
    ∃ (i : Nat) (r : Rec C), AccountAt pws s a i r ∧ foldId r.id = foldId id ∧ x = k (i + 1) r := by
  obtain ⟨hv, hh, hf⟩ := copy_of_wf hw
  obtain ⟨i, r, h1, h2, hk, hs⟩ := h.lookup_found (copyInto IDSZ id) a (by rw [hf]; exact ha)
  refine ⟨i, r, hs, hk.trans hf, ?_⟩
  rw [hx]
  unfold withUser
  rw [hv, if_neg hh, h1, (uidValid_succ i).2 h2, recOf_succ, hs.slot]
  rfl

/-- The simulation rule of the front.  The specification's step `y` refuses an ill-formed id with `b₁`, an unknown
one with `b₃`, and otherwise continues with the account.  Nothing is asked of `a₂` and `a₄`: a well-formed id is
not empty, and in a represented state the slot an id resolves to can be read. -/
theorem R.withUser_refines (h : R C pws s t) {op : Op} {id : Bytes} {a₁ a₂ a₃ a₄ : Ans}
    {k : Nat → Rec C → State C × Ans} {x : State C × Ans} (hx : x = withUser s id a₁ a₂ a₃ a₄ k) {b₁ b₃ : SpecAns}
    {k' : Account → Table × SpecAns} {y : Table × SpecAns}
    (hy : y = if ¬ WellFormed (cstr id) then (t, b₁) else
      match t.acc (foldId id) with
      | none => (t, b₃)
      | some a => k' a)
    (h₁ : AnsAgree op a₁ b₁) (h₃ : AnsAgree op a₃ b₃)
    (hk : ∀ (i : Nat) (r : Rec C) (a : Account), AccountAt pws s a i r → foldId r.id = foldId id →
      R C pws (k (i + 1) r).1 (k' a).1 ∧ AnsAgree op (k (i + 1) r).2 (k' a).2) :
    R C pws x.1 y.1 ∧ AnsAgree op x.2 y.2 := by
  subst hx hy
  by_cases hw : WellFormed (cstr id)
  · obtain ⟨hv, hh, hf⟩ := copy_of_wf hw
    rw [if_neg (not_not_intro hw)]
    cases ha : t.acc (foldId id) with
    | none =>
      unfold withUser
      rw [hv, if_neg hh, h.lookup_missing (copyInto IDSZ id) (by rw [hf]; exact ha)]
      exact ⟨h, h₃⟩
    | some a =>
      obtain ⟨i, r, hs, hf, e⟩ := h.withUser_found rfl hw ha
      rw [e]
      exact hk i r a hs hf
  · unfold withUser
    rw [if_pos hw, copy_invalid hw]
    exact ⟨h, h₁⟩

theorem R.loginAs_ok (h : R C pws s t) {i : Nat} {r : Rec C} (hi : s.recs[i]? = some r) (hu : inUse r)
    (hroom : foldId r.id ∈ t.sess ∨ t.sess.length < USHM) (rest : Nat) :
    ∃ s', loginAs s (i + 1) rest r = (s', ⟨.none, [cstr r.id]⟩) ∧
      R C pws s' { t with sess := sessAdd t.sess (foldId r.id) } := by
  obtain ⟨sess', he, hR⟩ := h.enter hi hu hroom
  obtain ⟨a, ha, h6, h7, h8⟩ := h.sound i r hi hu
  have hul : userLogin s (i + 1) rest = (setRec { s with sess := sess' } (i + 1) { r with rest := rest }, .none) := by
    unfold userLogin
    rw [he]
    simp only [recOf_succ, hi]
  refine ⟨setRec { s with sess := sess' } (i + 1) { r with rest := rest }, ?_, ?_⟩
  · unfold loginAs
    rw [hul, if_neg (not_not_intro rfl), toUUserID_valid (h.valid i r hi hu)]
  · have hacc : updAcc t.acc (foldId r.id) ⟨cstr r.id, a.pw, r.email⟩ = t.acc :=
      updAcc_self _ _ _ (by rw [ha, ← h6, ← h7])
    have := hR.update (r' := { r with rest := rest }) hi hu rfl (pw' := a.pw) h8
    simp only [hacc] at this
    exact this

theorem R.loginAs_full (h : R C pws s t) {i : Nat} {r : Rec C} (hi : s.recs[i]? = some r)
    (hk : foldId r.id ∉ t.sess) (hfull : ¬ t.sess.length < USHM) (rest : Nat) (user : Rec C) :
    loginAs s (i + 1) rest user = (s, ⟨.newUtmp, [[]]⟩) := by
  have hul : userLogin s (i + 1) rest = (s, .newUtmp) := by
    unfold userLogin
    rw [h.enter_full hi hk hfull]
  unfold loginAs
  rw [hul]
  rfl

/-! ### every operation refines the abstract table -/

theorem login_refines (rs : List Bytes) (h : R C pws s t) (id pw : Bytes) (rest : Nat)
    (hp : pw ∈ pws) (hroom : Room t (.login id pw rest)) :
    R C pws (login s id pw rest).1 (specStep rs t (.login id pw rest)).1 ∧
      AnsAgree (.login id pw rest) (login s id pw rest).2 (specStep rs t (.login id pw rest)).2 := by
  refine h.withUser_refines (login_eq s id pw rest) rfl ⟨rfl, rfl⟩ ⟨rfl, rfl⟩ fun i r a hs hf => ?_
  have hc : (cstrcmp r.id STR_GUEST ≠ 0 ∧ (!C.check r.hash pw) = true) ↔ (a.id ≠ STR_GUEST ∧ ¬ pwOk a pw) := by
    rw [cstrcmp_guest, hs.id, ← hashRel_check hs.hash hp]; simp
  by_cases hb : a.id ≠ STR_GUEST ∧ ¬ pwOk a pw
  · rw [if_pos (hc.2 hb), if_pos hb]
    exact ⟨h, rfl, rfl⟩
  · rw [if_neg (fun x => hb (hc.1 x)), if_neg hb]
    obtain ⟨s', e1, e2⟩ := h.loginAs_ok hs.slot hs.used (by rw [hf]; exact hroom) rest
    rw [hf] at e2
    rw [e1, ← hs.id]
    exact ⟨e2, rfl, rfl⟩

theorem checkPasswd_refines (rs : List Bytes) (h : R C pws s t) (id pw : Bytes) (hp : pw ∈ pws) :
    R C pws (checkPasswd s id pw).1 (specStep rs t (.checkPasswd id pw)).1 ∧
      AnsAgree (.checkPasswd id pw) (checkPasswd s id pw).2 (specStep rs t (.checkPasswd id pw)).2 := by
  refine h.withUser_refines (checkPasswd_eq s id pw) rfl ⟨rfl, rfl⟩ ⟨rfl, rfl⟩ fun i r a hs _ => ?_
  by_cases hb : pwOk a pw
  · rw [(hashRel_check hs.hash hp).2 hb, if_pos hb]
    exact ⟨h, rfl, rfl⟩
  · rw [(hashRel_check_false hs.hash hp).2 hb, if_neg hb]
    exact ⟨h, rfl, rfl⟩

theorem changePasswd_refines (L : Lawful C) (S : Sep C pws) (rs : List Bytes) (h : R C pws s t) (id old new : Bytes)
    (salt : Nat) (hp : old ∈ pws) (hn : new ∈ pws) :
    R C pws (changePasswd s id old new salt).1 (specStep rs t (.changePasswd id old new salt)).1 ∧
      AnsAgree (.changePasswd id old new salt) (changePasswd s id old new salt).2
        (specStep rs t (.changePasswd id old new salt)).2 := by
  refine h.withUser_refines (changePasswd_eq s id old new salt) rfl ⟨rfl, rfl⟩ ⟨rfl, rfl⟩ fun i r a hs hf => ?_
  by_cases hb : pwOk a old
  · rw [(hashRel_check hs.hash hp).2 hb, if_neg (not_not_intro hb)]
    have hR := h.update (r' := { r with hash := genPasswd C salt new }) hs.slot hs.used rfl
      (hashRel_gen L S salt new hn)
    rw [hs.id, hs.email, ← hf]
    exact ⟨hR, rfl, rfl⟩
  · rw [(hashRel_check_false hs.hash hp).2 hb, if_pos hb]
    exact ⟨h, rfl, rfl⟩

theorem changeEmail_refines (rs : List Bytes) (h : R C pws s t) (id email : Bytes) :
    R C pws (changeEmail s id email).1 (specStep rs t (.changeEmail id email)).1 ∧
      AnsAgree (.changeEmail id email) (changeEmail s id email).2 (specStep rs t (.changeEmail id email)).2 := by
  refine h.withUser_refines (changeEmail_eq s id email) rfl ⟨rfl, rfl⟩ ⟨rfl, rfl⟩ fun i r a hs hf => ?_
  have hR := h.update (r' := { r with email := copyInto EMAILSZ email }) hs.slot hs.used rfl (pw' := a.pw) hs.hash
  rw [hs.id, ← hf]
  exact ⟨hR, rfl, rfl⟩

theorem exists_refines (rs : List Bytes) (h : R C pws s t) (id : Bytes) :
    R C pws (checkExists s id).1 (specStep rs t (.exists_ id)).1 ∧
      AnsAgree (.exists_ id) (checkExists s id).2 (specStep rs t (.exists_ id)).2 :=
  h.withUser_refines (checkExists_eq s id) rfl ⟨rfl, rfl⟩ ⟨rfl, rfl⟩ fun _ _ _ _ _ => ⟨h, rfl, rfl⟩

theorem R.acc_long (h : R C pws s t) {k : Bytes} (hl : 12 < k.length) : t.acc k = none := by
  cases hx : t.acc k with
  | none => rfl
  | some a =>
    obtain ⟨i, r, hr, hu, hf⟩ := h.complete k a hx
    have hw := (isValidId_iff r.id).1 (h.valid i r hr hu)
    rw [← hf, foldId_length] at hl
    exact absurd hw.2.1 (by omega)

theorem getUser_refines (rs : List Bytes) (h : R C pws s t) (id : Bytes) :
    R C pws (getUser s id).1 (specStep rs t (.getUser id)).1 ∧
      AnsAgree (.getUser id) (getUser s id).2 (specStep rs t (.getUser id)).2 := by
  unfold getUser specStep
  simp only []
  -- cutting the id to the array does not change the lookup: no account has a key longer than IDLEN
  have hkey : t.acc (foldId (copyInto IDSZ id)) = t.acc (foldId id) := by
    by_cases hl : (cstr id).length ≤ 12
    · rw [foldId_copyInto, List.take_of_length_le (by rw [foldId_length, consts.2.1]; omega)]
    · rw [h.acc_long (k := foldId id) (by rw [foldId_length]; omega),
        h.acc_long (by rw [foldId_copyInto, List.length_take, foldId_length, consts.2.1]; omega)]
  cases ha : t.acc (foldId id) with
  | none =>
    have := h.lookup_missing (copyInto IDSZ id) (by rw [hkey]; exact ha)
    simp only [this, uidValid_zero, Bool.not_false, if_true]
    exact ⟨h, rfl, fun _ => rfl, fun x => by cases x⟩
  | some a =>
    obtain ⟨i, r, h1, h2, _, hs⟩ := h.lookup_found (copyInto IDSZ id) a (hkey.trans ha)
    have hval := (uidValid_succ i).2 h2
    simp only [h1, hval, recOf_succ, hs.slot, Bool.not_true, Bool.false_eq_true, if_false]
    exact ⟨h, rfl, fun x => absurd rfl x, fun _ => ⟨r.id, r.email, rfl, by rw [hs.id, hs.email]⟩⟩

/-! ### registration -/

/-- a registration the specification accepts, up to the call of `userLogin`: the record `n` that `NewRegister` builds
is in the first free slot `i`, and the id resolves to that slot. -/
theorem R.register_accepted (L : Lawful C) (S : Sep C pws) (rs : List Bytes) (h : R C pws s t) (id pw email : Bytes)
    (salt rest : Nat) (hp : pw ∈ pws) (hw : WellFormed id) (hres : ¬ Reserved rs id)
    (hnone : t.acc (id.map tolower) = none) (hfree : t.free ≠ 0) {n : Rec C}
    (hn : n = ⟨copyInto IDSZ id, genPasswd C salt pw, copyInto EMAILSZ email, rest⟩) :
    ∃ i : Nat, inUse n ∧ foldId n.id = id.map tolower ∧ cstr n.id = id ∧
      (setRec s (i + 1) n).recs[i]? = some n ∧ searchUserRaw (setRec s (i + 1) n) (copyInto IDSZ id) = i + 1 ∧
      R C pws (setRec s (i + 1) n)
        { acc := updAcc t.acc (id.map tolower) ⟨id, pwOf pw, copyInto EMAILSZ email⟩, free := t.free - 1, sess := t.sess } ∧
      register rs s id pw email salt rest = loginAs (setRec s (i + 1) n) (i + 1) rest n := by
  subst hn
  obtain ⟨hv, hh, hfold, hcs⟩ := copy_of_wf_submitted hw
  have h0 := h.lookup_missing (copyInto IDSZ id) (by rw [hfold]; exact hnone)
  rw [searchUserRaw, if_neg hh] at h0
  obtain ⟨i, e, f1, f2, f3, f4⟩ := h.free_search.2 hfree
  have hval : uidValid (freeUid s) = true := by
    rw [f1]; exact (uidValid_succ i).2 f2
  let n : Rec C := ⟨copyInto IDSZ id, genPasswd C salt pw, copyInto EMAILSZ email, rest⟩
  have hfn : foldId n.id = id.map tolower := hfold
  have hcn : cstr n.id = id := hcs
  obtain ⟨k1, k2⟩ := search_after_setup s n hh h0 hval
  have hreg := (register_passed rs s id pw email salt rest hw hres).trans (registerNew_ok s n rest hh h0 hval)
  have hnew : ∀ (k : Nat) (r : Rec C), s.recs[k]? = some r → foldId n.id ≠ foldId r.id :=
    fun _ r hk => (searchFrom_zero _ _ _).1 h0 r (List.mem_of_getElem? hk)
  have hR := h.insert (n := n) f3 f4 hv hh hnew (hashRel_gen L S salt pw hp)
  rw [f1] at k1 k2 hreg
  rw [hfn, hcn] at hR
  exact ⟨i, hh, hfn, hcn, (recOf_succ _ i).symm.trans k2, k1, hR, hreg⟩

theorem register_refines (L : Lawful C) (S : Sep C pws) (rs : List Bytes) (h : R C pws s t) (id pw email : Bytes)
    (salt rest : Nat) (hp : pw ∈ pws) (hroom : Room t (.register id pw email salt rest)) :
    R C pws (register rs s id pw email salt rest).1 (specStep rs t (.register id pw email salt rest)).1 ∧
      AnsAgree (.register id pw email salt rest) (register rs s id pw email salt rest).2
        (specStep rs t (.register id pw email salt rest)).2 := by
  simp only [specStep]
  by_cases hg : WellFormed id ∧ ¬ Reserved rs id
  · obtain ⟨hw, hres⟩ := hg
    obtain ⟨_, hh, hfold, _⟩ := copy_of_wf_submitted hw
    rw [if_neg (not_not_intro hw), if_neg hres]
    cases ha : t.acc (id.map tolower) with
    | some a =>
      obtain ⟨i, r, h1, _⟩ := h.lookup_found (copyInto IDSZ id) a (by rw [hfold]; exact ha)
      rw [searchUserRaw, if_neg hh] at h1
      rw [register_passed rs s id pw email salt rest hw hres,
        registerNew_refused (setupNewUser_exists s (by rw [h1]; exact Nat.succ_ne_zero i)) nofun]
      exact ⟨h, rfl, rfl⟩
    | none =>
      have h0 := h.lookup_missing (copyInto IDSZ id) (by rw [hfold]; exact ha)
      rw [searchUserRaw, if_neg hh] at h0
      by_cases hfree : t.free = 0
      · rw [if_pos hfree, register_passed rs s id pw email salt rest hw hres,
          registerNew_refused (setupNewUser_full s h0 (by rw [h.free_search.1 hfree]; exact uidValid_zero)) nofun]
        exact ⟨h, rfl, rfl⟩
      · obtain ⟨i, hu, hk, hcn, hin, _, hR, e⟩ := h.register_accepted L S rs id pw email salt rest hp hw hres ha hfree rfl
        obtain ⟨s', e1, e2⟩ := hR.loginAs_ok hin hu (Or.inr hroom) rest
        rw [hk] at e2
        rw [if_neg hfree, e, e1, hcn]
        exact ⟨e2, rfl, rfl⟩
  · rw [register_refused rs s id pw email salt rest hg]
    by_cases hw : WellFormed id
    · rw [if_neg (not_not_intro hw), if_pos (Classical.not_not.1 fun x => hg ⟨hw, x⟩)]
      exact ⟨h, rfl, rfl⟩
    · rw [if_pos hw]
      exact ⟨h, rfl, rfl⟩

/-! ### histories -/

theorem step_refines (L : Lawful C) (S : Sep C pws) (rs : List Bytes) (h : R C pws s t) (op : Op)
    (hp : OpPws pws op) (hroom : Room t op) :
    R C pws (step rs s op).1 (specStep rs t op).1 ∧ AnsAgree op (step rs s op).2 (specStep rs t op).2 := by
  cases op with
  | register id pw email salt rest => exact register_refines L S rs h id pw email salt rest hp hroom
  | login id pw rest => exact login_refines rs h id pw rest hp hroom
  | checkPasswd id pw => exact checkPasswd_refines rs h id pw hp
  | changePasswd id old new salt => exact changePasswd_refines L S rs h id old new salt hp.1 hp.2
  | changeEmail id email => exact changeEmail_refines rs h id email
  | exists_ id => exact exists_refines rs h id
  | getUser id => exact getUser_refines rs h id

/-- answers agree, position by position. -/
def AnsAgreeAll : List Op → List Ans → List SpecAns → Prop
  | [], [], [] => True
  | o :: os, a :: as, b :: bs => AnsAgree o a b ∧ AnsAgreeAll os as bs
  | _, _, _ => False

theorem run_refines (L : Lawful C) (S : Sep C pws) (rs : List Bytes) (ops : List Op) :
    ∀ (s : State C) (t : Table), R C pws s t → (∀ o ∈ ops, OpPws pws o) → RoomRun rs t ops →
      R C pws (run rs s ops) (specRun rs t ops) ∧ AnsAgreeAll ops (outputs rs s ops) (specOutputs rs t ops) := by
  induction ops with
  | nil => intro s t h _ _; exact ⟨h, trivial⟩
  | cons o os ih =>
    intro s t h hp hroom
    obtain ⟨h1, h2⟩ := step_refines L S rs h o (hp o (by simp)) hroom.1
    obtain ⟨h3, h4⟩ := ih _ _ h1 (fun o' ho' => hp o' (by simp [ho'])) hroom.2
    exact ⟨h3, h2, h4⟩

theorem agreeAll_get {ops : List Op} {as : List Ans} {bs : List SpecAns} (h : AnsAgreeAll ops as bs) {i : Nat} {o : Op}
    {a : Ans} (ho : ops[i]? = some o) (ha : as[i]? = some a) : ∃ b, bs[i]? = some b ∧ AnsAgree o a b := by
  fun_induction AnsAgreeAll ops as bs generalizing i with
  | case1 => cases ho
  | case2 o' os a' as b' bs ih =>
    cases i with
    | zero =>
      cases ho
      cases ha
      exact ⟨b', rfl, h.1⟩
    | succ i =>
      rw [List.getElem?_cons_succ] at ho ha ⊢
      exact ih h.2 ho ha
  | case3 => exact h.elim

theorem errOf_register_ne_newUtmp (id pw email : Bytes) (salt rest : Nat) (r : Res) :
    errOf (.register id pw email salt rest) r ≠ .newUtmp := by
  cases r <;> exact nofun

/-! ### the session table is full (known finding) -/

theorem register_session_full (L : Lawful C) (S : Sep C pws) (rs : List Bytes) (h : R C pws s t) (id pw email : Bytes)
    (salt rest : Nat) (hp : pw ∈ pws) (hw : WellFormed id) (hres : ¬ Reserved rs id)
    (hnone : t.acc (id.map tolower) = none) (hfree : t.free ≠ 0) (hfull : ¬ t.sess.length < USHM) :
    (specStep rs t (.register id pw email salt rest)).2 = ⟨.ok, [id]⟩ ∧
    (register rs s id pw email salt rest).2 = ⟨.newUtmp, [[]]⟩ ∧
    searchUserRaw (register rs s id pw email salt rest).1 (copyInto IDSZ id) ≠ 0 ∧
    (register rs s id pw email salt rest).1.recs ≠ s.recs := by
  obtain ⟨n, hn⟩ : ∃ n : Rec C, n = ⟨copyInto IDSZ id, genPasswd C salt pw, copyInto EMAILSZ email, rest⟩ := ⟨_, rfl⟩
  obtain ⟨i, hu, hk, hcn, hin, hs, hR, e⟩ := h.register_accepted L S rs id pw email salt rest hp hw hres hnone hfree hn
  have hnk : foldId n.id ∉ t.sess := by
    rw [hk]
    intro hm
    obtain ⟨a, ha⟩ := h.sess_acc hm
    rw [hnone] at ha
    cases ha
  rw [e, hR.loginAs_full hin hnk hfull rest n]
  refine ⟨?_, rfl, ?_, ?_⟩
  · simp [specStep, hw, hres, hnone, hfree]
  · show searchUserRaw (setRec s (i + 1) n) (copyInto IDSZ id) ≠ 0
    rw [hs]
    exact Nat.succ_ne_zero i
  · -- the slot was free before
    intro x
    have h1 : (setRec s (i + 1) n).recs[i]? = s.recs[i]? := by rw [x]
    rw [hin] at h1
    obtain ⟨a, ha, _⟩ := h.sound i n h1.symm hu
    rw [hk, hnone] at ha
    cases ha

theorem login_session_full (rs : List Bytes) (h : R C pws s t) (id pw : Bytes) (rest : Nat) (hp : pw ∈ pws)
    (hw : WellFormed (cstr id)) (a : Account) (ha : t.acc (foldId id) = some a) (hpw : pwOk a pw)
    (hk : foldId id ∉ t.sess) (hfull : ¬ t.sess.length < USHM) :
    (specStep rs t (.login id pw rest)).2 = ⟨.ok, [a.id]⟩ ∧ login s id pw rest = (s, ⟨.newUtmp, [[]]⟩) := by
  obtain ⟨i, r, hs, hf, e⟩ := h.withUser_found (login_eq s id pw rest) hw ha
  constructor
  · simp [specStep, hw, ha, hpw]
  · rw [e, (hashRel_check hs.hash hp).2 hpw, if_neg (fun x => absurd x.2 (by decide)),
      h.loginAs_full hs.slot (by rw [hf]; exact hk) hfull rest r]

/-! ### only the account whose stored id IS "guest" logs in without its password -/

theorem login_needs_password (rs : List Bytes) (h : R C pws s t) (id pw : Bytes) (rest : Nat) (hp : pw ∈ pws)
    (hw : WellFormed (cstr id)) (a : Account) (ha : t.acc (foldId id) = some a) (hg : a.id ≠ STR_GUEST)
    (hpw : ¬ pwOk a pw) :
    (specStep rs t (.login id pw rest)).2 = ⟨.badPassword, [[]]⟩ ∧ login s id pw rest = (s, ⟨.invalidUserID, [[]]⟩) := by
  obtain ⟨i, r, hs, _, e⟩ := h.withUser_found (login_eq s id pw rest) hw ha
  constructor
  · simp [specStep, hw, ha, hpw, hg]
  · rw [e, (hashRel_check_false hs.hash hp).2 hpw, if_pos ⟨(cstrcmp_guest r.id).2 (hs.id ▸ hg), rfl⟩]

/-! ### a start state, the ideal hash -/

def emptyRec (C : Crypto) : Rec C := { id := List.replicate IDSZ 0, hash := C.zero, email := List.replicate EMAILSZ 0, rest := 0 }

/-- a .PASSWDS of MAX_USERS all-zero records, no session. -/
def emptyState (C : Crypto) : State C := { recs := List.replicate MAX (emptyRec C), sess := [] }

def emptyTable : Table := { acc := fun _ => none, free := MAX, sess := [] }

theorem emptyRec_free (C : Crypto) : ¬ inUse (emptyRec C) := by
  unfold inUse emptyRec; simp [consts.2.1]

theorem R_empty (C : Crypto) (pws : List Bytes) : R C pws (emptyState C) emptyTable := by
  have hmem : ∀ (i : Nat) (r : Rec C), (emptyState C).recs[i]? = some r → r = emptyRec C := by
    intro i r hr
    have := List.mem_of_getElem? hr
    exact List.eq_of_mem_replicate this
  refine ⟨by simp [emptyState], ?_, ?_, ?_, ?_, ?_, rfl, ?_⟩
  · intro i r hr hu; rw [hmem i r hr] at hu; exact absurd hu (emptyRec_free C)
  · intro i j ri rj hi _ hu _; rw [hmem i ri hi] at hu; exact absurd hu (emptyRec_free C)
  · intro i r hr hu; rw [hmem i r hr] at hu; exact absurd hu (emptyRec_free C)
  · intro k a hk; cases hk
  · show MAX = _
    unfold emptyState
    simp only []
    rw [List.countP_replicate, if_pos ((isFree_iff _).2 (emptyRec_free C))]
  · intro uid hm; cases hm

theorem ideal_lawful : Lawful ideal := by
  refine ⟨?_, ?_, ?_⟩
  · intro r p _ _; simp [ideal]
  · intro h p q e; simp [ideal, e]
  · intro q; simp [ideal]

theorem ideal_sep (pws : List Bytes) : Sep ideal pws := by
  intro r p q _ _ _ _ hk
  simp [ideal, hk]

end

end PttVerif.C03
