import PttVerif.Model.C12
/-
C12 — the attribute word and level `mNewbrd` builds, bit by bit.
-/
namespace PttVerif.C12
open PttVerif

/-! ### bits -/

theorem hasBit_clearBits_self (a m : Nat) (hm : (4294967295 ^^^ m) &&& m = 0) :
    hasBit (clearBits a m) m = false := by
  simp [hasBit, clearBits, Nat.and_assoc, hm]

theorem hasBit_clearBits_other (a m m' : Nat) (hm : (4294967295 ^^^ m) &&& m' = m') :
    hasBit (clearBits a m) m' = hasBit a m' := by
  simp [hasBit, clearBits, Nat.and_assoc, hm]

theorem hasBit_zero (m : Nat) : hasBit 0 m = false := by simp [hasBit]

theorem hasBit_or (a m m' : Nat) : hasBit (a ||| m) m' = (hasBit a m' || hasBit m m') := by
  unfold hasBit
  rw [Nat.and_or_distrib_right, Bool.eq_iff_iff]
  simp only [bne_iff_ne, ne_eq, Nat.or_eq_zero_iff, Bool.or_eq_true, Decidable.not_and_iff_not_or_not]

/-! ### the attribute word -/

theorem hasBit_autoCpLog (q : Req) (m : Nat) :
    hasBit (if q.autoCpLog then q.attr ||| BRD_CPLOG else q.attr) m =
      (hasBit q.attr m || (q.autoCpLog && hasBit BRD_CPLOG m)) := by
  cases q.autoCpLog
  · simp only [Bool.false_eq_true, if_false, Bool.false_and, Bool.or_false]
  · simp only [if_true, Bool.true_and, hasBit_or]

theorem hasBit_attr1_group (q : Req) : hasBit (attr1 q) BRD_GROUP = q.isGroup := by
  unfold attr1
  cases q.isGroup
  · exact hasBit_clearBits_self _ _ (by decide)
  · simp only [if_true]
    rw [hasBit_clearBits_other _ _ _ (by decide), hasBit_or, show hasBit BRD_GROUP BRD_GROUP = true by decide,
      Bool.or_true]

theorem hasBit_attr1_cplog (q : Req) :
    hasBit (attr1 q) BRD_CPLOG = (!q.isGroup && (q.autoCpLog || hasBit q.attr BRD_CPLOG)) := by
  unfold attr1
  cases q.isGroup
  · simp only [Bool.false_eq_true, if_false, Bool.not_false, Bool.true_and]
    rw [hasBit_clearBits_other _ _ _ (by decide), hasBit_autoCpLog, show hasBit BRD_CPLOG BRD_CPLOG = true by decide,
      Bool.and_true, Bool.or_comm]
  · exact hasBit_clearBits_self _ _ (by decide)

theorem hasBit_attr1_other (q : Req) (m : Nat) (hC : (4294967295 ^^^ BRD_CPLOG) &&& m = m)
    (hG : (4294967295 ^^^ BRD_GROUP) &&& m = m) (hCm : hasBit BRD_CPLOG m = false)
    (hGm : hasBit BRD_GROUP m = false) : hasBit (attr1 q) m = hasBit q.attr m := by
  unfold attr1
  cases q.isGroup
  · simp only [Bool.false_eq_true, if_false]
    rw [hasBit_clearBits_other _ _ _ hG, hasBit_autoCpLog, hCm, Bool.and_false, Bool.or_false]
  · simp only [if_true]
    rw [hasBit_clearBits_other _ _ _ hC, hasBit_or, hGm, hasBit_autoCpLog, hCm, Bool.and_false, Bool.or_false,
      Bool.or_false]

theorem hasBit_buildAttr_other (q : Req) (m : Nat) (hP : (4294967295 ^^^ BRD_POSTMASK) &&& m = m) :
    hasBit (buildAttr q) m = hasBit (attr1 q) m := by
  unfold buildAttr
  split
  · exact hasBit_clearBits_other _ _ _ hP
  · rfl

/-- the attribute and level rules of `mNewbrd`, bit by bit, for both values of DEFAULT_AUTOCPLOG. -/
theorem attr_rules (q : Req) :
    hasBit (buildAttr q) BRD_GROUP = q.isGroup ∧
    hasBit (buildAttr q) BRD_CPLOG = (!q.isGroup && (q.autoCpLog || hasBit q.attr BRD_CPLOG)) ∧
    hasBit (buildAttr q) BRD_HIDE = hasBit q.attr BRD_HIDE ∧
    hasBit (buildAttr q) BRD_POSTMASK =
      (hasBit q.ulevel PERM_BOARD && !hasBit q.attr BRD_HIDE && hasBit q.attr BRD_POSTMASK) ∧
    buildLevel q = (if hasBit q.ulevel PERM_BOARD && !hasBit q.attr BRD_HIDE then q.level else 0) := by
  have a1H : hasBit (attr1 q) BRD_HIDE = hasBit q.attr BRD_HIDE :=
    hasBit_attr1_other q _ (by decide) (by decide) (by decide) (by decide)
  have a1P : hasBit (attr1 q) BRD_POSTMASK = hasBit q.attr BRD_POSTMASK :=
    hasBit_attr1_other q _ (by decide) (by decide) (by decide) (by decide)
  -- a caller without PERM_BOARD and every hidden board lose post-mask and level
  have hr : restricted q = !(hasBit q.ulevel PERM_BOARD && !hasBit q.attr BRD_HIDE) := by
    unfold restricted
    rw [a1H]
    cases hasBit q.ulevel PERM_BOARD <;> cases hasBit q.attr BRD_HIDE <;> rfl
  refine ⟨?_, ?_, ?_, ?_, ?_⟩
  · rw [hasBit_buildAttr_other q _ (by decide), hasBit_attr1_group]
  · rw [hasBit_buildAttr_other q _ (by decide), hasBit_attr1_cplog]
  · rw [hasBit_buildAttr_other q _ (by decide), a1H]
  · unfold buildAttr
    rw [hr]
    cases hasBit q.ulevel PERM_BOARD && !hasBit q.attr BRD_HIDE
    · simp only [Bool.not_false, if_true, Bool.false_and]; exact hasBit_clearBits_self _ _ (by decide)
    · simp only [Bool.not_true, Bool.false_eq_true, if_false, Bool.true_and]; exact a1P
  · unfold buildLevel
    rw [hr]
    cases hasBit q.ulevel PERM_BOARD && !hasBit q.attr BRD_HIDE <;> rfl

/-- a hidden board leaves `mNewbrd` without post-mask and with level 0. -/
theorem hide_facts (q : Req) (hh : hasBit (buildAttr q) BRD_HIDE = true) :
    hasBit (buildAttr q) BRD_POSTMASK = false ∧ buildLevel q = 0 := by
  obtain ⟨_, _, hH, hP, hL⟩ := attr_rules q
  -- both rules carry the conjunct `!HIDE`, here `!true`
  rw [hP, hL, ← hH, hh]
  simp only [Bool.not_true, Bool.and_false, Bool.false_and, Bool.false_eq_true, if_false, and_self]

end PttVerif.C12
