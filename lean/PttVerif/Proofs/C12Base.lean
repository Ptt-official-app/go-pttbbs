import PttVerif.Model.C12
/-
C12 — what the proofs take from the regenerated source data (`Gen.NewBoard`), and the definitions the statements of
`Props/C12.lean` use beside those of the model.
-/
namespace PttVerif.C12
open PttVerif

/-! ### the regenerated facts the model's behaviour is selected by

Every proof that depends on what `Gen/NewBoard.lean` says about the source goes through one of these: when the
source changes, they stop checking. -/

theorem gen_isValidIndex : Gen.NewBoard.isValidIndex = "b[idx]" := rfl

theorem gen_isValidBounds : Gen.NewBoard.isValidLenLo = 2 ∧ Gen.NewBoard.isValidLenHi = 12 ∧
    Gen.NewBoard.isValidLoopStart = 1 ∧ Gen.NewBoard.isValidExtraChars = [95, 45, 46] := ⟨rfl, rfl, rfl, rfl⟩

theorem gen_subst : Gen.NewBoard.substituteIndex = "zeroBased" := rfl

theorem gen_rmdir : rmdirOnFail = true := by decide +kernel

theorem gen_parent : parentChecked = true := by decide +kernel

/-- the shared copy the new board gets. -/
def newCopy (users : List Bytes) (q : Req) : Rec :=
  if postMaskWritten users q then
    { shmOf (normalise users q) with attr := (normalise users q).attr ||| BRD_POSTMASK }
  else shmOf (normalise users q)

/-- what an accepted request leaves behind in slot `k`. -/
structure Accepted (s s' : State) (q : Req) (k : Nat) : Prop where
  brd : s'.brd[k]? = some (normalise s.users q)
  cache : s'.cache[k]? = some (newCopy s.users q)
  bmc : s'.bmcache[k]? = some (parseBMList s.users (normalise s.users q).bm)
  frameBrd : ∀ j, j ≠ k → s'.brd[j]? = s.brd[j]?
  frameCache : ∀ j, j ≠ k → s'.cache[j]? = s.cache[j]?
  frameBmc : ∀ j, j ≠ k → s'.bmcache[j]? = s.bmcache[j]?
  count : s'.bnumber = if k < s.brd.length then s.bnumber else s.bnumber + 1

/-! ### an insertion sort -/

def insertBy (key : Nat → Bytes) (x : Nat) : List Nat → List Nat
  | [] => [x]
  | y :: ys => if key x < key y then x :: y :: ys else y :: insertBy key x ys

def insSort : Sorter := fun key n => (List.range n).foldr (insertBy key) []

/-! ### the state before ReloadBCache -/

/-- a freshly attached segment (zeroed) and a `.BRD` of at most MAX_BOARD complete records. -/
def fresh (brd : List Rec) (users : List Bytes) (letters : List Nat) (dirs : List Bytes) : State :=
  { brd := brd, tail := [], cache := List.replicate MAXB Rec.zero, bnumber := 0, sortedN := List.replicate MAXB 0,
    sortedC := List.replicate MAXB 0, bmcache := List.replicate MAXB [0, 0, 0, 0], users := users,
    letters := letters, dirs := dirs }

end PttVerif.C12
