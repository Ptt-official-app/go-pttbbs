import PttVerif.Proofs.C06
/-
C06 — GetRecords lists a window of positions, a prefix of `rest` (what remains to be listed from a position); the page
walk over the abstract index (`walk`) cuts the listing into the pages `pagesOf`.
-/
namespace PttVerif.C06
open PttVerif

/-! ### GetRecords: the window of positions -/

/-- `[s, s+1, …]`, `r` positions. -/
def upFrom : Int → Nat → List Int
  | _, 0 => []
  | s, r + 1 => s :: upFrom (s + 1) r

/-- `[s, s-1, …]`, `r` positions. -/
def downFrom : Int → Nat → List Int
  | _, 0 => []
  | s, r + 1 => s :: downFrom (s - 1) r

/-- a 1-based position together with the record stored there. -/
def withEntry (idx : Index) (p : Int) : Int × Entry := (p, ent idx (p - 1))

theorem upFrom_length : ∀ (r : Nat) (s : Int), (upFrom s r).length = r := by
  intro r; induction r with
  | zero => intro s; rfl
  | succ r ih => intro s; simp [upFrom, ih]

theorem downFrom_length : ∀ (r : Nat) (s : Int), (downFrom s r).length = r := by
  intro r; induction r with
  | zero => intro s; rfl
  | succ r ih => intro s; simp [downFrom, ih]

theorem upFrom_getElem? : ∀ (k r : Nat) (s : Int), k < r → (upFrom s r)[k]? = some (s + k)
  | 0, r + 1, s, _ => by rw [Int.natCast_zero, Int.add_zero]; rfl
  | k + 1, r + 1, s, h => by
    rw [upFrom, List.getElem?_cons_succ, upFrom_getElem? k r (s + 1) (Nat.lt_of_succ_lt_succ h),
      Int.natCast_succ, Int.add_assoc, Int.add_comm 1]

theorem downFrom_getElem? : ∀ (k r : Nat) (s : Int), k < r → (downFrom s r)[k]? = some (s - k)
  | 0, r + 1, s, _ => by rw [Int.natCast_zero, Int.sub_zero]; rfl
  | k + 1, r + 1, s, h => by
    rw [downFrom, List.getElem?_cons_succ, downFrom_getElem? k r (s - 1) (Nat.lt_of_succ_lt_succ h),
      Int.natCast_succ, Int.sub_sub, Int.add_comm 1]

theorem upFrom_drop : ∀ (k r : Nat) (s : Int), (upFrom s r).drop k = upFrom (s + k) (r - k)
  | 0, r, s => by rw [Int.natCast_zero, Int.add_zero]; rfl
  | k + 1, 0, s => by rw [Nat.zero_sub]; rfl
  | k + 1, r + 1, s => by
    rw [upFrom, List.drop_succ_cons, upFrom_drop k r (s + 1), Nat.succ_sub_succ,
      Int.natCast_succ, Int.add_assoc, Int.add_comm 1]

theorem downFrom_drop : ∀ (k r : Nat) (s : Int), (downFrom s r).drop k = downFrom (s - k) (r - k)
  | 0, r, s => by rw [Int.natCast_zero, Int.sub_zero]; rfl
  | k + 1, 0, s => by rw [Nat.zero_sub]; rfl
  | k + 1, r + 1, s => by
    rw [downFrom, List.drop_succ_cons, downFrom_drop k r (s - 1), Nat.succ_sub_succ,
      Int.natCast_succ, Int.sub_sub, Int.add_comm 1]

theorem upFrom_take : ∀ (m r : Nat) (s : Int), (upFrom s r).take m = upFrom s (min m r) := by
  intro m
  induction m with
  | zero => intro r s; rw [Nat.zero_min]; rfl
  | succ m ih =>
    intro r s
    cases r with
    | zero => rfl
    | succ r => rw [Nat.succ_min_succ]; simp only [upFrom, List.take_succ_cons, ih]

theorem downFrom_take : ∀ (m r : Nat) (s : Int), (downFrom s r).take m = downFrom s (min m r) := by
  intro m
  induction m with
  | zero => intro r s; rw [Nat.zero_min]; rfl
  | succ m ih =>
    intro r s
    cases r with
    | zero => rfl
    | succ r => rw [Nat.succ_min_succ]; simp only [downFrom, List.take_succ_cons, ih]

/-- the window of positions GetRecords lists. -/
def Spec.window (len : Nat) (start : Int) (n : Nat) (isDesc : Bool) : List Int :=
  if start > len then []
  else if isDesc then downFrom start (min n start.toNat)
  else upFrom start (min n (len + 1 - start).toNat)

/-- what remains to be listed from `s`: the 1-based positions from `s` to the end of a file of `L` records, in
listing direction. -/
def rest (L : Nat) (isDesc : Bool) (s : Int) : List Int :=
  if isDesc then downFrom s s.toNat else upFrom s ((L : Int) + 1 - s).toNat

def stepBy (isDesc : Bool) (s : Int) (k : Nat) : Int := if isDesc then s - k else s + k

theorem window_eq_take {L : Nat} {s : Int} (hs : s ≤ L) (m : Nat) (isDesc : Bool) :
    Spec.window L s m isDesc = (rest L isDesc s).take m := by
  unfold Spec.window rest
  rw [if_neg (Int.not_lt.mpr hs)]
  cases isDesc
  · exact (upFrom_take m _ s).symm
  · exact (downFrom_take m _ s).symm

theorem rest_length (L : Nat) (isDesc : Bool) (s : Int) :
    (rest L isDesc s).length = if isDesc then s.toNat else ((L : Int) + 1 - s).toNat := by
  unfold rest
  cases isDesc
  · exact upFrom_length _ s
  · exact downFrom_length _ s

theorem rest_cons {L : Nat} {s : Int} (hs : 1 ≤ s) (hsL : s ≤ L) (isDesc : Bool) :
    rest L isDesc s = s :: rest L isDesc (stepBy isDesc s 1) := by
  unfold rest stepBy
  cases isDesc
  · simp only [Bool.false_eq_true, if_false]
    obtain ⟨r, hr⟩ : ∃ r, ((L : Int) + 1 - s).toNat = r + 1 :=
      Nat.exists_eq_succ_of_ne_zero (Nat.ne_of_gt (Int.lt_toNat.mpr (by omega)))
    rw [← Int.sub_sub, Int.toNat_sub', hr]
    rfl
  · simp only [if_true]
    obtain ⟨r, hr⟩ : ∃ r, s.toNat = r + 1 := Nat.exists_eq_succ_of_ne_zero (Nat.ne_of_gt (Int.lt_toNat.mpr hs))
    rw [Int.toNat_sub', hr]
    rfl

theorem rest_past {L : Nat} {s : Int} (hs : 1 ≤ s) (hsL : s ≤ L) (isDesc : Bool)
    (hout : stepBy isDesc s 1 = 0 ∨ stepBy isDesc s 1 > L) : rest L isDesc (stepBy isDesc s 1) = [] := by
  unfold rest stepBy at *
  cases isDesc
  · simp only [Bool.false_eq_true, if_false] at hout ⊢
    rw [show s + (1 : Nat) = (L : Int) + 1 by omega, Int.sub_self]
    rfl
  · simp only [if_true] at hout ⊢
    rw [show s - (1 : Nat) = 0 by omega]
    rfl

theorem getRecordsLoop_eq (idx : Index) (isDesc : Bool) : ∀ (n : Nat) (s : Int), 0 ≤ s →
    ((s = 0 ∨ s > idx.length) → rest idx.length isDesc s = []) →
    getRecordsLoop idx isDesc n s = ((rest idx.length isDesc s).take n).map (withEntry idx) := by
  intro n
  induction n with
  | zero => intro s _ _; rfl
  | succ n ih =>
    intro s h0 hs
    unfold getRecordsLoop
    by_cases hout : s = 0 ∨ s > idx.length
    · rw [if_pos hout, hs hout]
      rfl
    · have h1 : 1 ≤ s := Int.lt_iff_le_and_ne.mpr ⟨h0, fun h => hout (Or.inl h.symm)⟩
      have h2 : s ≤ idx.length := Int.not_lt.mp fun h => hout (Or.inr h)
      rw [if_neg hout, rd_ok (Int.sub_nonneg_of_le h1) (Int.sub_one_lt_of_le h2),
        rest_cons h1 h2]
      simp only [List.take_succ_cons, List.map_cons]
      have h0' : 0 ≤ stepBy isDesc s 1 := by
        cases isDesc
        · exact Int.add_nonneg h0 (by decide)
        · exact Int.sub_nonneg_of_le h1
      rw [← ih (stepBy isDesc s 1) h0' (rest_past h1 h2 isDesc)]
      cases isDesc <;> rfl

theorem getRecords_spec (idx : Index) (start n : Int) (isDesc : Bool) (hs : 1 ≤ start) (hn : 0 ≤ n) :
    getRecords idx start n isDesc = .ok ((Spec.window idx.length start n.toNat isDesc).map (withEntry idx)) := by
  unfold getRecords
  rw [if_neg (Int.not_lt.mpr hs), if_neg (Int.not_lt.mpr hn)]
  by_cases hgt : start > idx.length
  · unfold Spec.window
    rw [if_pos hgt]
    cases hn' : n.toNat with
    | zero => rfl
    | succ m => unfold getRecordsLoop; rw [if_pos (Or.inr hgt)]; rfl
  · rw [window_eq_take (Int.not_lt.mp hgt), getRecordsLoop_eq idx isDesc _ _ (Int.le_trans (by decide) hs)
      fun h => h.elim (fun e => absurd (e ▸ hs) (by decide)) fun h' => absurd h' hgt]

/-! ### one page load and the cursor of a present entry -/

theorem pttLoadWith_eq {ε} (records : Int → Int → Bool → R (List (Int × ε))) (total start : Int) (n : Nat)
    (isDesc : Bool) (l : List (Int × ε)) (ht : total ≠ 0) (hst : ¬ (start = 0 ∧ isDesc = true))
    (hr : records start ((n : Int) + 1) isDesc = .ok l) (hl : l.length ≤ n + 1) :
    pttLoadWith records total start n isDesc =
      .ok ⟨l.take n, if isDesc then decide (start = total) else decide (l.length ≠ n + 1), l[n]?, start⟩ := by
  unfold pttLoadWith
  rw [if_neg ht]
  simp only [if_neg hst]
  rw [hr]
  simp only
  by_cases hlen : l.length = n + 1
  · rw [if_pos hlen]
  · rw [if_neg hlen]
    have hle : l.length ≤ n := Nat.le_of_lt_succ (Nat.lt_of_le_of_ne hl hlen)
    rw [List.take_of_length_le hle, List.getElem?_eq_none hle]

theorem map_fst_withEntry (idx : Index) (l : List Int) : (l.map (withEntry idx)).map (·.1) = l := by
  induction l with
  | nil => rfl
  | cons a l ih => simp [withEntry, ih]

/-- positioning the cursor of a parsable entry finds that entry (fresh total). -/
theorem pttFindStart_present {idx : Index} (S : SortedT idx idx.length) (U : UniqueKeysT idx idx.length)
    (i t : Int) (ht : tm idx i = some t) (isDesc : Bool) :
    pttFindStart idx idx.length t (some (ent idx i).key) isDesc = .ok (i + 1) := by
  obtain ⟨h0, h1⟩ := tm_some_range ht
  unfold pttFindStart
  rw [if_neg (Int.ne_of_gt (Int.lt_of_le_of_lt h0 h1)), find_spec (Nat.le_refl _) S U]
  unfold Spec.find
  rw [Spec.position_of_hit U h1 ⟨ht, beq_self_eq_true _⟩ isDesc]
  simp only
  rw [Int.toNat_of_nonneg h0]

/-! ### the page walk

A page load shows the first `n` positions of the rest and takes the next one as look-ahead, whose cursor leads to
the rest from there. -/

/-- the pages a client sees when `l` is listed `n` at a time.  `fuel` bounds the number of pages; when it runs out
the remainder is one page, so the theorems pass more than the length of the listing. -/
def pagesOf (n : Nat) : Nat → List Int → List (List Int)
  | 0, l => [l]
  | f + 1, l => if l.length ≤ n then [l] else l.take n :: pagesOf n f (l.drop n)

theorem rest_drop {L : Nat} {isDesc : Bool} {s : Int} {k : Nat} (hs : 1 ≤ s) (hsL : s ≤ L)
    (hk : k < (rest L isDesc s).length) :
    (rest L isDesc s)[k]? = some (stepBy isDesc s k) ∧ 1 ≤ stepBy isDesc s k ∧ stepBy isDesc s k ≤ L ∧
      (rest L isDesc s).drop k = rest L isDesc (stepBy isDesc s k) := by
  rw [rest_length] at hk
  unfold rest stepBy
  cases isDesc
  · simp only [Bool.false_eq_true, if_false] at hk ⊢
    have hlt : (k : Int) < L + 1 - s := Int.lt_toNat.mp hk
    rw [upFrom_getElem? k _ s hk, upFrom_drop, ← Int.toNat_sub', Int.sub_sub]
    exact ⟨rfl, by omega, by omega, rfl⟩
  · simp only [if_true] at hk ⊢
    have hlt : (k : Int) < s := Int.lt_toNat.mp hk
    rw [downFrom_getElem? k _ s hk, downFrom_drop, ← Int.toNat_sub']
    exact ⟨rfl, by omega, by omega, rfl⟩

theorem pttLoad_rest (idx : Index) (n : Nat) (isDesc : Bool) {s : Int} (hs : 1 ≤ s) (hsL : s ≤ idx.length) :
    ∃ p, pttLoad idx idx.length s n isDesc = .ok p ∧ p.items.map (·.1) = (rest idx.length isDesc s).take n ∧
      p.next = ((rest idx.length isDesc s)[n]?).map (withEntry idx) := by
  have hrec := getRecords_spec idx s ((n : Int) + 1) isDesc hs (Int.le_add_one (Int.natCast_nonneg n))
  rw [show ((n : Int) + 1).toNat = n + 1 from Int.toNat_natCast (n + 1), window_eq_take hsL] at hrec
  have hb := pttLoadWith_eq (getRecords idx) idx.length s n isDesc _
    (Int.ne_of_gt (Int.lt_of_lt_of_le hs hsL)) (fun h => absurd (h.1 ▸ hs) (by decide)) hrec
    (by rw [List.length_map, List.length_take]; exact Nat.min_le_left _ _)
  refine ⟨_, hb, ?_, ?_⟩
  · simp only
    rw [← List.map_take, List.take_take, Nat.min_eq_left (Nat.le_succ n), map_fst_withEntry]
  · simp only
    rw [List.getElem?_map, List.getElem?_take_of_lt (Nat.lt_succ_self n)]

theorem walkFrom_eq {idx : Index} (S : SortedT idx idx.length) (U : UniqueKeysT idx idx.length)
    (n : Nat) (hn : 1 ≤ n) (isDesc : Bool) :
    ∀ (fuel : Nat) (s : Int), 1 ≤ s → s ≤ idx.length → (rest idx.length isDesc s).length ≤ fuel →
      (∀ m x, 1 ≤ m → (rest idx.length isDesc s)[m * n]? = some x → Valid idx (x - 1)) →
      walkFrom idx idx.length n isDesc fuel s = .ok (pagesOf n fuel (rest idx.length isDesc s)) := by
  intro fuel
  induction fuel with
  | zero =>
    intro s h1 h2 h3 _
    rw [rest_cons h1 h2] at h3
    exact absurd h3 (Nat.not_succ_le_zero _)
  | succ f ih =>
    intro s h1 h2 h3 hla
    obtain ⟨p, hp, hitems, hnext⟩ := pttLoad_rest idx n isDesc h1 h2
    unfold walkFrom
    rw [hp]
    simp only [hitems, hnext]
    rw [pagesOf]
    by_cases hlen : (rest idx.length isDesc s).length ≤ n
    · rw [List.getElem?_eq_none hlen, if_pos hlen, List.take_of_length_le hlen]
      rfl
    · obtain ⟨hx, x1, x2, hdrop⟩ := rest_drop h1 h2 (Nat.lt_of_not_le hlen)
      obtain ⟨t, ht⟩ := valid_iff.mp (hla 1 _ (Nat.le_refl _) (by rw [Nat.one_mul]; exact hx))
      rw [hx, if_neg hlen]
      simp only [Option.map_some, withEntry]
      rw [show (ent idx (stepBy isDesc s n - 1)).time? = some t from ht]
      simp only
      rw [pttFindStart_present S U _ t ht isDesc]
      simp only
      rw [Int.sub_add_cancel, ih _ x1 x2 ?_ ?_, hdrop]
      · rfl
      · rw [← hdrop, List.length_drop]; omega
      · intro m x hm hmx
        rw [← hdrop, List.getElem?_drop] at hmx
        exact hla (m + 1) x (Nat.le_add_left 1 m) (by rw [Nat.succ_mul, Nat.add_comm]; exact hmx)

/-- `s0` is a variable with its value as a hypothesis so that `hla` (the look-ahead elements, `n`, `2n`, … places
after `s0`, are parsable) can speak of it for both directions at once; the callers give the value and `rfl`. -/
theorem walk_eq {idx : Index} (S : SortedT idx idx.length) (U : UniqueKeysT idx idx.length) (n : Nat) (hn : 1 ≤ n)
    (isDesc : Bool) (s0 : Int) (hs0 : s0 = if isDesc then (idx.length : Int) else 1)
    (hla : ∀ m : Nat, 1 ≤ m → m * n < idx.length → Valid idx (stepBy isDesc s0 (m * n) - 1)) :
    walk idx n isDesc =
      .ok (pagesOf n (idx.length + 1) (if isDesc then downFrom idx.length idx.length else upFrom 1 idx.length)) := by
  by_cases h0 : idx.length = 0
  · have : idx = [] := List.eq_nil_of_length_eq_zero h0
    subst this
    cases isDesc <;> simp [walk, walkFrom, pttLoad, pttLoadWith, pagesOf, upFrom, downFrom]
  · have hL : (1 : Int) ≤ idx.length := Int.ofNat_le.mpr (Nat.pos_of_ne_zero h0)
    obtain ⟨hz, hr, h1, h2⟩ : walk idx n isDesc = walkFrom idx idx.length n isDesc (idx.length + 1) s0 ∧
        rest idx.length isDesc s0 = (if isDesc then downFrom idx.length idx.length else upFrom 1 idx.length) ∧
        1 ≤ s0 ∧ s0 ≤ idx.length := by
      subst hs0
      cases isDesc
      · have hr : rest idx.length false 1 = upFrom 1 idx.length := by
          unfold rest; rw [Int.add_sub_cancel]; rfl
        exact ⟨rfl, hr, Int.le_refl _, hL⟩
      · have hr : rest idx.length true idx.length = downFrom idx.length idx.length := by
          unfold rest; rw [if_pos rfl, Int.toNat_natCast]
        refine ⟨?_, hr, hL, Int.le_refl _⟩
        -- a descending walk from 0 starts at the total
        have hp : pttLoad idx idx.length 0 n true = pttLoad idx idx.length idx.length n true := by
          have h1 : ¬ ((idx.length : Int) = 0) := Int.ne_of_gt hL
          unfold pttLoad pttLoadWith
          simp only [h1, if_false, if_true, and_self, false_and]
        unfold walk walkFrom
        simp only [if_true]
        rw [hp]
    have hlen : (rest idx.length isDesc s0).length = idx.length := by
      rw [hr]
      cases isDesc
      · exact upFrom_length _ _
      · exact downFrom_length _ _
    rw [hz, ← hr]
    refine walkFrom_eq S U n hn isDesc _ _ h1 h2 (by rw [hlen]; exact Nat.le_succ _) fun m x hm hx => ?_
    obtain ⟨hlt, _⟩ := List.getElem?_eq_some_iff.mp hx
    rw [(rest_drop h1 h2 hlt).1] at hx
    cases hx
    exact hla m hm (hlen ▸ hlt)

end PttVerif.C06
