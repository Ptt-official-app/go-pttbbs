import PttVerif.Props.C02
import PttVerif.Proofs.C03
/-
C03 — the hashing interface `Crypto` instantiated with the DES model of property C02 (cmbbs.GenPasswd with the drawn
salt number as a parameter, cmbbs.CheckPasswd), and its laws from the theorems C02 proves.
-/
namespace PttVerif.C03
open PttVerif

theorem effKey8_eq (p : Bytes) : effKey8 p = C02.effKey8 p := rfl

/-- GenPasswd / CheckPasswd of the C02 model.  GenPasswd never fails there (`genPasswd_des`), so the `[]` of `gen` is
never produced; a CheckPasswd that fails answers `false` here.  `zero` is the all-zero `Passwd_t`: PASSLEN = 14 bytes. -/
def des : Crypto where
  H := List Nat
  zero := List.replicate 14 0
  gen := fun r p => match C02.GenPasswdWith r p with
    | .ok h => h
    | .error _ => []
  check := fun h q => match C02.CheckPasswd h q with
    | .ok b => b
    | .error _ => false

theorem des_lawful : Lawful des := by
  refine ⟨?_, ?_, ?_⟩
  · intro r p hp h0
    have h0' : p[0]? ≠ some 0 := by
      cases p with
      | nil => exact absurd rfl hp
      | cons x xs => simpa using h0
    obtain ⟨h, hg, hc⟩ := C02.Props.check_gen r p hp h0'
    simp only [des, hg, hc]
  · intro h p q e
    simp only [des, C02.Props.checkPasswd_same_key h p q e]
  · intro q
    -- only the half about `CheckPasswd (replicate 14 0) q` is wanted; the salt number and the password are dummies
    simp only [des, (C02.Props.empty_hash_never_verifies 0 [] q (Or.inl rfl)).2]

/-- the model's `genPasswd` on the DES instance IS the C02 model of cmbbs.GenPasswd, for every password and every
drawn number. -/
theorem genPasswd_des (r : Nat) (p : Bytes) : C02.GenPasswdWith r p = .ok (genPasswd des r p) := by
  unfold genPasswd
  by_cases hz : p.length = 0 ∨ p.headD 0 = 0
  · rw [if_pos hz]
    have hz' : p = [] ∨ p[0]? = some 0 := by
      cases p with
      | nil => exact Or.inl rfl
      | cons x xs => right; rcases hz with h | h <;> simp at h ⊢; exact h
    exact (C02.Props.empty_hash_never_verifies r p [] hz').1
  · rw [if_neg hz]
    obtain ⟨h, hh⟩ := C02.Props.genPasswd_total r p
    simp only [des, hh]

end PttVerif.C03
