import PttVerif.Common
/-
`cstr`, the C reading of a byte array (the bytes before the first NUL), as the models of several properties use it.
-/
namespace PttVerif

theorem cstr_nil : cstr [] = [] := rfl

theorem cstr_cons (x : Nat) (xs : List Nat) : cstr (x :: xs) = if x = 0 then [] else x :: cstr xs := by
  unfold cstr
  by_cases h : x = 0 <;> simp [h]

theorem cstr_prefix (s : List Nat) : cstr s <+: s := List.takeWhile_prefix _

theorem mem_of_mem_cstr {x : Nat} {s : List Nat} (h : x ∈ cstr s) : x ∈ s := (cstr_prefix s).subset h

theorem cstr_length_le (s : List Nat) : (cstr s).length ≤ s.length := (cstr_prefix s).length_le

theorem take_cstr_length (s : List Nat) : s.take (cstr s).length = cstr s :=
  (List.prefix_iff_eq_take.mp (cstr_prefix s)).symm

theorem cstr_nonzero (s : List Nat) : ∀ x ∈ cstr s, x ≠ 0 := fun x hx =>
  of_decide_eq_true (List.all_eq_true.mp List.all_takeWhile x hx)

theorem cstr_of_nonzero (s : List Nat) (h : ∀ x ∈ s, x ≠ 0) : cstr s = s := by
  have := List.takeWhile_append_of_pos (l₂ := []) fun x hx => decide_eq_true (h x hx)
  rwa [List.append_nil, List.takeWhile_nil, List.append_nil] at this

theorem cstr_idem (s : List Nat) : cstr (cstr s) = cstr s := cstr_of_nonzero _ (cstr_nonzero s)

/-- a byte map that sends exactly NUL to NUL commutes with the C reading (case folding is such a map). -/
theorem cstr_map {f : Nat → Nat} (hf : ∀ c, f c = 0 ↔ c = 0) (s : List Nat) : cstr (s.map f) = (cstr s).map f := by
  have : (fun c => decide (c ≠ 0)) ∘ f = fun c => decide (c ≠ 0) := funext fun c => by simp [hf]
  unfold cstr
  rw [List.takeWhile_map, this]

theorem cstr_replicate_zero (k : Nat) : cstr (List.replicate k 0) = [] := by
  cases k with
  | zero => rfl
  | succ k => rw [List.replicate_succ, cstr_cons, if_pos rfl]

theorem cstr_append_zeros (l : List Nat) (k : Nat) : cstr (l ++ List.replicate k 0) = cstr l := by
  induction l with
  | nil => exact cstr_replicate_zero k
  | cons x xs ih => rw [List.cons_append, cstr_cons, cstr_cons, ih]

/-- what Go's `copy` into a zeroed array of length `n` leaves of a string: its C reading cut at `n`. -/
theorem cstr_copyInto (n : Nat) (src : List Nat) : cstr (copyInto n src) = (cstr src).take n := by
  unfold copyInto
  rw [cstr_append_zeros]
  exact List.take_takeWhile.symm

end PttVerif
