import PttVerif.Model.C10
import PttVerif.Proofs.C05
import PttVerif.Proofs.Cstr
/-
C10 — lemmas behind the property theorems of Props/C10.lean.

The comment path touches the index in one way only: ModifyDirLite rewrites ONE entry, and of that entry the
`Modified` field and the `Recommend` byte (`commentDir`).  Props reads every accepted request through `Passes` (the
request passed every test on the complete entry `k`) and `accepted` (the state it leaves), by way of `recommend_ok`.
The literals 28..31, 33 and 128 are the `Modified` field, `offRecommend` and `dirSz` of `Gen.RecFile`;
`Props.type_marks` states their values.
-/
namespace PttVerif.C10
open PttVerif PttVerif.C05
open Gen.Comment Gen.RecFile

-- the examples and witnesses of Props/C10.lean decide equations between answers of `getRecord` and `phaseA`
deriving instance DecidableEq for Except

/-! ### the entry image ModifyDirLite writes for a comment -/

theorem setField_eq_writeAt (r : List Nat) (off len : Nat) (bs : List Nat) (h : off + len ≤ r.length) (hl : 0 < len) :
    setField r off len bs = writeAt r off (copyInto len bs) := by
  have hne : copyInto len bs ≠ [] := List.ne_nil_of_length_pos (by rw [copyInto_length]; exact hl)
  rw [writeAt_ne_nil _ _ _ hne, copyInto_length, Nat.sub_eq_zero_of_le (by omega)]
  unfold setField
  rw [List.replicate_zero, List.append_nil]

theorem setField_getD_self (r : List Nat) (off : Nat) (h : off < r.length) :
    setField r off 1 [r.getD off 0] = r := by
  unfold setField
  have : copyInto 1 [r.getD off 0] = [r[off]] := by
    rw [List.getD_eq_getElem?_getD, List.getElem?_eq_getElem h]; rfl
  rw [this, List.take_append_getElem h, List.take_append_drop]

theorem getD_eq_of_getElem? {a b : List Nat} {p q : Nat} (h : a[p]? = b[q]?) : a.getD p 0 = b.getD q 0 := by
  rw [List.getD_eq_getElem?_getD, List.getD_eq_getElem?_getD, h]

theorem getElem?_setField (r : List Nat) (off len : Nat) (bs : List Nat) (h : off + len ≤ r.length) (hl : 0 < len)
    (p : Nat) :
    (setField r off len bs)[p]? = if off ≤ p ∧ p < off + len then (copyInto len bs)[p - off]? else r[p]? := by
  rw [setField_eq_writeAt _ _ _ _ h hl]
  by_cases hin : off ≤ p ∧ p < off + len
  · rw [if_pos hin]
    exact getElem?_writeAt_in _ _ _ _ hin.1 (by rw [copyInto_length]; exact hin.2)
  · rw [if_neg hin]
    rcases Nat.lt_or_ge p off with h1 | h1
    · exact getElem?_writeAt_before _ _ _ _ h1 (by omega)
    · exact getElem?_writeAt_after _ _ _ _ (by rw [copyInto_length]; exact Nat.le_of_not_lt fun h2 => hin ⟨h1, h2⟩)

/-- what ModifyDirLite writes when only `mtime` and `recommend` are given (the call of doAddRecommend, which
is made with a positive mtime only). -/
theorem modifyRecord_modArgs (r nm : List Nat) (mt u : Int) (hlen : r.length = 128) (hm : mt > 0) :
    modifyRecord r (modArgs nm mt u) =
      setField (setField r offModified lenModified (le32 mt.toNat)) offRecommend lenRecommend
        [recommendUpdate (r.getD offRecommend 0) u] := by
  have hl1 : (setField r offModified lenModified (le32 mt.toNat)).length = 128 := by
    rw [length_setField _ _ _ _ (by rw [hlen]; decide)]; exact hlen
  have h33 : (setField r offModified lenModified (le32 mt.toNat)).getD offRecommend 0 = r.getD offRecommend 0 :=
    getD_eq_of_getElem? (by rw [getElem?_setField _ _ _ _ (by rw [hlen]; decide) (by decide), if_neg (by decide)])
  -- no title, owner, date or multi: three assignments are left; with no mode bit the middle one stores the
  -- Filemode byte back as read
  show (let r1 := if mt > 0 then setField r offModified lenModified (le32 mt.toNat) else r
    let r2 := setField r1 offFilemode lenFilemode [r1.getD offFilemode 0]
    setField r2 offRecommend lenRecommend [recommendUpdate (r2.getD offRecommend 0) u]) = _
  dsimp only
  rw [if_pos hm, show lenFilemode = 1 from rfl, setField_getD_self _ _ (by rw [hl1]; decide), h33]

theorem modifyRecord_modArgs_getElem? (r nm : List Nat) (mt u : Int) (hlen : r.length = 128) (hm : mt > 0) (p : Nat) :
    (modifyRecord r (modArgs nm mt u))[p]? =
      if p = 33 then some (recommendUpdate (r.getD 33 0) u)
      else if 28 ≤ p ∧ p < 32 then (le32 mt.toNat)[p - 28]?
      else r[p]? := by
  have hl1 : (setField r offModified lenModified (le32 mt.toNat)).length = 128 := by
    rw [length_setField _ _ _ _ (by rw [hlen]; decide)]; exact hlen
  rw [modifyRecord_modArgs r nm mt u hlen hm, getElem?_setField _ _ _ _ (by rw [hl1]; decide) (by decide),
    getElem?_setField _ _ _ _ (by rw [hlen]; decide) (by decide)]
  by_cases h : p = 33
  · subst h
    rw [if_pos (by decide), if_pos rfl]
    rfl
  · rw [if_neg (fun h' => h (Nat.le_antisymm (Nat.le_of_lt_succ h'.2) h'.1)), if_neg h]
    rfl

/-! ### score arithmetic -/

/-- the stored byte denotes a score within the bounds of the property. -/
def InRange (b : Nat) : Prop := -100 ≤ toInt8 b ∧ toInt8 b ≤ 100

instance (b : Nat) : Decidable (InRange b) := by unfold InRange; infer_instance

/-- saturation at ±100. -/
def clamp (v : Int) : Int := if v > 100 then 100 else if v < -100 then -100 else v

/-- the property's score delta of a comment type: +1 push, -1 boo, 0 otherwise. -/
def delta (t : Nat) : Int := if t = COMMENT_TYPE_RECOMMEND then 1 else if t = COMMENT_TYPE_BOO then -1 else 0

/-- the byte the comment path stores for an entry whose score byte is `cur`:
doAddRecommend's guarded `update`, then ModifyDirLite's int8 sum and clamp. -/
def scoreAfter (t : Nat) (cur : Nat) : Nat := recommendUpdate cur (scoreUpdate t (toInt8 cur))

/-- the score an index denotes for its entry `j`. -/
def scoreAt (dir : Bytes) (j : Nat) : Int := toInt8 (dir.getD (j * dirSz + 33) 0)

theorem maxRec_eq : maxRec = 100 := rfl

theorem clamp_range (v : Int) : -100 ≤ clamp v ∧ clamp v ≤ 100 := by
  unfold clamp
  split
  · omega
  · split <;> omega

theorem clamp_of_range {v : Int} (h1 : -100 ≤ v) (h2 : v ≤ 100) : clamp v = v := by
  unfold clamp
  rw [if_neg (by omega), if_neg (by omega)]

theorem clamp_add_near (c d : Int) (h1 : -100 ≤ c) (h2 : c ≤ 100) (hd1 : -1 ≤ d) (hd2 : d ≤ 1) :
    -1 ≤ clamp (c + d) - c ∧ clamp (c + d) - c ≤ 1 := by
  unfold clamp
  split
  · omega
  · split <;> omega

theorem moves_add {x y z : Int} {a b : Nat} (h1 : -(a : Int) ≤ y - z) (h2 : y - z ≤ a) (h3 : -(b : Int) ≤ x - y)
    (h4 : x - y ≤ b) : -((a + b : Nat) : Int) ≤ x - z ∧ x - z ≤ ((a + b : Nat) : Int) := by
  omega

theorem toInt8_recommendUpdate (cur : Nat) (d : Int) (hd : d ≠ 0) :
    toInt8 (recommendUpdate cur d) = clamp (addInt8 d (toInt8 cur)) := by
  unfold recommendUpdate
  rw [if_neg hd]
  show toInt8 (int8Byte (clamp (addInt8 d (toInt8 cur)))) = _
  have := clamp_range (addInt8 d (toInt8 cur))
  exact toInt8_int8Byte _ (by omega) (by omega)

/-- ModifyDirLite clamps the int8 SUM; on a stored score in range a delta of at most one does not wrap. -/
theorem recommendUpdate_step (cur : Nat) (d : Int) (hr : InRange cur) (hd : d = -1 ∨ d = 0 ∨ d = 1) :
    toInt8 (recommendUpdate cur d) = clamp (toInt8 cur + d) := by
  obtain ⟨h1, h2⟩ := hr
  by_cases h0 : d = 0
  · subst h0
    rw [Int.add_zero, clamp_of_range h1 h2]; rfl
  · rw [toInt8_recommendUpdate cur d h0]
    unfold addInt8
    rw [toInt8_int8Byte _ (by omega) (by omega), Int.add_comm]

theorem recommendUpdate_inRange (cur : Nat) (d : Int) (hr : InRange cur) (hd : d = -1 ∨ d = 0 ∨ d = 1) :
    InRange (recommendUpdate cur d) := by
  unfold InRange
  rw [recommendUpdate_step cur d hr hd]
  exact clamp_range _

theorem scoreUpdate_cases (t : Nat) (c : Int) : scoreUpdate t c = -1 ∨ scoreUpdate t c = 0 ∨ scoreUpdate t c = 1 := by
  unfold scoreUpdate
  split
  · exact .inr (.inr rfl)
  · split
    · exact .inl rfl
    · exact .inr (.inl rfl)

/-- doAddRecommend's guard gives the delta of the type, except at the bound the delta would cross - where the
clamp would undo it anyway. -/
theorem clamp_add_scoreUpdate (t : Nat) (c : Int) (h1 : -100 ≤ c) (h2 : c ≤ 100) :
    clamp (c + scoreUpdate t c) = clamp (c + delta t) := by
  unfold scoreUpdate delta
  rw [maxRec_eq]
  by_cases hp : t = COMMENT_TYPE_RECOMMEND
  · subst hp
    rw [if_pos rfl]
    by_cases hc : c < 100
    · rw [if_pos ⟨rfl, hc⟩]
    · have : c = 100 := by omega
      subst this
      decide
  · rw [if_neg (fun h => hp h.1), if_neg hp]
    by_cases hb : t = COMMENT_TYPE_BOO
    · subst hb
      rw [if_pos rfl]
      by_cases hc : c > -100
      · rw [if_pos ⟨rfl, hc⟩]
      · have : c = -100 := by omega
        subst this
        decide
    · rw [if_neg (fun h => hb h.1), if_neg hb]

theorem scoreAfter_step (t cur : Nat) (hr : InRange cur) : toInt8 (scoreAfter t cur) = clamp (toInt8 cur + delta t) := by
  unfold scoreAfter
  rw [recommendUpdate_step cur _ hr (scoreUpdate_cases _ _), clamp_add_scoreUpdate t _ hr.1 hr.2]

theorem scoreAfter_inRange (t cur : Nat) (hr : InRange cur) : InRange (scoreAfter t cur) :=
  recommendUpdate_inRange cur _ hr (scoreUpdate_cases _ _)

/-! ### the index after ModifyDirLite updated one entry for a comment -/

/-- unlike `C05.getElem?_writeAt_of_div_ne` also for `p` beyond the last complete entry (a torn tail). -/
theorem getElem?_writeAt_other_entry (f : Bytes) (sz k : Nat) (img : Bytes) (p : Nat) (hlen : img.length = sz)
    (hle : (k + 1) * sz ≤ f.length) (hp : p / sz ≠ k) : (writeAt f (k * sz) img)[p]? = f[p]? := by
  rw [Nat.add_mul, Nat.one_mul] at hle
  rcases outside_of_div_ne hp with h | h
  · exact getElem?_writeAt_before _ _ _ _ h (by omega)
  · rw [Nat.add_mul, Nat.one_mul] at h
    exact getElem?_writeAt_after _ _ _ _ (by rw [hlen]; exact h)

theorem getD_record_recommend (f : Bytes) (k : Nat) :
    (record f dirSz k).getD offRecommend 0 = f.getD (k * dirSz + 33) 0 :=
  getD_eq_of_getElem? (by rw [getElem?_record, if_pos (by decide)]; rfl)

/-- the index after doAddRecommend's call of ModifyDirLite succeeded on entry `k` (name `nm`, mtime `mt`, delta
`u`); the call is not made without an mtime. -/
def commentDir (dir : FS) (k : Nat) (nm : Bytes) (mt u : Int) : FS :=
  if mt > 0 then
    ⟨true, writeAt dir.bytes (k * dirSz) (modifyRecord (record dir.bytes dirSz k) (modArgs nm mt u))⟩
  else dir

theorem commentDir_length (dir : FS) (k : Nat) (nm : Bytes) (mt u : Int) (hle : (k + 1) * dirSz ≤ dir.bytes.length) :
    (commentDir dir k nm mt u).bytes.length = dir.bytes.length := by
  unfold commentDir
  split
  · apply length_writeAt_inside
    rw [modifyRecord_length _ _ (length_record_of_le _ _ _ hle)]
    rw [Nat.add_mul, Nat.one_mul] at hle
    exact hle
  · rfl

theorem commentDir_present (dir : FS) (k : Nat) (nm : Bytes) (mt u : Int) (hp : dir.present = true) :
    (commentDir dir k nm mt u).present = true := by
  unfold commentDir
  split
  · rfl
  · exact hp

theorem commentDir_other (dir : FS) (k : Nat) (nm : Bytes) (mt u : Int) (hle : (k + 1) * dirSz ≤ dir.bytes.length)
    (p : Nat) (hp : p / dirSz ≠ k) : (commentDir dir k nm mt u).bytes[p]? = dir.bytes[p]? := by
  unfold commentDir
  by_cases hm : mt > 0
  · rw [if_pos hm]
    dsimp only
    exact getElem?_writeAt_other_entry _ _ _ _ _ (modifyRecord_length _ _ (length_record_of_le _ _ _ hle)) hle hp
  · rw [if_neg hm]

/-- the `Recommend` byte holds `recommendUpdate` of the byte ON DISK, not of the caller's copy. -/
theorem commentDir_entry (dir : FS) (k : Nat) (nm : Bytes) (mt u : Int) (hle : (k + 1) * dirSz ≤ dir.bytes.length)
    (j : Nat) (hj : j < 128) :
    (commentDir dir k nm mt u).bytes[k * dirSz + j]? =
      if mt > 0 ∧ j = 33 then some (recommendUpdate (dir.bytes.getD (k * dirSz + 33) 0) u)
      else if mt > 0 ∧ 28 ≤ j ∧ j < 32 then (le32 mt.toNat)[j - 28]?
      else dir.bytes[k * dirSz + j]? := by
  unfold commentDir
  by_cases hm : mt > 0
  · have hrl : (record dir.bytes dirSz k).length = 128 := length_record_of_le _ _ _ hle
    rw [if_pos hm]
    simp only [hm, true_and]
    rw [getElem?_writeAt_in _ _ _ _ (Nat.le_add_right _ _)
        (Nat.add_lt_add_left (by rw [modifyRecord_length _ _ hrl]; exact hj) _), Nat.add_sub_cancel_left,
      modifyRecord_modArgs_getElem? _ _ _ _ hrl hm, getElem?_record, if_pos (show j < dirSz from hj),
      show (record dir.bytes dirSz k).getD 33 0 = _ from getD_record_recommend dir.bytes k]
  · rw [if_neg hm, if_neg (fun h => hm h.1), if_neg (fun h => hm h.1)]

theorem commentDir_score (dir : FS) (k : Nat) (nm : Bytes) (mt u : Int) (hle : (k + 1) * dirSz ≤ dir.bytes.length) :
    (commentDir dir k nm mt u).bytes.getD (k * dirSz + 33) 0 =
      if mt > 0 then recommendUpdate (dir.bytes.getD (k * dirSz + 33) 0) u else dir.bytes.getD (k * dirSz + 33) 0 := by
  rw [List.getD_eq_getElem?_getD, commentDir_entry dir k nm mt u hle 33 (by decide)]
  by_cases hm : mt > 0
  · rw [if_pos ⟨hm, rfl⟩, if_pos hm]
    rfl
  · rw [if_neg (fun h => hm h.1), if_neg (fun h => hm h.1), if_neg hm, List.getD_eq_getElem?_getD]

theorem commentDir_score_other (dir : FS) (k : Nat) (nm : Bytes) (mt u : Int) (hle : (k + 1) * dirSz ≤ dir.bytes.length)
    (j : Nat) (hjk : j ≠ k) :
    (commentDir dir k nm mt u).bytes.getD (j * dirSz + 33) 0 = dir.bytes.getD (j * dirSz + 33) 0 :=
  getD_eq_of_getElem? (commentDir_other dir k nm mt u hle _ (by
    rw [Nat.mul_comm, Nat.mul_add_div dirSz_pos, Nat.div_eq_of_lt (by decide), Nat.add_zero]
    exact hjk))

/-! ### the ways a request can end -/

def Res.isOk : Res → Bool
  | .ok _ _ => true
  | _ => false

theorem Res.ne_ok {e : Res} (h : e.isOk = false) (l : Bytes) (i : Nat) : e ≠ .ok l i := by
  intro he
  rw [he] at h
  cases h

theorem getRecord_cases (find : Bytes → Nat → Bytes → Option Nat) (dir : FS) (total : Nat) (name : Bytes) :
    (∃ e, e.isOk = false ∧ getRecord find dir total name = .error e) ∨
    ∃ k, (k + 1) * dirSz ≤ dir.bytes.length ∧
      nameEq name (field (record dir.bytes dirSz k) offFilename lenFilename) = true ∧
      getRecord find dir total name = .ok (k + 1, record dir.bytes dirSz k) := by
  unfold getRecord
  by_cases ha : (!atoiOk ((name.drop 2).take 10)) = true
  · rw [if_pos ha]; exact .inl ⟨.badName, rfl, rfl⟩
  rw [if_neg ha]
  cases find dir.bytes total name with
  | none => exact .inl ⟨.notFound, rfl, rfl⟩
  | some k =>
    dsimp only
    by_cases hl : (record dir.bytes dirSz k).length < dirSz
    · rw [if_pos hl]; exact .inl ⟨.osErr, rfl, rfl⟩
    rw [if_neg hl]
    cases hn : nameEq name (field (record dir.bytes dirSz k) offFilename lenFilename) with
    | false => exact .inl ⟨.notFound, rfl, rfl⟩
    | true =>
      refine .inr ⟨k, ?_, hn, rfl⟩
      rw [length_record, dirSz_eq] at hl
      rw [dirSz_eq]
      omega

/-- the request passes every test of Recommend on the complete entry `k`. -/
structure Passes (find : Bytes → Nat → Bytes → Option Nat) (cfg : Cfg) (st : St) (q : Req) (k : Nat) : Prop where
  complete : (k + 1) * dirSz ≤ st.dir.bytes.length
  lookup : getRecord find st.dir (st.dir.bytes.length / dirSz) q.name = .ok (k + 1, record st.dir.bytes dirSz k)
  name : nameEq q.name (field (record st.dir.bytes dirSz k) offFilename lenFilename) = true
  allowed : refusedBy cfg q (record st.dir.bytes dirSz k) = false
  text : hasLineBreak q.text = false

theorem phaseA_cases (find : Bytes → Nat → Bytes → Option Nat) (cfg : Cfg) (st : St) (q : Req) :
    (∃ e, e.isOk = false ∧ phaseA find cfg st q = .error e) ∨
    ∃ k, Passes find cfg st q k ∧
      phaseA find cfg st q = .ok ⟨k + 1, record st.dir.bytes dirSz k, formatComment cfg q, q.ctype, q.mtime⟩ := by
  unfold phaseA
  dsimp only
  by_cases ht : st.dir.bytes.length / dirSz = 0
  · rw [if_pos ht]; exact .inl ⟨.params, rfl, rfl⟩
  rw [if_neg ht]
  rcases getRecord_cases find st.dir (st.dir.bytes.length / dirSz) q.name with ⟨e, he, hg⟩ | ⟨k, hle, hne, hg⟩
  · rw [hg]; exact .inl ⟨e, he, rfl⟩
  rw [hg]
  dsimp only
  cases hr : refusedBy cfg q (record st.dir.bytes dirSz k) with
  | true => exact .inl ⟨.refused, rfl, rfl⟩
  | false =>
    cases hb : hasLineBreak q.text with
    | true => exact .inl ⟨.badText, rfl, rfl⟩
    | false => exact .inr ⟨k, ⟨hle, hg, hne, hr, hb⟩, rfl⟩

/-! ### the two phases -/

theorem doAddRecommend_eq_phaseB (st : St) (idx : Nat) (r line : Bytes) (ctype : Nat) (mtime : Int) :
    doAddRecommend st idx r line ctype mtime = phaseB st ⟨idx, r, line, ctype, mtime⟩ := by
  unfold doAddRecommend phaseB phaseWrite
  dsimp only
  cases fileGet st.files (cstr (field r offFilename lenFilename)) with
  | none => rfl
  | some old => rfl

/-- the sequential Recommend is phase A followed by phase B with nothing in between. -/
theorem recommend_eq_phases (find : Bytes → Nat → Bytes → Option Nat) (cfg : Cfg) (st : St) (q : Req) :
    recommend find cfg st q =
      match phaseA find cfg st q with
      | .error e => (st, e)
      | .ok t => phaseB st t := by
  unfold recommend phaseA
  dsimp only
  by_cases ht : st.dir.bytes.length / dirSz = 0
  · rw [if_pos ht, if_pos ht]
  rw [if_neg ht, if_neg ht]
  cases getRecord find st.dir (st.dir.bytes.length / dirSz) q.name with
  | error e => rfl
  | ok v =>
    dsimp only
    cases refusedBy cfg q v.2 with
    | true => rfl
    | false =>
      cases hasLineBreak q.text with
      | true => rfl
      | false => exact doAddRecommend_eq_phaseB _ _ _ _ _ _

/-- the index update of phase B, for ANY ticket (any copy, however stale): ModifyDirLite goes by the position
`t.idx`, the delta is decided from the copy. -/
theorem phaseIndex_cases (st : St) (t : Ticket) :
    (phaseIndex st t).1 = st ∨
    ∃ k, t.idx = k + 1 ∧ (k + 1) * dirSz ≤ st.dir.bytes.length ∧ t.mtime > 0 ∧
      phaseIndex st t =
        ({ st with dir := (commentDir st.dir k (field t.copy offFilename lenFilename) t.mtime
            (scoreUpdate t.ctype (toInt8 (t.copy.getD offRecommend 0)))) }, .ok t.line t.idx) := by
  unfold phaseIndex
  dsimp only
  by_cases hm : t.mtime > 0
  · rw [if_pos hm]
    rcases modifyDirLite_cases st.dir (t.idx : Int) (modArgs (field t.copy offFilename lenFilename) t.mtime
        (scoreUpdate t.ctype (toInt8 (t.copy.getD offRecommend 0)))) with h | h | ⟨k, hk, _, hle, _, h⟩
    · rw [h]; exact .inl rfl
    · rw [h]; exact .inl rfl
    · rw [h]
      refine .inr ⟨k, by omega, hle, hm, ?_⟩
      unfold commentDir
      rw [if_pos hm]
  · rw [if_neg hm]; exact .inl rfl

theorem phaseIndex_files (st : St) (t : Ticket) : (phaseIndex st t).1.files = st.files := by
  rcases phaseIndex_cases st t with h | ⟨_, _, _, _, h⟩
  · rw [h]
  · rw [h]

/-- the index update of phase B, byte by byte: outside the `Modified` field and the `Recommend` byte of any
entry nothing changes - neither in the addressed entry nor in any other one. -/
theorem phaseIndex_frame (st : St) (t : Ticket) (q : Nat)
    (hq : ¬(28 ≤ q % 128 ∧ q % 128 < 32) ∧ q % 128 ≠ 33) :
    (phaseIndex st t).1.dir.bytes[q]? = st.dir.bytes[q]? := by
  rcases phaseIndex_cases st t with h | ⟨k, _, hle, _, h⟩
  · rw [h]
  · rw [h]
    dsimp only
    by_cases hk : q / dirSz = k
    · have hqk : q = k * dirSz + q % 128 := by
        rw [← hk, Nat.mul_comm]
        exact (Nat.div_add_mod q dirSz).symm
      rw [hqk, commentDir_entry _ _ _ _ _ hle _ (Nat.mod_lt _ (by decide)), if_neg (fun h => hq.2 h.2),
        if_neg (fun h => hq.1 h.2)]
    · exact commentDir_other _ _ _ _ _ hle q hk

theorem phaseIndex_ok (st : St) (t : Ticket) (k : Nat) (hp : st.dir.present = true)
    (hle : (k + 1) * dirSz ≤ st.dir.bytes.length) (hidx : t.idx = k + 1)
    (hn : cstrcmpEq (field (record st.dir.bytes dirSz k) offFilename lenFilename)
      (field t.copy offFilename lenFilename) = true) :
    phaseIndex st t =
      ({ st with dir := (commentDir st.dir k (field t.copy offFilename lenFilename) t.mtime
          (scoreUpdate t.ctype (toInt8 (t.copy.getD offRecommend 0)))) }, .ok t.line t.idx) := by
  unfold phaseIndex commentDir
  dsimp only
  by_cases hm : t.mtime > 0
  · rw [if_pos hm, if_pos hm, hidx, Int.natCast_add_one, modifyDirLite_ok st.dir k _ hp hle hn]
  · rw [if_neg hm, if_neg hm]

/-- the state after an accepted request on entry `k` whose article file held `old`. -/
def accepted (cfg : Cfg) (st : St) (q : Req) (k : Nat) (old : Bytes) : St :=
  let r := record st.dir.bytes dirSz k
  { dir := commentDir st.dir k (field r offFilename lenFilename) q.mtime
      (scoreUpdate q.ctype (toInt8 (r.getD offRecommend 0))),
    files := fileSet st.files (cstr (field r offFilename lenFilename)) (old ++ formatComment cfg q) }

/-- every request on a board that has an index either fails and changes nothing, or passes on an entry whose
article exists and produces exactly `accepted`. -/
theorem recommend_cases (find : Bytes → Nat → Bytes → Option Nat) (cfg : Cfg) (st : St) (q : Req)
    (hp : st.dir.present = true) :
    (∃ e, e.isOk = false ∧ recommend find cfg st q = (st, e)) ∨
    ∃ k old, Passes find cfg st q k ∧
      fileGet st.files (cstr (field (record st.dir.bytes dirSz k) offFilename lenFilename)) = some old ∧
      recommend find cfg st q = (accepted cfg st q k old, .ok (formatComment cfg q) (k + 1)) := by
  rw [recommend_eq_phases]
  rcases phaseA_cases find cfg st q with ⟨e, he, hA⟩ | ⟨k, hk, hA⟩
  · rw [hA]; exact .inl ⟨e, he, rfl⟩
  rw [hA]
  dsimp only
  unfold phaseB phaseWrite
  dsimp only
  cases hf : fileGet st.files (cstr (field (record st.dir.bytes dirSz k) offFilename lenFilename)) with
  | none => exact .inl ⟨.noFile, rfl, rfl⟩
  | some old =>
    refine .inr ⟨k, old, hk, hf, ?_⟩
    exact phaseIndex_ok { st with files := _ } ⟨k + 1, record st.dir.bytes dirSz k, _, _, _⟩ k hp hk.complete rfl
      ((cstrcmpEq_iff _ _).2 rfl)

theorem recommend_ok {find : Bytes → Nat → Bytes → Option Nat} {cfg : Cfg} {st st' : St} {q : Req} {line : Bytes}
    {idx : Nat} (hp : st.dir.present = true) (h : recommend find cfg st q = (st', .ok line idx)) :
    ∃ k old, Passes find cfg st q k ∧
      fileGet st.files (cstr (field (record st.dir.bytes dirSz k) offFilename lenFilename)) = some old ∧
      idx = k + 1 ∧ line = formatComment cfg q ∧ st' = accepted cfg st q k old := by
  rcases recommend_cases find cfg st q hp with ⟨e, he, h'⟩ | ⟨k, old, hk, hf, h'⟩
  · rw [h'] at h
    cases h
    cases he
  · rw [h'] at h
    cases h
    exact ⟨k, old, hk, hf, rfl, rfl, rfl⟩

/-! ### article files -/

theorem fileGet_fileSet_same (fs : List (Bytes × Bytes)) (n c old : Bytes) (h : fileGet fs n = some old) :
    fileGet (fileSet fs n c) n = some c := by
  induction fs with
  | nil => simp [fileGet] at h
  | cons e rest ih =>
    unfold fileSet at ih ⊢
    simp only [List.map_cons, fileGet]
    by_cases he : e.1 = n
    · simp [he]
    · simp only [he, if_false]
      simp only [fileGet, he, if_false] at h
      exact ih h

theorem fileGet_fileSet_other (fs : List (Bytes × Bytes)) (n c m : Bytes) (h : m ≠ n) :
    fileGet (fileSet fs n c) m = fileGet fs m := by
  induction fs with
  | nil => rfl
  | cons e rest ih =>
    unfold fileSet at ih ⊢
    simp only [List.map_cons, fileGet]
    by_cases he : e.1 = n
    · have hm : ¬ e.1 = m := by intro h'; apply h; rw [← h', he]
      simp only [he, if_true]
      rw [← he, if_neg hm, if_neg hm]
      rw [he]; exact ih
    · simp only [he, if_false]
      by_cases hm : e.1 = m
      · simp [hm]
      · simp only [hm, if_false]; exact ih

theorem fileGet_fileSet_append (fs : List (Bytes × Bytes)) (m oldm x n old : Bytes)
    (hm : fileGet fs m = some oldm) (h : fileGet fs n = some old) :
    fileGet (fileSet fs m (oldm ++ x)) n = some old ∨
    (n = m ∧ fileGet (fileSet fs m (oldm ++ x)) n = some (old ++ x)) := by
  by_cases hn : n = m
  · subst hn
    rw [h] at hm
    injection hm with hm
    subst hm
    exact .inr ⟨rfl, fileGet_fileSet_same _ _ _ _ h⟩
  · exact .inl (by rw [fileGet_fileSet_other _ _ _ _ hn, h])

/-! ### what one request does to the index and to the files -/

theorem recommend_dir_inv (find : Bytes → Nat → Bytes → Option Nat) (cfg : Cfg) (st : St) (q : Req)
    (hp : st.dir.present = true) :
    (recommend find cfg st q).1.dir.present = true ∧
    (recommend find cfg st q).1.dir.bytes.length = st.dir.bytes.length ∧
    ∀ j, InRange (st.dir.bytes.getD (j * dirSz + 33) 0) →
      InRange ((recommend find cfg st q).1.dir.bytes.getD (j * dirSz + 33) 0) := by
  rcases recommend_cases find cfg st q hp with ⟨e, _, h⟩ | ⟨k, old, hk, _, h⟩
  · rw [h]; exact ⟨hp, rfl, fun _ hr => hr⟩
  · rw [h]
    refine ⟨commentDir_present _ _ _ _ _ hp, commentDir_length _ _ _ _ _ hk.complete, fun j hr => ?_⟩
    show InRange ((commentDir _ _ _ _ _).bytes.getD _ 0)
    by_cases hjk : j = k
    · subst hjk
      rw [commentDir_score _ _ _ _ _ hk.complete]
      split
      · exact recommendUpdate_inRange _ _ hr (scoreUpdate_cases _ _)
      · exact hr
    · rw [commentDir_score_other _ _ _ _ _ hk.complete j hjk]
      exact hr

/-- the appended bytes are written as the `match` that `Props.appended` has for one request, so that
`comments_sequence` can put the steps together by `List.append_assoc`. -/
theorem recommend_files (find : Bytes → Nat → Bytes → Option Nat) (cfg : Cfg) (st : St) (q : Req)
    (hp : st.dir.present = true) (n : Bytes) :
    fileGet (recommend find cfg st q).1.files n =
      (fileGet st.files n).map (· ++
        match (recommend find cfg st q).2 with
        | .ok line idx =>
          if cstr (field (record st.dir.bytes dirSz (idx - 1)) offFilename lenFilename) = n then line else []
        | _ => []) := by
  rcases recommend_cases find cfg st q hp with ⟨e, he, h⟩ | ⟨k, old, _, hf, h⟩
  · rw [h]
    cases e with
    | ok l i => cases he
    | _ => simp only [List.append_nil, Option.map_id']
  · rw [h]
    dsimp only
    rw [Nat.add_sub_cancel]
    by_cases hn : cstr (field (record st.dir.bytes dirSz k) offFilename lenFilename) = n
    · subst hn
      rw [if_pos rfl, hf]
      exact fileGet_fileSet_same _ _ _ _ hf
    · rw [if_neg hn]
      show fileGet (fileSet _ _ _) n = _
      rw [fileGet_fileSet_other _ _ _ _ (fun h => hn h.symm)]
      simp only [List.append_nil, Option.map_id']

/-! ### one scheduling step -/

/-- the third case is an append to an article that exists: a commenter's write, whole or torn, or another lock
holder's. -/
theorem stepEv_st (find : Bytes → Nat → Bytes → Option Nat) (s : Sys) (ev : Ev) :
    (stepEv find s ev).st = s.st ∨
    (∃ i t, ev = .index i ∧ s.pending[i]? = some t ∧ (stepEv find s ev).st = (phaseIndex s.st t).1) ∨
    ∃ m oldm x, fileGet s.st.files m = some oldm ∧
      (stepEv find s ev).st = { s.st with files := fileSet s.st.files m (oldm ++ x) } := by
  cases ev with
  | begin cfg q =>
    left
    unfold stepEv
    dsimp only
    split <;> rfl
  | write i =>
    unfold stepEv phaseWrite
    dsimp only
    cases s.pending[i]? with
    | none => exact .inl rfl
    | some t =>
      dsimp only
      cases hm : fileGet s.st.files (cstr (field t.copy offFilename lenFilename)) with
      | none => exact .inl rfl
      | some oldm => exact .inr (.inr ⟨_, oldm, t.line, hm, rfl⟩)
  | index i =>
    unfold stepEv
    dsimp only
    cases h : s.pending[i]? with
    | none => exact .inl rfl
    | some t => exact .inr (.inl ⟨i, t, rfl, h, rfl⟩)
  | giveUp i => exact .inl rfl
  | writeFault i room =>
    unfold stepEv phaseWriteFault
    dsimp only
    cases s.pending[i]? with
    | none => exact .inl rfl
    | some t =>
      dsimp only
      cases hm : fileGet s.st.files (cstr (field t.copy offFilename lenFilename)) with
      | none => exact .inl rfl
      | some oldm => exact .inr (.inr ⟨_, oldm, t.line.take room, hm, rfl⟩)
  | ext n bs =>
    unfold stepEv extAppend
    dsimp only
    cases hm : fileGet s.st.files n with
    | none => exact .inl rfl
    | some oldm => exact .inr (.inr ⟨n, oldm, bs, hm, rfl⟩)

theorem stepEv_dir (find : Bytes → Nat → Bytes → Option Nat) (s : Sys) (ev : Ev) :
    (stepEv find s ev).st.dir = s.st.dir ∨
    ∃ i t, ev = .index i ∧ s.pending[i]? = some t ∧ (stepEv find s ev).st = (phaseIndex s.st t).1 := by
  rcases stepEv_st find s ev with h | h | ⟨_, _, _, _, h⟩
  · exact .inl (by rw [h])
  · exact .inr h
  · exact .inl (by rw [h])

/-! ### the append at the level of its steps -/

theorem stepA_content (rule : Bytes → App → Bytes) (hrule : ∀ c a, ∃ x, rule c a = c ++ x) (s : AState) (ev : AEv) :
    ∃ x, (stepA rule s ev).content = s.content ++ x := by
  have same : ∃ x, s.content = s.content ++ x := ⟨[], (List.append_nil _).symm⟩
  cases ev with
  | «open» l => exact same
  | lock i | unlock i | extLock | extUnlock =>
    unfold stepA
    dsimp only
    split <;> exact same
  | write i =>
    unfold stepA
    dsimp only
    cases s.apps[i]? with
    | none => exact same
    | some a =>
      dsimp only
      split
      · exact hrule _ a
      · exact same
  | writeNoLock i =>
    unfold stepA
    dsimp only
    cases s.apps[i]? with
    | none => exact same
    | some a => exact hrule _ a
  | extAppend bs =>
    unfold stepA
    dsimp only
    split
    · exact ⟨bs, rfl⟩
    · exact same

theorem runA_content (rule : Bytes → App → Bytes) (hrule : ∀ c a, ∃ x, rule c a = c ++ x) (evs : List AEv)
    (s : AState) : ∃ suf, (runA rule s evs).content = s.content ++ suf := by
  induction evs generalizing s with
  | nil => exact ⟨[], (List.append_nil _).symm⟩
  | cons ev rest ih =>
    obtain ⟨x, hx⟩ := stepA_content rule hrule s ev
    obtain ⟨y, hy⟩ := ih (stepA rule s ev)
    exact ⟨x ++ y, by rw [← List.append_assoc, ← hx]; exact hy⟩

/-! ### the comment line -/

theorem append_shift {α} (w r i t : List α) : w ++ r ++ (i ++ t) = w ++ (r ++ i) ++ t := by
  rw [List.append_assoc w r, List.append_assoc w (r ++ i), List.append_assoc r i]

/-- the blanks fill what id and text leave of a budget `b`; there are none when they exceed it (`Int.toNat`). -/
theorem toNat_fill (b : Int) (u t : Nat) :
    (((u + t : Nat) : Int) ≤ b → ((u + t + (b - u - t).toNat : Nat) : Int) = b) ∧
    (b < ((u + t : Nat) : Int) → (b - u - t).toNat = 0) := by
  constructor
  · intro h; omega
  · intro h; omega

theorem typeBytes_no_newline (t : Nat) : 10 ∉ typeBytes t := by
  have marks : ∀ e ∈ typeMarks, 10 ∉ ansiColor e.2.1 ++ e.2.2 := by decide
  unfold typeBytes
  split
  · rename_i e he
    exact marks e (List.mem_of_find?_eq_some he)
  · exact List.not_mem_nil

theorem not_mem_append {x : Nat} {a b : List Nat} (ha : x ∉ a) (hb : x ∉ b) : x ∉ a ++ b :=
  fun h => (List.mem_append.1 h).elim ha hb

/-- FormatCommentString ends the line with a newline and writes id, text, IP and time as they are; everything
else it writes is a fixed mark without a newline, or blanks. -/
theorem formatComment_body (cfg : Cfg) (q : Req) :
    ∃ body, formatComment cfg q = body ++ [10] ∧
      (10 ∉ q.user → 10 ∉ q.text → 10 ∉ q.ip → 10 ∉ q.time → 10 ∉ body) := by
  have hub : 10 ∉ q.user → 10 ∉ userBytes cfg q := by
    intro hu
    unfold userBytes
    split
    · exact hu
    · exact fun h => hu (mem_of_mem_cstr h)
  have htl : 10 ∉ q.ip → 10 ∉ q.time → 10 ∉ tail cfg q := by
    intro hi htm
    unfold tail
    refine not_mem_append (not_mem_append ?_ (by decide)) htm
    split
    · exact fun h => hi (mem_of_mem_cstr h)
    · exact List.not_mem_nil
  have hws : 10 ∉ List.replicate (padLen cfg q) 32 := fun h => absurd (List.eq_of_mem_replicate h) (by decide)
  have hty := typeBytes_no_newline q.ctype
  unfold formatComment
  dsimp only
  split
  · exact ⟨_, rfl, fun hu ht hi htm => not_mem_append (not_mem_append (not_mem_append (not_mem_append (not_mem_append
      (not_mem_append (by decide) (hub hu)) (by decide)) ht) hws) (by decide)) (htl hi htm)⟩
  · exact ⟨_, rfl, fun hu ht hi htm => not_mem_append (not_mem_append (not_mem_append (not_mem_append (not_mem_append
      (not_mem_append (not_mem_append (not_mem_append hty (by decide)) (by decide)) (hub hu)) (by decide)) ht) hws)
      (by decide)) (htl hi htm)⟩

theorem not_mem_of_hasLineBreak_false {text : Bytes} (h : hasLineBreak text = false) : 10 ∉ text ∧ 13 ∉ text := by
  unfold hasLineBreak at h
  rw [List.any_eq_false] at h
  constructor
  · intro hm; exact absurd (h 10 hm) (by decide)
  · intro hm; exact absurd (h 13 hm) (by decide)

end PttVerif.C10
