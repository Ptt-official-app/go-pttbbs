import PttVerif.Model.C07
import PttVerif.Proofs.Cstr
/-
C07 — the lemmas behind Props/C07.  Mask tests on 32-bit words are named bits, so `boardPermStat` is a decision list
over the facts `Spec.mayRead` speaks of; `is_uBM` is a left-to-right scan, compared with the '/'-separated names.
`Props.guardedEntry` and `Props.after` are defined here, next to the lemmas through which they are used.  Core only.
-/
namespace PttVerif.C07
open PttVerif.Gen.Perm

/-! ### masks and bits -/

theorem w_two_pow (k : Nat) : w (2 ^ k) = BitVec.twoPow 32 k :=
  BitVec.eq_of_toNat_eq (by rw [w, BitVec.toNat_ofNat, BitVec.toNat_twoPow])

/-- `x & (1<<k) != 0` is bit `k` of `x`.  `hasUserPerm` unfolds to that test, so both forms of `test_X` below are this
lemma; that each regenerated mask is such a power is by evaluation. -/
theorem test_bit (x : W) (k : Nat) (hk : k < 32) : ((x &&& w (2 ^ k)) != 0) = Spec.bit x k := by
  have hne : BitVec.twoPow 32 k ≠ 0#32 := by
    intro h
    have := congrArg (fun v => v.getLsbD k) h
    simp [hk] at this
  rw [w_two_pow, BitVec.and_twoPow]
  unfold Spec.bit
  cases x.getLsbD k
  · rfl
  · exact bne_iff_ne.2 hne

theorem test_BASIC (x : W) : hasUserPerm x (w PERM_BASIC) = Spec.bit x 0 := test_bit x 0 (by decide)
theorem test_LOGINOK (x : W) : hasUserPerm x (w PERM_LOGINOK) = Spec.bit x 4 := test_bit x 4 (by decide)
theorem test_BM (x : W) : ((x &&& w PERM_BM) != 0) = Spec.bit x 10 := test_bit x 10 (by decide)
theorem test_BOARD (x : W) : hasUserPerm x (w PERM_BOARD) = Spec.bit x 13 := test_bit x 13 (by decide)
theorem test_SYSOP (x : W) : hasUserPerm x (w PERM_SYSOP) = Spec.bit x 14 := test_bit x 14 (by decide)
theorem test_POLICE_MAN (x : W) : hasUserPerm x (w PERM_POLICE_MAN) = Spec.bit x 28 := test_bit x 28 (by decide)
theorem test_POLICE (x : W) : hasUserPerm x (w PERM_POLICE) = Spec.bit x 31 := test_bit x 31 (by decide)
theorem test_GROUPBOARD (x : W) : ((x &&& w BRD_GROUPBOARD) != 0) = Spec.bit x 3 := test_bit x 3 (by decide)
theorem test_HIDE (x : W) : ((x &&& w BRD_HIDE) != 0) = Spec.bit x 4 := test_bit x 4 (by decide)
theorem test_POSTMASK (x : W) : ((x &&& w BRD_POSTMASK) != 0) = Spec.bit x 5 := test_bit x 5 (by decide)
theorem test_SYMBOLIC (x : W) : ((x &&& w BRD_SYMBOLIC) != 0) = Spec.bit x 15 := test_bit x 15 (by decide)
theorem test_OVER18 (x : W) : ((x &&& w BRD_OVER18) != 0) = Spec.bit x 24 := test_bit x 24 (by decide)

theorem test_POSTMASK0 (x : W) : ((x &&& w BRD_POSTMASK) == 0) = !Spec.bit x 5 := by
  rw [← test_POSTMASK]; simp [bne]

theorem or_ne_zero (p q : W) : ((p ||| q) != 0#32) = (p != 0#32 || q != 0#32) := by
  rw [Bool.eq_iff_iff, Bool.or_eq_true, bne_iff_ne, bne_iff_ne, bne_iff_ne, Ne, BitVec.or_eq_zero_iff]
  exact Decidable.not_and_iff_not_or_not

/-- `attr & (GROUPBOARD|SYMBOLIC) != 0`, with the zero spelled as `simp` leaves it -/
theorem test_GROUPSYM (b : BoardView) :
    ((b.attr &&& (w BRD_GROUPBOARD ||| w BRD_SYMBOLIC)) != 0#32) = Spec.groupOrSymbolic b := by
  rw [BitVec.and_or_distrib_left, or_ne_zero]
  exact congr (congrArg or (test_GROUPBOARD b.attr)) (test_SYMBOLIC b.attr)

/-- `x & y != 0` iff some bit position is set in both -/
theorem and_ne_zero_iff (x y : W) : (x &&& y) ≠ 0#32 ↔ ∃ i, i < 32 ∧ x.getLsbD i = true ∧ y.getLsbD i = true := by
  constructor
  · intro h
    rw [Ne, BitVec.eq_of_getLsbD_eq_iff] at h
    obtain ⟨i, hi⟩ := Classical.not_forall.mp h
    obtain ⟨hlt, hne⟩ := Classical.not_imp.mp hi
    rw [BitVec.getLsbD_and, BitVec.getLsbD_zero, Bool.not_eq_false, Bool.and_eq_true] at hne
    exact ⟨i, hlt, hne⟩
  · rintro ⟨i, _, hx, hy⟩ h
    have hi := congrArg (·.getLsbD i) h
    simp only [BitVec.getLsbD_and, hx, hy, BitVec.getLsbD_zero] at hi
    exact Bool.noConfusion hi

theorem hasUserPerm_eq_sharesBit (x y : W) : hasUserPerm x y = Spec.sharesBit x y := by
  rw [Bool.eq_iff_iff, hasUserPerm, bne_iff_ne, Spec.sharesBit, List.any_eq_true]
  refine (and_ne_zero_iff x y).trans ⟨?_, ?_⟩
  · rintro ⟨i, hi, hx, hy⟩
    exact ⟨i, List.mem_range.2 hi, Bool.and_eq_true_iff.2 ⟨hx, hy⟩⟩
  · rintro ⟨i, hi, hb⟩
    exact ⟨i, List.mem_range.1 hi, Bool.and_eq_true_iff.1 hb⟩

/-! ### the decision -/

theorem isBMCache_eq (u : UserView) (r : Relation) : isBMCache u r = Spec.moderator u r := by
  unfold isBMCache hasBasicUserPerm Spec.moderator Spec.registered Spec.realUid
  rw [test_BASIC, test_LOGINOK]
  simp only [bne]
  generalize (u.uid == 0) = z
  generalize (u.uid == -1) = m
  cases Spec.bit u.level 0 <;> cases Spec.bit u.level 4 <;> cases z <;> cases m <;> rfl

theorem bne_zero_eq_not_beq (x : W) : (x != 0) = !(x == 0) := rfl

theorem two_refusals (ao o18 lz m sh : Bool) (x y : Nat) :
    (if ao && !o18 then x else if !lz && !m && !sh then x else y) =
      if (!ao || o18) && (lz || m || sh) then y else x := by
  cases ao <;> cases o18 <;> cases lz <;> cases m <;> cases sh <;> rfl

theorem boardPermStat_eq (u : UserView) (b : BoardView) (r : Relation) :
    boardPermStat u b r =
      if Spec.sysop u then NBRD_FAV
      else if Spec.moderatorsBoard b && Spec.police u then NBRD_FAV
      else if Spec.moderator u r then NBRD_FAV
      else if Spec.hidden b then
        (if !r.friend then (if Spec.restricted b then NBRD_INVALID else NBRD_BOARD) else NBRD_FAV)
      else if (!Spec.adultOnly b || u.over18) &&
          (b.level == 0 || Spec.restricted b || Spec.sharesBit u.level b.level) then NBRD_FAV
      else NBRD_INVALID := by
  unfold boardPermStat boardPermStatNormally Spec.sysop Spec.police Spec.moderatorsBoard Spec.hidden Spec.restricted
    Spec.adultOnly
  rw [test_SYSOP, test_POLICE, test_POLICE_MAN, test_BM, isBMCache_eq, test_HIDE, test_POSTMASK, test_POSTMASK0,
    test_OVER18, hasUserPerm_eq_sharesBit, bne_zero_eq_not_beq, two_refusals]

/-- three facts in one statement: one walk down the decision list shows all of them at each of its seven ends -/
theorem boardPermStat_ends (u : UserView) (b : BoardView) (r : Relation) :
    (boardPermStat u b r = NBRD_INVALID ∨ boardPermStat u b r = NBRD_FAV ∨ boardPermStat u b r = NBRD_BOARD) ∧
    (boardPermStat u b r != NBRD_INVALID) = Spec.mayRead u b r ∧
    (boardPermStat u b r == NBRD_BOARD) =
      (!Spec.sysop u && !(Spec.moderatorsBoard b && Spec.police u) && !Spec.moderator u r &&
        Spec.hidden b && !r.friend && !Spec.restricted b) := by
  rw [boardPermStat_eq]
  unfold Spec.mayRead
  cases Spec.sysop u
  case true => exact ⟨.inr (.inl rfl), rfl, rfl⟩
  cases (Spec.moderatorsBoard b && Spec.police u)
  case true => exact ⟨.inr (.inl rfl), rfl, rfl⟩
  cases Spec.moderator u r
  case true => exact ⟨.inr (.inl rfl), rfl, rfl⟩
  cases Spec.hidden b
  case true =>
    cases r.friend
    case true => exact ⟨.inr (.inl rfl), rfl, rfl⟩
    cases Spec.restricted b
    · exact ⟨.inr (.inr rfl), rfl, rfl⟩
    · exact ⟨.inl rfl, rfl, rfl⟩
  cases (!Spec.adultOnly b || u.over18) && (b.level == 0 || Spec.restricted b || Spec.sharesBit u.level b.level)
  · exact ⟨.inl rfl, rfl, rfl⟩
  · exact ⟨.inr (.inl rfl), rfl, rfl⟩

theorem boardPermStat_eq_BOARD (u : UserView) (b : BoardView) (r : Relation) :
    (boardPermStat u b r == NBRD_BOARD) =
      (!Spec.sysop u && !(Spec.moderatorsBoard b && Spec.police u) && !Spec.moderator u r &&
        Spec.hidden b && !r.friend && !Spec.restricted b) :=
  (boardPermStat_ends u b r).2.2

/-! ### the interpreter on a guarded statement list -/

theorem lookup_NBRD_INVALID : lookup "NBRD_INVALID" nbrdAll = some NBRD_INVALID := by simp [lookup, nbrdAll, NBRD_INVALID]

theorem harmless_not_content : ∀ a ∈ harmlessCallees, a ∉ contentCallees := by simp [harmlessCallees, contentCallees]

/-- a harmless step is one that can only refuse: an argument check, a counter -/
theorem runReader_harmless (env : ReadEnv) (s : Step) (rest : List Step) (st : RState) (h : isHarmlessStep s = true) :
    runReader env (s :: rest) st =
      if s.kind = "if" ∧ env.precheck = true then .other s.c else runReader env rest st := by
  obtain ⟨k, a, b, c, ds⟩ := s
  simp only [isHarmlessStep, Step.kind, Step.a, Step.c, Bool.or_eq_true, Bool.and_eq_true, decide_eq_true_eq] at h
  rcases h with ⟨rfl, hc⟩ | ⟨rfl, ha⟩
  · simp [runReader, Step.kind, Step.c, hc]
  · have ha' : a ∈ harmlessCallees := by simpa using ha
    simp [runReader, Step.kind, Step.a, ha', harmless_not_content a ha']

theorem runReader_dropWhile (env : ReadEnv) (steps : List Step) (st : RState) :
    runReader env steps st = runReader env (steps.dropWhile isHarmlessStep) st ∨
      (env.precheck = true ∧ ∃ c, runReader env steps st = .other c) := by
  induction steps with
  | nil => exact Or.inl rfl
  | cons s rest ih =>
    cases h : isHarmlessStep s
    · rw [List.dropWhile_cons_of_neg (by simp [h])]; exact Or.inl rfl
    · rw [runReader_harmless env s rest st h, List.dropWhile_cons_of_pos h]
      by_cases hc : s.kind = "if" ∧ env.precheck = true
      · exact Or.inr ⟨hc.2, s.c, if_pos hc⟩
      · rw [if_neg hc]; exact ih

theorem runReader_content (env : ReadEnv) (c : Step) (rest : List Step) (st : RState) (h : isContentStep c = true) :
    runReader env (c :: rest) st = .allow := by
  obtain ⟨k, a, b, cc, ds⟩ := c
  simp only [isContentStep, Step.kind, Step.a, Bool.or_eq_true, Bool.and_eq_true, decide_eq_true_eq] at h
  rcases h with ⟨rfl, ha⟩ | rfl
  · have ha' : a ∈ contentCallees := by simpa using ha
    simp [runReader, Step.kind, Step.a, ha']
  · simp [runReader, Step.kind]

theorem runReader_guardShape_cases (env : ReadEnv) (steps : List Step) (hg : guardShape steps = true) :
    runReader env steps {} =
        (if env.bidValid = false then .invalidBid
         else if boardPermStat env.u env.b env.r = NBRD_INVALID then .deny else .allow) ∨
      (env.precheck = true ∧ ∃ c, runReader env steps {} = .other c) := by
  rcases runReader_dropWhile env steps {} with h1 | h1
  case inr => exact Or.inr h1
  rw [h1]
  unfold guardShape at hg
  generalize steps.dropWhile isHarmlessStep = gs at hg
  match gs, hg with
  | g1 :: g2 :: g3 :: g4 :: rest, hg =>
    obtain ⟨k1, a1, b1, c1, d1⟩ := g1
    obtain ⟨k2, a2, b2, c2, d2⟩ := g2
    obtain ⟨k3, a3, b3, c3, d3⟩ := g3
    obtain ⟨k4, a4, b4, c4, d4⟩ := g4
    simp only [Step.kind, Step.a, Step.b, Step.c, Bool.and_eq_true, decide_eq_true_eq] at hg
    -- the pattern follows the left-nested `&&` chain of `guardShape`, one `rfl` per string it fixes
    obtain ⟨⟨⟨⟨⟨⟨⟨⟨⟨rfl, rfl⟩, rfl⟩, rfl⟩, rfl⟩, rfl⟩, rfl⟩, rfl⟩, hdeny⟩, hrest⟩ := hg
    cases hv : env.bidValid
    · simp [runReader, Step.kind, Step.a, hv]
    by_cases hs : boardPermStat env.u env.b env.r = NBRD_INVALID
    · simp [runReader, Step.kind, Step.a, Step.b, Step.c, hv, lookup_NBRD_INVALID, hs, hdeny]
    -- past the guard: harmless steps again, then the content step
    simp [runReader, Step.kind, Step.a, Step.b, hv, lookup_NBRD_INVALID, hs]
    rcases runReader_dropWhile env rest { board := some true, stat := some (boardPermStat env.u env.b env.r) }
      with h2 | h2
    · rw [h2]
      match rest.dropWhile isHarmlessStep, hrest with
      | c :: tl, hrest => exact Or.inl (runReader_content env c tl _ hrest)
    · exact Or.inr h2

theorem runReader_of_guardShape (env : ReadEnv) (hp : env.precheck = false) (steps : List Step) (hg : guardShape steps = true) :
    runReader env steps {} =
      if env.bidValid = false then .invalidBid
      else if boardPermStat env.u env.b env.r = NBRD_INVALID then .deny else .allow := by
  rcases runReader_guardShape_cases env steps hg with h | ⟨h, _⟩
  · exact h
  · rw [hp] at h; exact Bool.noConfusion h

theorem allow_of_guardShape (env : ReadEnv) (steps : List Step) (hg : guardShape steps = true)
    (ha : runReader env steps {} = .allow) : env.bidValid = true ∧ boardPermStat env.u env.b env.r ≠ NBRD_INVALID := by
  rcases runReader_guardShape_cases env steps hg with h | ⟨_, c, h⟩
  · rw [ha] at h
    cases hv : env.bidValid
    · rw [hv, if_pos rfl] at h; exact ReadOut.noConfusion h
    · refine ⟨rfl, fun hs => ?_⟩
      rw [hv, if_neg (by simp), if_pos hs] at h; exact ReadOut.noConfusion h
  · rw [ha] at h; exact ReadOut.noConfusion h

namespace Props
def guardedEntry (name : String) : Bool :=
  match lookup name Gen.ReadEntryPoints.readers with
  | some steps => guardShape steps
  | none => false
end Props

theorem runEntry_of_guarded (name : String) (hg : Props.guardedEntry name = true) :
    ∃ steps, guardShape steps = true ∧ ∀ env, runEntry name env = runReader env steps {} := by
  unfold Props.guardedEntry at hg
  unfold runEntry
  cases hl : lookup name Gen.ReadEntryPoints.readers with
  | none => rw [hl] at hg; exact Bool.noConfusion hg
  | some steps => rw [hl] at hg; exact ⟨steps, hg, fun _ => rfl⟩

theorem bbsRead_of_nameCheck (h : nameCheckUnconditional = true) (busy nameMatches : Bool) (entry : String)
    (env : ReadEnv) : bbsRead busy nameMatches entry env = if nameMatches then runEntry entry env else .invalidBid := by
  unfold bbsRead
  cases hg : nameCheckGuard with
  | none => simp [nameCheckUnconditional, hg] at h
  | some g => cases nameMatches <;> simp [h]

/-! ### listing side -/

/-- the decision yields NBRD_INVALID, NBRD_FAV or NBRD_BOARD only, so neither placeholder test of parseBoardSummary
fires -/
theorem parseBoardSummary_decision (u : UserView) (b : BoardView) (r : Relation) (g f : Bool) :
    parseBoardSummary { attr := boardPermStat u b r, isGroupOp := g } f =
      if (boardPermStat u b r != NBRD_INVALID) || g then .full else .masked := by
  rcases (boardPermStat_ends u b r).1 with h | h | h
  all_goals rw [h]; cases g <;> cases f <;> rfl

def setMask (b : BoardView) : BoardView := { b with attr := b.attr ||| w BRD_POSTMASK }

namespace Props
/-- the header in the shared cache after a listing / summary call that reached newBoardStat -/
def after (u : UserView) (b : BoardView) (r : Relation) : BoardView :=
  if boardPermStat u b r == NBRD_BOARD then setMask b else b
end Props

/-- newBoardStat writes exactly when the state is NBRD_BOARD: that state already implies "hidden and unmasked", the two
tests newBoardStat makes of the header itself -/
theorem newBoardStat_decision (u : UserView) (b : BoardView) (r : Relation) (g : Bool) :
    newBoardStat (boardPermStat u b r) b g =
      ({ attr := boardPermStat u b r, isGroupOp := g }, Props.after u b r) := by
  have hB : (Spec.hidden b && !Spec.restricted b && boardPermStat u b r == NBRD_BOARD) =
      (boardPermStat u b r == NBRD_BOARD) := by
    rw [boardPermStat_eq_BOARD]; cases Spec.hidden b <;> cases Spec.restricted b <;> simp
  unfold newBoardStat
  rw [test_HIDE, test_POSTMASK0]
  show (_, if (Spec.hidden b && !Spec.restricted b && _) = true then _ else _) = _
  rw [hB]
  rfl

theorem bit_setMask (x : W) (i : Nat) : Spec.bit (x ||| w BRD_POSTMASK) i = (Spec.bit x i || (i == 5)) := by
  unfold Spec.bit
  rw [show w BRD_POSTMASK = BitVec.twoPow 32 5 from w_two_pow 5, BitVec.getLsbD_or, BitVec.getLsbD_twoPow]
  by_cases h : i = 5
  · subst h; rfl
  · rw [decide_eq_false (Ne.symm h), beq_false_of_ne h, Bool.and_false]

/-! ### is_uBM: from the index form to a left-to-right scan -/

def headOK : Option Nat → Bool
  | none => true
  | some p => !isalnum p

def tailOK (u s : List Nat) : Bool :=
  match s.drop u.length with
  | [] => true
  | c :: _ => !isalnum c

/-- the walk of is_uBM as a scan: stop at the first position where the id is a prefix -/
def scan (u : List Nat) : Option Nat → List Nat → Bool
  | _, [] => false
  | prev, c :: cs => if u.isPrefixOf (c :: cs) then headOK prev && tailOK u (c :: cs) else scan u (some c) cs

theorem bytesIndex_nil (u : List Nat) (hu : u ≠ []) : bytesIndex u [] = none := by
  cases u with
  | nil => exact absurd rfl hu
  | cons a as => simp [bytesIndex]

def before (prev : Option Nat) (s : List Nat) (i : Nat) : Option Nat :=
  if i = 0 then prev else some (s.getD (i - 1) 0)

theorem scan_eq_index (u : List Nat) (hu : u ≠ []) (s : List Nat) (prev : Option Nat) :
    scan u prev s =
      match bytesIndex u s with
      | none => false
      | some i => headOK (before prev s i) && tailOK u (s.drop i) := by
  induction s generalizing prev with
  | nil => rw [bytesIndex_nil u hu]; rfl
  | cons c cs ih =>
    unfold scan bytesIndex
    by_cases hp : u.isPrefixOf (c :: cs) = true
    · rw [if_pos hp, if_pos hp]; rfl
    · rw [if_neg hp, if_neg hp, ih (some c)]
      cases bytesIndex u cs with
      | none => rfl
      -- index j of the tail is index j + 1 of the string; the byte before it is `c` when j = 0
      | some j => cases j <;> rfl

theorem tailOK_drop (u b : List Nat) (i : Nat) :
    tailOK u (b.drop i) = if i + u.length < b.length then !isalnum (b.getD (i + u.length) 0) else true := by
  unfold tailOK
  rw [List.drop_drop]
  by_cases hk : i + u.length < b.length
  · rw [List.drop_eq_getElem_cons hk, if_pos hk, List.getD_eq_getElem?_getD, List.getElem?_eq_getElem hk]; rfl
  · rw [List.drop_eq_nil_of_le (by omega), if_neg hk]

theorem bytesIndex_lt (u : List Nat) (hu : u ≠ []) (s : List Nat) (i : Nat) (h : bytesIndex u s = some i) : i < s.length := by
  induction s generalizing i with
  | nil => rw [bytesIndex_nil u hu] at h; cases h
  | cons c cs ih =>
    unfold bytesIndex at h
    split at h
    · cases h; exact Nat.zero_lt_succ _
    · obtain ⟨j, hj, rfl⟩ := Option.map_eq_some_iff.1 h
      exact Nat.succ_lt_succ (ih j hj)

theorem isUBMBytes_eq_scan (u b : List Nat) (hu : u ≠ []) (hb : cstr b = b) : isUBMBytes u b = scan u none b := by
  rw [scan_eq_index u hu]
  unfold isUBMBytes cstrstr
  cases h : bytesIndex u b with
  | none => rfl
  | some i =>
    have hlt := bytesIndex_lt u hu b i h
    have : ¬ i ≥ (cstr b).length := by rw [hb]; omega
    simp only [this, ↓reduceIte]
    rw [tailOK_drop]
    cases i <;> rfl

/-! ### soundness and (conditional) completeness against the '/'-separated names -/

/-- a user id as registration admits it, as far as is_uBM is concerned: non-empty, letters and digits only -/
def validId (u : List Nat) : Prop := u ≠ [] ∧ ∀ c ∈ u, isalnum c = true
/-- a moderator string made of such ids and '/' (47) only: no other byte that is_uBM would take for a separator -/
def wellFormedBM (b : List Nat) : Prop := ∀ c ∈ b, isalnum c = true ∨ c = 47

theorem splitSlash_eq_cons (s : List Nat) :
    Spec.splitSlash s = (Spec.splitSlash s).headD [] :: (Spec.splitSlash s).tail := by
  cases s with
  | nil => rfl
  | cons c cs =>
    unfold Spec.splitSlash
    split
    · rfl
    · split <;> rfl

theorem splitSlash_slash (cs : List Nat) : Spec.splitSlash (47 :: cs) = [] :: Spec.splitSlash cs := by
  rw [Spec.splitSlash]; simp

theorem splitSlash_other (c : Nat) (hc : c ≠ 47) (cs : List Nat) :
    Spec.splitSlash (c :: cs) =
      (c :: (Spec.splitSlash cs).headD []) :: (Spec.splitSlash cs).tail := by
  rw [Spec.splitSlash, if_neg hc, splitSlash_eq_cons cs]
  rfl

theorem splitSlash_append (u : List Nat) (hu : ∀ c ∈ u, c ≠ 47) (rest : List Nat) :
    Spec.splitSlash (u ++ rest) = (u ++ (Spec.splitSlash rest).headD []) :: (Spec.splitSlash rest).tail := by
  induction u with
  | nil => exact splitSlash_eq_cons rest
  | cons a as ih =>
    rw [List.cons_append, splitSlash_other a (hu a (by simp)), ih (fun c hc => hu c (by simp [hc]))]
    rfl

theorem alnum_ne_slash (c : Nat) (h : isalnum c = true) : c ≠ 47 := by
  intro e; subst e; simp [isalnum] at h

theorem valid_noslash (u : List Nat) (hv : validId u) : ∀ c ∈ u, c ≠ 47 :=
  fun c hc => alnum_ne_slash c (hv.2 c hc)

theorem head_prefix (s : List Nat) : (Spec.splitSlash s).headD [] <+: s := by
  induction s with
  | nil => simp [Spec.splitSlash]
  | cons c cs ih =>
    by_cases hc : c = 47
    · subst hc; rw [splitSlash_slash]; simp
    · rw [splitSlash_other c hc cs]
      exact List.cons_prefix_cons.2 ⟨rfl, ih⟩

/-- the names available for a whole-name match from a scan position: all of them at a name start, all but the
(partial) first one inside a name -/
def avail (prev : Option Nat) (s : List Nat) : List (List Nat) :=
  if headOK prev then Spec.splitSlash s else (Spec.splitSlash s).tail

theorem avail_none (s : List Nat) : avail none s = Spec.splitSlash s := rfl

theorem tail_subset_avail (prev : Option Nat) (s : List Nat) (n : List Nat) (h : n ∈ (Spec.splitSlash s).tail) : n ∈ avail prev s := by
  unfold avail; split
  · exact List.mem_of_mem_tail h
  · exact h

theorem avail_step (c : Nat) (hc : isalnum c = true ∨ c = 47) (cs : List Nat) :
    avail (some c) cs = (Spec.splitSlash (c :: cs)).tail := by
  rcases hc with hc | rfl
  · have hin : headOK (some c) = false := by rw [headOK, hc]; rfl
    rw [avail, hin, splitSlash_other c (alnum_ne_slash c hc) cs]
    rfl
  · rw [avail, splitSlash_slash]
    rfl

theorem tailOK_append (u rest : List Nat) (hw : wellFormedBM rest) :
    tailOK u (u ++ rest) = true ↔ (Spec.splitSlash rest).headD [] = [] := by
  unfold tailOK
  rw [List.drop_left]
  cases rest with
  | nil => exact ⟨fun _ => rfl, fun _ => rfl⟩
  | cons d r =>
    rcases hw d List.mem_cons_self with h1 | rfl
    · rw [splitSlash_other d (alnum_ne_slash d h1) r]; simp [h1]
    · rw [splitSlash_slash]; exact ⟨fun _ => rfl, fun _ => rfl⟩

theorem scan_sound (u : List Nat) (hv : validId u) (s : List Nat) (hw : wellFormedBM s) (prev : Option Nat)
    (h : scan u prev s = true) : u ∈ avail prev s := by
  induction s generalizing prev with
  | nil => simp [scan] at h
  | cons c cs ih =>
    unfold scan at h
    by_cases hp : u.isPrefixOf (c :: cs) = true
    · rw [if_pos hp, Bool.and_eq_true] at h
      obtain ⟨hh, ht⟩ := h
      obtain ⟨rest, hr⟩ := List.isPrefixOf_iff_prefix.1 hp
      rw [← hr] at ht hw ⊢
      have hd := (tailOK_append u rest fun d hd => hw d (List.mem_append_right u hd)).1 ht
      unfold avail
      rw [hh, if_pos rfl, splitSlash_append u (valid_noslash u hv) rest, hd, List.append_nil]
      exact List.mem_cons_self
    · rw [if_neg hp] at h
      apply tail_subset_avail
      rw [← avail_step c (hw c (by simp)) cs]
      exact ih (fun d hd => hw d (by simp [hd])) (some c) h

def noLookalike (u : List Nat) (names : List (List Nat)) : Prop := ∀ n ∈ names, n ≠ u → ¬ u <:+: n

/-- The scan stops at the FIRST occurrence of the id, so that occurrence must be a whole name.  At a name start `hlook`
says so; inside a name the rest of that name is not among the available ones, and `hinside` asks the same of it.
`hinside` survives a step: an occurrence in the shorter rest is one in the first name as a whole, which `hinside` rules
out or `hlook` makes the id itself — and then the id is a prefix here, the other branch. -/
theorem scan_complete (u : List Nat) (hv : validId u) (s : List Nat) (hw : wellFormedBM s) (prev : Option Nat)
    (hinside : headOK prev = false → ¬ u <:+: (Spec.splitSlash s).headD [])
    (hlook : noLookalike u (avail prev s))
    (hmem : u ∈ avail prev s) : scan u prev s = true := by
  induction s generalizing prev with
  | nil =>
    exfalso
    unfold avail at hmem
    cases hs : headOK prev <;> simp [hs, Spec.splitSlash] at hmem
    exact hv.1 hmem
  | cons c cs ih =>
    unfold scan
    -- the first name of what is left: available exactly at a name start, and never a look-alike of the id
    have hhead : u <:+: (Spec.splitSlash (c :: cs)).headD [] → (Spec.splitSlash (c :: cs)).headD [] = u := by
      intro hinf
      cases hs : headOK prev with
      | false => exact absurd hinf (hinside hs)
      | true =>
        refine Decidable.byContradiction fun hne => hlook _ ?_ hne hinf
        unfold avail
        rw [hs, if_pos rfl, splitSlash_eq_cons (c :: cs)]
        exact List.mem_cons_self
    by_cases hp : u.isPrefixOf (c :: cs) = true
    · rw [if_pos hp, Bool.and_eq_true]
      obtain ⟨rest, hr⟩ := List.isPrefixOf_iff_prefix.1 hp
      have hsplit := splitSlash_append u (valid_noslash u hv) rest
      rw [hr] at hsplit
      have hinf : u <:+: (Spec.splitSlash (c :: cs)).headD [] := by
        rw [hsplit]; exact (List.prefix_append u _).isInfix
      have heq := hhead hinf
      rw [hsplit, List.headD_cons] at heq
      have hd : (Spec.splitSlash rest).headD [] = [] := List.append_right_eq_self.1 heq
      constructor
      · cases hs : headOK prev with
        | false => exact absurd hinf (hinside hs)
        | true => rfl
      · rw [← hr] at hw ⊢
        exact (tailOK_append u rest fun d hd => hw d (List.mem_append_right u hd)).2 hd
    · rw [if_neg hp]
      have hnp : ¬ u <+: c :: cs := fun h => hp (List.isPrefixOf_iff_prefix.2 h)
      have hhead_ne : (Spec.splitSlash (c :: cs)).headD [] ≠ u := fun e => hnp (e ▸ head_prefix (c :: cs))
      have hav := avail_step c (hw c (by simp)) cs
      apply ih (fun d hd => hw d (by simp [hd])) (some c)
      · -- inside a name, an infix of the rest of the name is an infix of the name
        intro hs hinf
        have hc : isalnum c = true := by simpa [headOK] using hs
        apply hhead_ne
        apply hhead
        rw [splitSlash_other c (alnum_ne_slash c hc) cs, List.headD_cons]
        obtain ⟨l, r, e⟩ := hinf
        exact ⟨c :: l, r, by rw [← e]; simp⟩
      · intro n hn
        rw [hav] at hn
        exact hlook n (tail_subset_avail prev (c :: cs) n hn)
      · rw [hav]
        unfold avail at hmem
        cases hs : headOK prev with
        | false => simpa [hs] using hmem
        | true =>
          rw [hs, if_pos rfl, splitSlash_eq_cons (c :: cs), List.mem_cons] at hmem
          rcases hmem with hmem | hmem
          · exact absurd hmem.symm hhead_ne
          · exact hmem

theorem isUBM_eq_scan (id bm : List Nat) (hu : cstr id ≠ []) : isUBM id bm = scan (cstr id) none (cstr bm) :=
  isUBMBytes_eq_scan (cstr id) (cstr bm) hu (cstr_idem bm)

theorem namedIn_iff (id bm : List Nat) (hu : cstr id ≠ []) :
    Spec.namedIn id bm = true ↔ cstr id ∈ Spec.splitSlash (cstr bm) := by
  unfold Spec.namedIn
  have : (cstr id).isEmpty = false := by cases h : cstr id <;> simp_all
  simp [this]

/-! ### accounts -/

theorem headD_zero_iff (s : List Nat) : s.headD 0 = 0 ↔ cstr s = [] := by
  cases s with
  | nil => simp [cstr]
  | cons a as =>
    by_cases h : a = 0
    · subst h; simp [cstr]
    · simp [cstr, List.takeWhile, h]

theorem caseEq_iff (a b : List Nat) : caseEq a b = true ↔ (cstr a).map foldCase = (cstr b).map foldCase := by
  simp [caseEq]

theorem caseEq_headD_zero (a b : List Nat) (h : caseEq a b = true) : a.headD 0 = 0 ↔ b.headD 0 = 0 := by
  rw [headD_zero_iff, headD_zero_iff]
  rw [caseEq_iff] at h
  constructor
  · intro ha; rw [ha] at h; simpa using h.symm
  · intro hb; rw [hb] at h; simpa using h

theorem caseEq_congr (a b x : List Nat) (h : caseEq a b = true) : caseEq a x = caseEq b x := by
  rw [caseEq_iff] at h
  unfold caseEq; rw [h]

theorem searchUser_caseEq (tbl : UserTable) (a b : List Nat) (h : caseEq a b = true) : searchUser tbl a = searchUser tbl b := by
  unfold searchUser
  have hf : (fun e : Int × List Nat => caseEq a e.2) = (fun e => caseEq b e.2) :=
    funext fun e => caseEq_congr a b e.2 h
  simp only [caseEq_headD_zero a b h, hf]

/-- special-casing that looks at the loaded record only does not depend on what the caller typed -/
theorem applySpecials_loaded (s1 s2 recId : List Nat) (sp : List (String × List Nat × String)) (lv : W)
    (h : ∀ e ∈ sp, e.1 = "loaded") : applySpecials s1 recId sp lv = applySpecials s2 recId sp lv := by
  induction sp generalizing lv with
  | nil => rfl
  | cons e rest ih =>
    obtain ⟨subject, bytes, action⟩ := e
    have hs : subject = "loaded" := h (subject, bytes, action) (by simp)
    subst hs
    have ih' := fun lv => ih lv (fun e he => h e (by simp [he]))
    simp only [applySpecials, ↓reduceIte, ih']

theorem initCurrentUserWith_ok {sp : List (String × List Nat × String)} {tbl : UserTable} {stored : W} {o18 : Bool}
    {s : List Nat} {uid : Int} {id : List Nat} {u : UserView}
    (h : initCurrentUserWith sp tbl stored o18 s = .ok uid id u) : applySpecials s id sp stored = .ok u.level := by
  unfold initCurrentUserWith at h
  split at h
  · exact Loaded.noConfusion h
  dsimp only at h
  split at h
  · exact Loaded.noConfusion h
  split at h
  · exact Loaded.noConfusion h
  split at h
  · rename_i hlv
    injection h with _ hid hu
    rw [← hid, ← hu]; exact hlv
  · exact Loaded.noConfusion h

/-! ### the moderator cache -/

theorem parseLoop_length (tbl : UserTable) (ns : List (List Nat)) (acc : List Int) (h : acc.length ≤ MAX_BMs) :
    (parseLoop tbl ns acc).length ≤ MAX_BMs := by
  induction ns generalizing acc with
  | nil => simpa [parseLoop] using h
  | cons n ns ih =>
    unfold parseLoop
    by_cases hfull : acc.length ≥ MAX_BMs
    · simp [hfull]; exact h
    · simp only [hfull, ↓reduceIte]
      split
      · apply ih; simp; omega
      · exact ih acc h

theorem parseLoop_mem (tbl : UserTable) (ns : List (List Nat)) (acc : List Int) (u : Int) (h : u ∈ parseLoop tbl ns acc) :
    u ∈ acc ∨ (uidValid u = true ∧ ∃ n ∈ ns, searchUser tbl (n.take 13) = u) := by
  induction ns generalizing acc with
  | nil => exact Or.inl h
  | cons n ns ih =>
    -- what the later names contribute is found under a name of the longer list
    have later : ∀ acc', u ∈ parseLoop tbl ns acc' →
        u ∈ acc' ∨ (uidValid u = true ∧ ∃ m ∈ n :: ns, searchUser tbl (m.take 13) = u) := fun acc' h' =>
      (ih acc' h').imp_right fun ⟨hv, m, hm, hm2⟩ => ⟨hv, m, List.mem_cons_of_mem n hm, hm2⟩
    unfold parseLoop at h
    split at h
    · exact Or.inl h
    dsimp only at h
    split at h
    · rcases later _ h with h1 | h1
      · rcases List.mem_append.1 h1 with h2 | h2
        · exact Or.inl h2
        · rw [List.mem_singleton] at h2
          exact Or.inr ⟨h2 ▸ ‹_›, n, List.mem_cons_self, h2.symm⟩
      · exact Or.inr h1
    · exact later _ h

theorem bmCacheOf_build (tbl : UserTable) (st : BMCacheSt) (b bid : Int) (bm : List Nat) :
    bmCacheOf (buildBMCache tbl st b bm) bid = if b = bid then parseBMList tbl bm else bmCacheOf st bid := by
  unfold bmCacheOf buildBMCache
  by_cases h : b = bid
  · subst h; simp
  · -- among the entries kept by the filter, looking for `bid` finds what it found before: `bid` is not the board removed
    have hp : (fun e : Int × List Int => decide ((e.1 != b) = true ∧ (e.1 == bid) = true)) = (fun e => e.1 == bid) := by
      funext e
      by_cases he : e.1 = bid
      · simp [he, Ne.symm h]
      · simp [he]
    have hne : (b == bid) = false := by simpa using h
    rw [List.find?_cons, hne, List.find?_filter, hp, if_neg h]
end PttVerif.C07
