import PttVerif.Proofs.C02Round
/-
C02 — the output encoding: the 66-bit stream reader of `cFcrypt` against `Spec.encode64`.  The reader's
cursor (byte index, mask) is followed as a stream position `k`; what it shifts in from there is a fold of the same
shape as `Spec.permF`, read bit by bit through `foldl_testBit`; the stream bytes are the bytes of the result block
(a circuit identity), so stream bit `k` is bit `k` from the top of the number `Spec.encode64` cuts into sixes.
-/
namespace PttVerif.C02.Lin
open PttVerif PttVerif.C02 PttVerif.Gen.CryptTables

/-- bit `k` of the byte stream `bb`, most significant bit of each byte first. -/
def sbit (bb : List Nat) (k : Nat) : Bool := (bb.getD (k / 8) 0).testBit (7 - k % 8)

/-- `j` stream bits from position `k` on, shifted into `c`. -/
def acc (bb : List Nat) (c k j : Nat) : Nat :=
  (List.range' k j).foldl (fun c i => 2 * c + (if sbit bb i then 1 else 0)) c

theorem acc_testBit (bb : List Nat) (j c k i : Nat) :
    (acc bb c k j).testBit i = if i < j then sbit bb (k + (j - 1 - i)) else c.testBit (i - j) := by
  unfold acc
  rw [foldl_testBit (sbit bb), List.length_range']
  by_cases h : i < j
  · rw [if_pos h, if_pos h, List.getD_eq_getElem?_getD, List.getElem?_range' (by omega), Option.getD_some, Nat.one_mul]
  · rw [if_neg h, if_neg h]

theorem and_two_pow_ne_zero (B m : Nat) : (B &&& 2 ^ m ≠ 0) ↔ B.testBit m = true := by
  constructor
  · intro h
    obtain ⟨i, hi⟩ := Nat.exists_testBit_of_ne_zero h
    rw [Nat.testBit_and, Nat.testBit_two_pow, Bool.and_eq_true, decide_eq_true_eq] at hi
    exact hi.2 ▸ hi.1
  · intro h h0
    have := congrArg (·.testBit m) h0
    simp [Nat.testBit_and, h] at this

theorem shl1_or (c : Nat) (b : Bool) : (if b then c <<< 1 ||| 1 else c <<< 1) = 2 * c + (if b then 1 else 0) := by
  cases b
  · simp [Nat.shiftLeft_eq]; omega
  · have := Nat.two_pow_add_eq_or_of_lt (i := 1) (b := 1) (by decide) c
    simp only [Nat.pow_one] at this
    simp [Nat.shiftLeft_eq, Nat.mul_comm c 2, ← this]

theorem cursor_step (k : Nat) :
    (if 2 ^ (7 - k % 8) >>> 1 = 0 then (k / 8 + 1, 0x80) else (k / 8, 2 ^ (7 - k % 8) >>> 1)) =
      ((k + 1) / 8, 2 ^ (7 - (k + 1) % 8)) := by
  by_cases h7 : k % 8 = 7
  · have h0 : (k + 1) % 8 = 0 := by omega
    rw [h7, h0, if_pos (by decide), show k / 8 + 1 = (k + 1) / 8 by omega]
  · have h1 : (k + 1) % 8 = k % 8 + 1 := by omega
    have hu : 2 ^ (7 - k % 8) >>> 1 = 2 ^ (7 - (k + 1) % 8) := by
      rw [h1, Nat.shiftRight_eq_div_pow, show 7 - k % 8 = (7 - (k % 8 + 1)) + 1 by omega, Nat.pow_succ]
      simp
    rw [hu, if_neg (Nat.ne_of_gt (Nat.two_pow_pos _)), show k / 8 = (k + 1) / 8 by omega]

theorem bit6_acc (bb : List Nat) : ∀ (j c k : Nat),
    bit6 bb j (c, k / 8, 2 ^ (7 - k % 8)) = (acc bb c k j, (k + j) / 8, 2 ^ (7 - (k + j) % 8)) := by
  intro j
  induction j with
  | zero => intro c k; rfl
  | succ j ih =>
    intro c k
    have hcond : (bb.getD (k / 8) 0 &&& 2 ^ (7 - k % 8) ≠ 0) = (sbit bb k = true) :=
      propext (and_two_pow_ne_zero _ _)
    unfold bit6
    simp only [hcond, shl1_or c (sbit bb k), cursor_step k]
    rw [ih, show k + 1 + j = k + (j + 1) by omega]
    rfl

theorem outChars_acc (bb : List Nat) : ∀ (n k : Nat),
    outChars bb n (k / 8, 2 ^ (7 - k % 8)) = (List.range' k n 6).map (fun p => cov_2char.getD (acc bb 0 p 6) 0)
  | 0, _ => rfl
  | n + 1, k => by
    unfold outChars
    rw [bit6_acc bb 6 0 k]
    exact congrArg (_ :: ·) (outChars_acc bb n (k + 6))

/-- byte `y` of the stream `l2c a ++ l2c b`, as a circuit over the packed result `a‖b`. -/
def byteOfE (y : Nat) : LE :=
  if y < 4 then LE.and (LE.shr hiE (8 * y)) 0xff else LE.and (LE.shr loE (8 * (y - 4))) 0xff

theorem outVal_eval (a b : Nat) (hb : b < 2 ^ 32) : eval (a * 4294967296 + b) (outValE hiE loE) = outVal (a, b) := by
  show (bswap (eval (a * 4294967296 + b) hiE) <<< 32) ||| bswap (eval (a * 4294967296 + b) loE) = _
  rw [eval_hiE a hb, eval_loE a hb]; rfl

theorem byteOf_eval (a b y : Nat) (hb : b < 2 ^ 32) (hy : y < 8) :
    eval (a * 4294967296 + b) (byteOfE y) = (l2c a ++ l2c b ++ [0]).getD y 0 := by
  have h : ∀ X, eval X (byteOfE y) = (l2c (eval X hiE) ++ l2c (eval X loE) ++ [0]).getD y 0 := by
    have hy' : y = 0 ∨ y = 1 ∨ y = 2 ∨ y = 3 ∨ y = 4 ∨ y = 5 ∨ y = 6 ∨ y = 7 := by omega
    rcases hy' with rfl | rfl | rfl | rfl | rfl | rfl | rfl | rfl <;> exact fun _ => rfl
  rw [h, eval_hiE a hb, eval_loE a hb]

/-- byte `y` of the big-endian output value is byte `y` of the stream. -/
theorem outVal_byte (a b y : Nat) (ha : a < 2 ^ 32) (hb : b < 2 ^ 32) (hy : y < 8) :
    (outVal (a, b) >>> (8 * (7 - y))) &&& 0xff = (l2c a ++ l2c b ++ [0]).getD y 0 := by
  have := le_ext_range 64 8 (fun y => LE.and (LE.shr (outValE hiE loE) (8 * (7 - y))) 0xff) byteOfE
    (by decide +kernel) y hy _ (pack_lt ha hb)
  rw [byteOf_eval a b y hb hy] at this
  rw [← this, ← outVal_eval a b hb]; rfl

/-- bit `k` of the stream is bit `k`, counted from the top, of the 66-bit number the encoder reads: the 64 result
bits followed by two 0 bits (the stream's ninth byte). -/
theorem sbit_eq (a b k : Nat) (ha : a < 2 ^ 32) (hb : b < 2 ^ 32) (hk : k < 66) :
    sbit (l2c a ++ l2c b ++ [0]) k = (outVal (a, b) * 4).testBit (65 - k) := by
  unfold sbit
  rw [show (4 : Nat) = 2 ^ 2 from rfl, Nat.testBit_mul_two_pow]
  by_cases h : k < 64
  · rw [← outVal_byte a b (k / 8) ha hb (by omega), Nat.testBit_and, Nat.testBit_shiftRight,
      show (0xff : Nat) = 2 ^ 8 - 1 from rfl, Nat.testBit_two_pow_sub_one, decide_eq_true (show 7 - k % 8 < 8 by omega),
      decide_eq_true (show 2 ≤ 65 - k by omega), Bool.and_true, Bool.true_and]
    congr 1; omega
  · rw [show k / 8 = 8 by omega, decide_eq_false (show ¬ 2 ≤ 65 - k by omega), Bool.false_and]
    exact Nat.zero_testBit _

theorem char_eq (a b t : Nat) (ha : a < 2 ^ 32) (hb : b < 2 ^ 32) (ht : t < 11) :
    acc (l2c a ++ l2c b ++ [0]) 0 (6 * t) 6 = outVal (a, b) * 4 / 2 ^ (6 * (10 - t)) % 64 := by
  apply Nat.eq_of_testBit_eq
  intro i
  rw [acc_testBit, show (64 : Nat) = 2 ^ 6 from rfl, Nat.testBit_mod_two_pow, Nat.testBit_div_two_pow]
  by_cases hi : i < 6
  · rw [if_pos hi, decide_eq_true hi, Bool.true_and, sbit_eq a b _ ha hb (by omega)]
    congr 1; omega
  · rw [if_neg hi, decide_eq_false hi, Bool.false_and]
    exact Nat.zero_testBit _

theorem cov_eq_alphabet : cov_2char = Spec.alphabet64 := by decide +kernel

/-- the eleven output characters of `cFcrypt` are the textbook base-64 packing of the 64 result bits. -/
theorem outChars_eq_encode64 (a b : Nat) (ha : a < 2 ^ 32) (hb : b < 2 ^ 32) :
    outChars (l2c a ++ l2c b ++ [0]) 11 (0, 0x80) = Spec.encode64 (outVal (a, b)) := by
  refine (outChars_acc (l2c a ++ l2c b ++ [0]) 11 0).trans ?_
  rw [show List.range' 0 11 6 = (List.range 11).map (6 * ·) from rfl, List.map_map]
  apply List.map_congr_left
  intro t ht
  show cov_2char.getD (acc _ 0 (6 * t) 6) 0 = _
  rw [char_eq a b t ha hb (List.mem_range.mp ht), cov_eq_alphabet]

end PttVerif.C02.Lin
