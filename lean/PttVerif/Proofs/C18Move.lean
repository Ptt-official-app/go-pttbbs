import PttVerif.Model.C18Move
/-
C18 — helper lemmas for ptt.StripANSIMoveCmd: the loop computes the two-state automaton; the automaton leaves no
cursor-movement sequence. (Proofs/C09.lean has the same development for C09's own copy of the model.)
-/
namespace PttVerif.C18
open PttVerif

/-! ### the regenerated byte classes and constants -/

theorem s_ne_esc : (115 : Nat) ≠ MV_ESC := by decide
theorem mvIsCode_esc : mvIsCode MV_ESC = false := by decide
theorem mvIsMove_esc : mvIsMove MV_ESC = false := by decide
theorem mvIsCode_s : mvIsCode 115 = false := by decide
theorem mvIsMove_s : mvIsMove 115 = false := by decide

theorem code_move_disjoint_list : Gen.C18Str.patternAnsiCode.all (fun c => !mvIsMove c) = true := by decide

theorem code_not_move (c : Nat) (h : mvIsCode c = true) : mvIsMove c = false := by
  have := List.all_eq_true.mp code_move_disjoint_list c (by simpa [mvIsCode] using h)
  simpa using this

theorem code_ne_esc (c : Nat) (h : mvIsCode c = true) : c ≠ MV_ESC := by
  intro e; subst e; rw [mvIsCode_esc] at h; cases h

/-! ### the loop computes the automaton -/

theorem mvScan_length (m : Bool) (l : List Nat) : (mvScan m l).length = l.length := by
  fun_induction mvScan m l <;> simp only [List.length_cons, *]

theorem mvSkipCode_append (l : List Nat) : (mvSkipCode l).1 ++ (mvSkipCode l).2 = l := by
  induction l with
  | nil => simp [mvSkipCode]
  | cons c cs ih =>
    simp only [mvSkipCode]
    split
    · simp [ih]
    · simp

theorem mvScan_false_cons (c : Nat) (cs : List Nat) :
    mvScan false (c :: cs) = if c = MV_ESC then c :: mvScan true cs else c :: mvScan false cs := by rw [mvScan]

theorem mvScan_true_cons (c : Nat) (cs : List Nat) :
    mvScan true (c :: cs) = if mvIsCode c then c :: mvScan true cs
      else if mvIsMove c then 115 :: mvScan false cs
      else if c = MV_ESC then c :: mvScan true cs
      else c :: mvScan false cs := by rw [mvScan]

/-- what the automaton does after an MV_ESC, in terms of the loop's `mvSkipCode`. -/
theorem mvScan_true_eq (l : List Nat) :
    mvScan true l = (mvSkipCode l).1 ++
      (match (mvSkipCode l).2 with
       | [] => []
       | c :: cs => mvScan false ((if mvIsMove c then 115 else c) :: cs)) := by
  induction l with
  | nil => simp [mvScan, mvSkipCode]
  | cons c cs ih =>
    rw [mvScan_true_cons]
    by_cases hc : mvIsCode c = true
    · simp only [mvSkipCode, hc, if_true, List.cons_append]
      rw [ih]
    · simp only [mvSkipCode, hc, if_false, Bool.false_eq_true, List.nil_append]
      by_cases hm : mvIsMove c = true
      · simp only [hm, if_true]
        rw [mvScan_false_cons, if_neg s_ne_esc]
      · simp only [hm, if_false, Bool.false_eq_true]
        rw [mvScan_false_cons]

theorem mvScan_false_eq (l : List Nat) :
    mvScan false l = match mvIndexEsc l with
      | none => l
      | some i => l.take (i + 1) ++ mvScan true (l.drop (i + 1)) := by
  induction l with
  | nil => rfl
  | cons c cs ih =>
    rw [mvScan_false_cons, mvIndexEsc]
    by_cases he : c = MV_ESC
    · rw [if_pos he, if_pos he]; rfl
    · rw [if_neg he, if_neg he, ih]
      cases mvIndexEsc cs <;> rfl

theorem mvLoop_eq (fuel : Nat) (l : List Nat) (hl : l.length < fuel) : mvLoop fuel l = .ok (mvScan false l) := by
  induction fuel generalizing l with
  | zero => omega
  | succ fuel ih =>
    rw [mvLoop, mvScan_false_eq]
    cases mvIndexEsc l with
    | none => rfl
    | some i =>
      -- behind the ESC: the parameter bytes `a`, then `b`
      have happ := mvSkipCode_append (l.drop (i + 1))
      dsimp only
      rw [mvScan_true_eq]
      generalize mvSkipCode (l.drop (i + 1)) = r at happ ⊢
      obtain ⟨a, b⟩ := r
      cases b with
      | nil =>
        rw [List.append_nil] at happ
        show pure l = _
        rw [List.append_nil, happ, List.take_append_drop]
        rfl
      | cons c cs =>
        have hfl : ((if mvIsMove c = true then 115 else c) :: cs).length < fuel := by
          have := congrArg List.length happ
          simp only [List.length_append, List.length_cons, List.length_drop] at this ⊢
          omega
        show (mvLoop fuel _ >>= fun rest => pure (l.take (i + 1) ++ a ++ rest)) = _
        rw [ih _ hfl]
        exact congrArg Except.ok (List.append_assoc _ _ _)

theorem stripANSIMoveCmd_eq_scan (l : List Nat) : stripANSIMoveCmd l = .ok (mvScan false l) := by
  cases l with
  | nil => rfl
  | cons c cs => exact (if_pos (Nat.succ_pos cs.length)).trans (mvLoop_eq _ _ (Nat.lt_succ_self _))

/-! ### the automaton leaves no movement sequence -/

theorem mvStartsMove_iff (l : List Nat) :
    mvStartsMove l = true ↔ ∃ codes c post, l = codes ++ c :: post ∧ (∀ x ∈ codes, mvIsCode x = true) ∧ mvIsMove c = true := by
  induction l with
  | nil => simp [mvStartsMove]
  | cons a as ih =>
    simp only [mvStartsMove, Bool.or_eq_true, Bool.and_eq_true, ih]
    constructor
    · rintro (h | ⟨ha, codes, c, post, rfl, hc, hm⟩)
      · exact ⟨[], a, as, rfl, by simp, h⟩
      · exact ⟨a :: codes, c, post, rfl, by simpa [ha] using hc, hm⟩
    · rintro ⟨_ | ⟨x, xs⟩, c, post, he, hc, hm⟩
      · cases he
        exact .inl hm
      · cases he
        exact .inr ⟨hc a (by simp), xs, c, post, rfl, fun y hy => hc y (by simp [hy]), hm⟩

theorem mvHasMove_iff (l : List Nat) :
    mvHasMove l = true ↔ ∃ pre codes c post, l = pre ++ MV_ESC :: (codes ++ c :: post) ∧
      (∀ x ∈ codes, mvIsCode x = true) ∧ mvIsMove c = true := by
  induction l with
  | nil => simp [mvHasMove]
  | cons a as ih =>
    simp only [mvHasMove, Bool.or_eq_true, Bool.and_eq_true, beq_iff_eq, ih, mvStartsMove_iff]
    constructor
    · rintro (⟨rfl, codes, c, post, rfl, hc, hm⟩ | ⟨pre, codes, c, post, rfl, hc, hm⟩)
      · exact ⟨[], codes, c, post, rfl, hc, hm⟩
      · exact ⟨a :: pre, codes, c, post, rfl, hc, hm⟩
    · rintro ⟨_ | ⟨x, xs⟩, codes, c, post, he, hc, hm⟩
      · cases he
        exact .inl ⟨rfl, codes, c, post, rfl, hc, hm⟩
      · cases he
        exact .inr ⟨xs, codes, c, post, rfl, hc, hm⟩

/-- only the first part is the result; the induction needs all three: from the state behind an ESC (`true`) the output
has no movement sequence either, and does not complete the sequence that is open (`mvStartsMove`). -/
theorem mvScan_no_move (l : List Nat) :
    mvHasMove (mvScan false l) = false ∧ mvHasMove (mvScan true l) = false ∧ mvStartsMove (mvScan true l) = false := by
  induction l with
  | nil => simp [mvScan, mvHasMove, mvStartsMove]
  | cons c cs ih =>
    obtain ⟨h1, h2, h3⟩ := ih
    refine ⟨?_, ?_, ?_⟩
    · by_cases he : c = MV_ESC
      · simp [mvScan, he, mvHasMove, h2, h3]
      · simp [mvScan, he, mvHasMove, h1]
    · by_cases hc : mvIsCode c = true
      · simp [mvScan, hc, mvHasMove, h2, code_ne_esc c hc]
      · by_cases hm : mvIsMove c = true
        · simp only [mvScan, hc, hm, if_true, if_false, Bool.false_eq_true, mvHasMove, h1, Bool.or_false,
            Bool.and_eq_false_imp, beq_iff_eq]
          intro e; exact absurd e s_ne_esc
        · by_cases he : c = MV_ESC
          · simp [mvScan, he, mvHasMove, h2, h3, mvIsCode_esc, mvIsMove_esc]
          · simp [mvScan, hc, hm, he, mvHasMove, h1]
    · by_cases hc : mvIsCode c = true
      · simp [mvScan, hc, mvStartsMove, h3, code_not_move c hc]
      · by_cases hm : mvIsMove c = true
        · simp [mvScan, hc, hm, mvStartsMove, mvIsMove_s, mvIsCode_s]
        · by_cases he : c = MV_ESC
          · simp [mvScan, he, mvStartsMove, mvIsCode_esc, mvIsMove_esc]
          · simp [mvScan, hc, hm, he, mvStartsMove]

end PttVerif.C18
