import PttVerif.Proofs.C12Base
import PttVerif.Proofs.Cstr
/-
C12 — C strings: Cstrcmp / Cstrcasecmp read as the lexicographic order of the (lower-cased) C strings, and
BoardID_t.IsValid read as the declarative predicate `validNameSpec`.
-/
namespace PttVerif.C12
open PttVerif

theorem cstr_nil : cstr ([] : Bytes) = [] := PttVerif.cstr_nil

theorem lower_eq_zero (c : Nat) : lower c = 0 ↔ c = 0 := by
  unfold lower
  split <;> omega

theorem nameKey_zeros (n : Nat) : nameKey (zeros n) = [] := by
  rw [nameKey, zeros, cstr_replicate_zero]
  rfl

/-! ### Cstrcmp is the three-way lexicographic comparison of the C strings (any lengths) -/

theorem cstrcmp_sign (a b : Bytes) :
    (cstrcmp a b = 0 ↔ cstr a = cstr b) ∧ (cstrcmp a b < 0 ↔ cstr a < cstr b) ∧
    (0 < cstrcmp a b ↔ cstr b < cstr a) := by
  induction a generalizing b with
  | nil =>
      cases b with
      | nil => simp [cstrcmp, cstr_nil]
      | cons y ys =>
          simp only [cstrcmp, cstr_nil, cstr_cons]
          by_cases hy : y = 0
          · simp [hy]
          · simp [hy]; omega
  | cons x xs ih =>
      cases b with
      | nil =>
          simp only [cstrcmp, cstr_nil, cstr_cons]
          by_cases hx : x = 0
          · simp [hx]
          · simp [hx]; omega
      | cons y ys =>
          simp only [cstrcmp, cstr_cons]
          by_cases hx : x = 0
          · by_cases hy : y = 0
            · simp [hx, hy]
            · simp [hx, hy]; omega
          · by_cases hy : y = 0
            · have hxy : x ≠ y := by omega
              simp [hx, hy]; omega
            · by_cases hxy : x = y
              · subst hxy
                have := ih ys
                simp [hx, this]
              · simp [hx, hy, hxy, List.cons_lt_cons_iff]
                omega

/-- `Cstrcasecmp` is the three-way comparison of the lower-cased C strings. -/
theorem ccmp_sign (a b : Bytes) :
    (ccmp a b = 0 ↔ nameKey a = nameKey b) ∧ (ccmp a b < 0 ↔ nameKey a < nameKey b) ∧
    (0 < ccmp a b ↔ nameKey b < nameKey a) := by
  unfold ccmp nameKey
  rw [← cstr_map lower_eq_zero, ← cstr_map lower_eq_zero]
  exact cstrcmp_sign _ _

theorem key_lt_of_lt_of_not_lt {a b c : Bytes} (h1 : a < b) (h2 : ¬ c < b) : a < c :=
  Decidable.by_contra fun hn => h2 (List.lt_of_le_of_lt (List.not_lt.mp hn) h1)

theorem key_lt_of_not_lt_of_lt {a b c : Bytes} (h1 : ¬ b < a) (h2 : b < c) : a < c :=
  List.lt_of_le_of_lt (List.not_lt.mp h1) h2

/-! ### BoardID_t.IsValid -/

theorem getElem?_cstr (b : Bytes) (i : Nat) (h : i < (cstr b).length) : b[i]? = (cstr b)[i]? := by
  rw [List.getElem?_eq_getElem h, List.getElem?_eq_getElem (Nat.lt_of_lt_of_le h (cstr_length_le b)),
    (cstr_prefix b).getElem h]

theorem idx_cstr (b : Bytes) (i : Nat) (c : Nat) (h : (cstr b)[i]? = some c) : idx b i = .ok c := by
  have hi : i < (cstr b).length := (List.getElem?_eq_some_iff.mp h).1
  unfold idx
  rw [getElem?_cstr b i hi, h]

theorem okChar_eq (x : Nat) : okChar x = (isAlnum x || x = 95 || x = 45 || x = 46) := by
  unfold okChar
  rw [gen_isValidBounds.2.2.2]
  simp only [List.contains_cons, List.contains_nil, Bool.or_false, Bool.or_assoc]
  -- `x == c` against `decide (x = c)`: the same on `Nat`
  rfl

theorem validLoop_eq (b : Bytes) (ch0 : Nat) (n i : Nat) (h : i + n ≤ (cstr b).length) :
    validLoop b ch0 n i = .ok ((((cstr b).drop i).take n).all okChar) := by
  induction n generalizing i with
  | zero => simp [validLoop]; rfl
  | succ n ih =>
      have hi : i < (cstr b).length := by omega
      have hc : (cstr b)[i]? = some ((cstr b)[i]) := List.getElem?_eq_getElem hi
      have hdrop : (cstr b).drop i = (cstr b)[i] :: (cstr b).drop (i + 1) := (List.drop_eq_getElem_cons hi)
      unfold validLoop
      rw [if_pos gen_isValidIndex, idx_cstr b i _ hc, hdrop]
      simp only [List.take_succ_cons, List.all_cons]
      by_cases hk : okChar ((cstr b)[i]) = true
      · rw [ih (i + 1) (by omega)]
        simp [hk, bind, Except.bind]
      · simp [hk, bind, Except.bind, pure, Except.pure]

/-- `BoardID_t.IsValid` is the declarative predicate, for every byte array. -/
theorem isValidName_eq (b : Bytes) : isValidName b = .ok (validNameSpec b) := by
  obtain ⟨hlo, hhi, hst, _⟩ := gen_isValidBounds
  unfold isValidName validNameSpec
  rw [hlo, hhi, hst]
  cases hcs : cstr b with
  | nil => simp [pure, Except.pure]
  | cons c rest =>
      have h0 : idx b 0 = .ok c := idx_cstr b 0 c (by rw [hcs]; rfl)
      have hl : validLoop b c rest.length 1 = .ok (rest.all okChar) := by
        have := validLoop_eq b c rest.length 1 (by rw [hcs, List.length_cons, Nat.add_comm]; exact Nat.le_refl _)
        rwa [hcs, List.drop_succ_cons, List.drop_zero, List.take_length] at this
      have hok : rest.all okChar = rest.all (fun x => isAlnum x || x = 95 || x = 45 || x = 46) := by
        congr 1; funext x; rw [okChar_eq]
      simp only [List.length_cons, Nat.add_sub_cancel, h0, hl, hok, bind, Except.bind, pure, Except.pure]
      by_cases hlen : rest.length + 1 < 2 ∨ rest.length + 1 > 12
      · have : (decide (2 ≤ rest.length + 1) && decide (rest.length + 1 ≤ 12)) = false := by simp; omega
        rw [if_pos hlen, this]; rfl
      · have : (decide (2 ≤ rest.length + 1) && decide (rest.length + 1 ≤ 12)) = true := by simp; omega
        rw [if_neg hlen, this]
        cases isAlpha c <;> rfl

end PttVerif.C12
