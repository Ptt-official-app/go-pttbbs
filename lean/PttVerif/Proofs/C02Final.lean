import PttVerif.Proofs.C02Body
import PttVerif.Proofs.C02Out
import PttVerif.Proofs.C02Pw
/-
C02 — assembly: the hash `cFcrypt` computes is the textbook `Spec.crypt3`.
-/
namespace PttVerif.C02.Lin
open PttVerif PttVerif.C02 PttVerif.Gen.CryptTables

theorem saltValue_lt (c : Nat) : Spec.saltValue c < 64 := by
  unfold Spec.saltValue
  split
  · decide
  · split
    · omega
    · split
      · omega
      · split
        · omega
        · decide

theorem keyScheduleAux_facts : ∀ (ns : List Nat) (c d : Nat),
    (Spec.keyScheduleAux ns c d).length = ns.length ∧ ∀ K ∈ Spec.keyScheduleAux ns c d, K < 2 ^ 48 := by
  intro ns
  induction ns with
  | nil => intro c d; simp [Spec.keyScheduleAux]
  | cons n ns ih =>
    intro c d
    simp only [Spec.keyScheduleAux, List.length_cons, List.mem_cons]
    refine ⟨by rw [(ih _ _).1], ?_⟩
    rintro K (rfl | hK)
    · exact permF_lt Spec.PC2 56 _
    · exact (ih _ _).2 K hK

theorem keySchedule_facts (K : Nat) :
    (Spec.keySchedule K).length = 16 ∧ ∀ k ∈ Spec.keySchedule K, k < 2 ^ 48 := by
  unfold Spec.keySchedule
  exact keyScheduleAux_facts Spec.shifts _ _

/-- the hash for salt characters `x0`, `x1`: exactly the textbook crypt(3) result. -/
theorem hashOf_eq_crypt3 (p : List Nat) (x0 x1 : Nat) :
    hashOf p x0 x1 (Spec.saltValue x0) (Spec.saltValue x1) = Spec.crypt3 p x0 x1 := by
  have hv0 := saltValue_lt x0
  have hv1 := saltValue_lt x1
  have hσ : Spec.saltValue x1 * 2 ^ 6 + Spec.saltValue x0 < 2 ^ 12 := pack_lt hv1 hv0
  have e0 : (Spec.saltValue x1 * 2 ^ 6 + Spec.saltValue x0) &&& 63 = Spec.saltValue x0 := pack_lo 6 _ hv0
  have e1 : (Spec.saltValue x1 * 2 ^ 6 + Spec.saltValue x0) >>> 6 = Spec.saltValue x1 := pack_hi 6 _ hv0
  have hkey : (effKey8 p).map (· * 2) = bytesBE (Spec.keyOfBytes (Spec.cstr8 p)) := by
    rw [← mkKey_eq, mkKey_eq_crypt3_key]
  obtain ⟨hl, hK⟩ := keySchedule_facts (Spec.keyOfBytes (Spec.cstr8 p))
  have hb := body_spec _ hσ _ hl hK
  have hlt := body_lt _ hσ _ hl hK
  simp only [swap0, swap1, smask, e0, e1] at hb hlt
  unfold hashOf Spec.crypt3
  simp only []
  rw [hkey, desSetKey_eq_keySchedule _ (keyOfBytes_lt p)]
  generalize body (ksWords (Spec.keySchedule (Spec.keyOfBytes (Spec.cstr8 p)))) (Spec.saltValue x0)
    (shl (Spec.saltValue x1) 4) = out at hb hlt
  obtain ⟨a, b⟩ := out
  rw [outChars_eq_encode64 a b hlt.1 hlt.2, hb]

end PttVerif.C02.Lin
