import PttVerif.Proofs.C11Auto
/-
C11 — helper lemmas, part 3: the listings.  One page of a ptt listing is a window of the visiting order (the sorted view,
or its reverse), and a client that follows the next keys pages through such a window.  The cursor of a board resolves
to that board, so the summary and detail listings page through every kept entry, the auto-complete listing through the
block of boards carrying the prefix.  Then the class listings in slot order and bbs.LoadClassBoards over histories of
requests.
-/
namespace PttVerif.C11
open PttVerif PttVerif.C18

/-! ### cutting a listing into pages -/

/-- `l` cut into pages of `n` (the last one may be shorter; an empty listing is one empty page).  The first argument after
`n` is fuel, one unit per page: any fuel `≥ l.length` gives the same pages when `n ≥ 1`, and the statements use
`pagesOf n l.length l`. -/
def pagesOf {α : Type} (n : Nat) : Nat → List α → List (List α)
  | 0, l => [l]
  | f + 1, l => if l.length ≤ n then [l] else l.take n :: pagesOf n f (l.drop n)

theorem pagesOf_flatten {α : Type} (n f : Nat) (l : List α) : (pagesOf n f l).flatten = l := by
  induction f generalizing l with
  | zero => simp [pagesOf]
  | succ f ih =>
    unfold pagesOf
    split
    · simp
    · simp [ih]

theorem pagesOf_of_le {α : Type} (n f : Nat) (l : List α) (h : l.length ≤ n) : pagesOf n f l = [l] := by
  cases f with
  | zero => rfl
  | succ f => rw [pagesOf, if_pos h]

theorem pagesOf_fuel {α : Type} (n : Nat) (hn : 1 ≤ n) (f g : Nat) (l : List α) (hf : l.length ≤ f) (hg : l.length ≤ g) :
    pagesOf n f l = pagesOf n g l := by
  induction f generalizing g l with
  | zero =>
    have h : l.length ≤ n := Nat.le_trans hf (Nat.zero_le n)
    rw [pagesOf_of_le n 0 l h, pagesOf_of_le n g l h]
  | succ f ih =>
    by_cases h : l.length ≤ n
    · rw [pagesOf_of_le n _ l h, pagesOf_of_le n g l h]
    · cases g with
      | zero => exact absurd (Nat.le_trans hg (Nat.zero_le n)) h
      | succ g =>
        rw [pagesOf, pagesOf, if_neg h, if_neg h,
          ih g (l.drop n) (by rw [List.length_drop]; omega) (by rw [List.length_drop]; omega)]

theorem pagesOf_sizes {α : Type} (n : Nat) (hn : 1 ≤ n) (f : Nat) (l : List α) (hf : l.length ≤ f) :
    ∀ p ∈ (pagesOf n f l).dropLast, p.length = n := by
  induction f generalizing l with
  | zero => simp [pagesOf]
  | succ f ih =>
    unfold pagesOf
    split
    · simp
    · rename_i h
      intro p hp
      have hne : pagesOf n f (l.drop n) ≠ [] := by
        cases f <;> simp [pagesOf]; split <;> simp
      rw [List.dropLast_cons_of_ne_nil hne] at hp
      rcases List.mem_cons.mp hp with rfl | hp
      · simp; omega
      · exact ih (l.drop n) (by simp; omega) p hp

/-! ### the collecting loop -/

theorem takeWhile_const_true (l : List Entry) : l.takeWhile (fun _ => true) = l := by
  induction l with
  | nil => rfl
  | cons a r ih => rw [List.takeWhile_cons, if_pos rfl, ih]

theorem gather_eq (stop ok : Entry → Bool) (l : List Entry) (cap : Nat) :
    gather stop ok l cap = ((l.takeWhile (fun e => !stop e)).filter ok).take cap := by
  induction l generalizing cap with
  | nil => cases cap <;> simp [gather]
  | cons e rest ih =>
    cases cap with
    | zero => simp [gather]
    | succ cap =>
      unfold gather
      by_cases hs : stop e = true
      · simp [hs]
      · have hs' : stop e = false := by simpa using hs
        by_cases ho : ok e = true
        · simp [hs', ho, ih]
        · have ho' : ok e = false := by simpa using ho
          simp [hs', ho', ih]

/-- the loop of the listings that have no `break`. -/
theorem gather_nostop (ok : Entry → Bool) (l : List Entry) (cap : Nat) :
    gather (fun _ => false) ok l cap = (l.filter ok).take cap := by
  rw [gather_eq]
  exact congrArg (fun x => (x.filter ok).take cap) (takeWhile_const_true l)

/-- the page record built from `nBoards + 1` collected entries. -/
theorem split_page (V : List Entry) (n : Nat) :
    (if ((V.take (n + 1)).length : Int) = (n : Int) + 1 then
        (⟨(V.take (n + 1)).take n, (V.take (n + 1))[n]?⟩ : Page)
      else ⟨V.take (n + 1), none⟩) = ⟨V.take n, V[n]?⟩ := by
  by_cases h : n + 1 ≤ V.length
  · have : (V.take (n + 1)).length = n + 1 := by rw [List.length_take]; exact Nat.min_eq_left h
    rw [if_pos (by rw [this]; rfl), List.take_take, Nat.min_eq_left (Nat.le_succ n), List.getElem?_take,
      if_pos (Nat.lt_succ_self n)]
  · have hl : V.length ≤ n := Nat.le_of_lt_succ (Nat.lt_of_not_le h)
    have : V.take (n + 1) = V := List.take_of_length_le (Nat.le_succ_of_le hl)
    rw [this, if_neg (by omega), List.take_of_length_le hl, List.getElem?_eq_none hl]

/-- where the `m`-th kept element of a filtered list sits in the list, and what follows it. -/
theorem filter_position (ok : Entry → Bool) (os : List Entry) (m : Nat) (hm : m < (os.filter ok).length) :
    ∃ p, ∃ hp : p < os.length, os[p] = (os.filter ok)[m] ∧ (os.drop p).filter ok = (os.filter ok).drop m := by
  induction os generalizing m with
  | nil => simp at hm
  | cons e rest ih =>
    by_cases ho : ok e = true
    · cases m with
      | zero => exact ⟨0, Nat.zero_lt_succ _, by simp [ho], rfl⟩
      | succ m =>
        obtain ⟨p, hp, h1, h2⟩ := ih m (by simpa [ho] using hm)
        exact ⟨p + 1, Nat.succ_lt_succ hp, by simpa [ho] using h1, by simpa [ho] using h2⟩
    · obtain ⟨p, hp, h1, h2⟩ := ih m (by simpa [ho] using hm)
      exact ⟨p + 1, Nat.succ_lt_succ hp, by simpa [ho] using h1, by simpa [ho] using h2⟩

/-! ### the client loops -/

/-- Both client loops (`walkFrom` over cursors, `walkBid` over bids) are a `walk` that loads the page behind a key
and goes on with the key `next` of its look-ahead entry. -/
theorem walk_pages {κ : Type} (walk : Nat → κ → R (List (List Entry))) (load : κ → R Page) (next : Page → Option κ)
    (hstep : ∀ f c p, load c = .ok p →
      walk (f + 1) c = match next p with
        | none => .ok [p.items]
        | some c' => (walk f c').bind fun rest => .ok (p.items :: rest))
    (key : Entry → κ) (V : List Entry) (n : Nat) (hn : 1 ≤ n)
    (H1 : ∀ m (hm : m < V.length), load (key V[m]) = .ok ⟨(V.drop m).take n, (V.drop m)[n]?⟩)
    (Hnone : ∀ items, next ⟨items, none⟩ = none) (Hsome : ∀ e ∈ V, ∀ items, next ⟨items, some e⟩ = some (key e)) :
    ∀ fuel m r c, m + r = V.length → r + 1 ≤ fuel →
      load c = .ok ⟨(V.drop m).take n, (V.drop m)[n]?⟩ →
      walk fuel c = .ok (pagesOf n r (V.drop m)) := by
  intro fuel
  induction fuel with
  | zero => intro m r c _ hf; exact absurd hf (Nat.not_succ_le_zero r)
  | succ f ih =>
    intro m r c hmr hf hload
    rw [hstep f c _ hload]
    have hlen : (V.drop m).length = r := by rw [List.length_drop, ← hmr, Nat.add_sub_cancel_left]
    by_cases hlast : (V.drop m).length ≤ n
    · rw [List.getElem?_eq_none hlast, Hnone, List.take_of_length_le hlast, pagesOf_of_le n _ _ hlast]
    · obtain ⟨r', rfl⟩ := Nat.exists_eq_add_of_lt (hlen ▸ Nat.lt_of_not_le hlast)
      have hmr' : m + n + (r' + 1) = V.length := (Nat.add_assoc m n (r' + 1)).trans hmr
      have hmn : m + n < V.length := hmr' ▸ Nat.lt_add_of_pos_right (Nat.succ_pos r')
      have hlen' : (V.drop (m + n)).length = r' + 1 := by rw [List.length_drop, ← hmr', Nat.add_sub_cancel_left]
      have hsome : (V.drop m)[n]? = some V[m + n] := by
        rw [List.getElem?_drop, List.getElem?_eq_getElem hmn]
      have hcut : pagesOf n (n + r' + 1) (V.drop m) = (V.drop m).take n :: pagesOf n (n + r') (V.drop (m + n)) := by
        rw [pagesOf, if_neg hlast, List.drop_drop]
      rw [hsome, Hsome _ (List.getElem_mem hmn), hcut,
        pagesOf_fuel n hn (n + r') (r' + 1) (V.drop (m + n))
          (by rw [hlen', Nat.add_comm n r']; exact Nat.add_le_add_left hn r') (Nat.le_of_eq hlen')]
      simp only
      rw [ih (m + n) (r' + 1) _ hmr' (by omega) (H1 (m + n) hmn)]
      rfl

/-! ### one page of a listing -/

/-- the order in which a listing visits the sorted array. -/
def oriented (es : List Entry) (isAsc : Bool) : List Entry := if isAsc then es else es.reverse

/-- position `p` of the sorted array, as a position of the visiting order. -/
def opos (es : List Entry) (isAsc : Bool) (p : Nat) : Nat := if isAsc then p else es.length - 1 - p

theorem oriented_length (es : List Entry) (isAsc : Bool) : (oriented es isAsc).length = es.length := by
  unfold oriented
  split
  · rfl
  · exact List.length_reverse

theorem mem_oriented {es : List Entry} {isAsc : Bool} {e : Entry} (h : e ∈ oriented es isAsc) : e ∈ es := by
  unfold oriented at h
  split at h
  · exact h
  · exact List.mem_reverse.mp h

theorem opos_lt (es : List Entry) (isAsc : Bool) (k : Nat) (hk : k < es.length) : opos es isAsc k < es.length := by
  cases isAsc with
  | true => exact hk
  | false => exact (mirror_facts es.length k hk).1

theorem opos_opos (es : List Entry) (isAsc : Bool) (k : Nat) (hk : k < es.length) :
    opos es isAsc (opos es isAsc k) = k := by
  cases isAsc with
  | true => rfl
  | false => exact Nat.sub_sub_self (Nat.le_sub_one_of_lt hk)

theorem oriented_getElem (es : List Entry) (isAsc : Bool) (k : Nat) (hk : k < es.length) :
    (oriented es isAsc)[k]'(by rw [oriented_length]; exact hk) = es[opos es isAsc k]'(opos_lt es isAsc k hk) := by
  cases isAsc with
  | true => rfl
  | false =>
    simp only [oriented, opos, Bool.false_eq_true, if_false]
    rw [List.getElem_reverse]

/-- what a page starting at visiting position `k` contains: the kept boards from there up to the first `stop`. -/
def windowG (ok : Entry → Bool) (es : List Entry) (stop : Entry → Bool) (isAsc : Bool) (k : Nat) : List Entry :=
  (((oriented es isAsc).drop k).takeWhile (fun e => !stop e)).filter ok

theorem start_facts (p : Nat) :
    Int.ofNat p + 1 ≠ 0 ∧ ¬ Int.ofNat p + 1 - 1 < 0 ∧ (Int.ofNat p + 1 - 1).toNat = p := by
  simp only [Int.ofNat_eq_natCast]
  omega

theorem cap_facts (n : Nat) :
    ¬ Int.ofNat n + 1 < 0 ∧ (Int.ofNat n + 1).toNat = n + 1 ∧ ¬ Int.ofNat n < 0 ∧ (Int.ofNat n).toNat = n := by
  simp only [Int.ofNat_eq_natCast]
  omega

/-- the frame of the ptt listings: the loop `collect` runs from `p` on (or down) with capacity `n + 1`, one more than
the page, and what it collected is split into the page and the look-ahead entry. -/
theorem pttLoadG_nat (collect : List Entry → Nat → List Entry) (es : List Entry) (p n : Nat) (isAsc : Bool)
    (got : List Entry) (hgot : collect (if isAsc then es.drop p else downFrom es p) (n + 1) = got) :
    pttLoadG collect es (Int.ofNat p + 1) (Int.ofNat n) isAsc =
      .ok (if Int.ofNat got.length = Int.ofNat n + 1 then ⟨got.take n, got[n]?⟩ else ⟨got, none⟩) := by
  obtain ⟨p1, p4, p5⟩ := start_facts p
  obtain ⟨n2, n3, n6, n7⟩ := cap_facts n
  have p1' : ¬ (Int.ofNat p + 1 = 0 ∧ ¬ isAsc = true) := fun h => p1 h.1
  unfold pttLoadG
  simp only [if_neg p1', if_neg n2, if_neg p4, p5, n3, if_neg n6, n7, bind, Except.bind, pure, Except.pure]
  cases isAsc with
  | true =>
    rw [if_pos rfl] at hgot ⊢
    rw [hgot]
    exact (apply_ite Except.ok _ _ _).symm
  | false =>
    rw [if_neg Bool.false_ne_true] at hgot ⊢
    rw [hgot]
    exact (apply_ite Except.ok _ _ _).symm

theorem visit_eq (es : List Entry) (isAsc : Bool) (p : Nat) (hp : p < es.length) :
    (if isAsc then es.drop p else downFrom es p) = (oriented es isAsc).drop (opos es isAsc p) := by
  cases isAsc with
  | true => rfl
  | false => exact downFrom_eq es p hp

theorem pttLoadG_at (ok : Entry → Bool) (es : List Entry) (stop : Entry → Bool) (p : Nat) (hp : p < es.length) (n : Nat) (isAsc : Bool) :
    pttLoadG (gather stop ok) es (Int.ofNat p + 1) (n : Int) isAsc =
      .ok ⟨(windowG ok es stop isAsc (opos es isAsc p)).take n, (windowG ok es stop isAsc (opos es isAsc p))[n]?⟩ := by
  rw [← split_page]
  exact pttLoadG_nat (gather stop ok) es p n isAsc _ (by rw [gather_eq, visit_eq es isAsc p hp]; rfl)

/-- descending, start index 0 stands for the last position (an empty view included). -/
theorem pttLoadG_last (collect : List Entry → Nat → List Entry) (es : List Entry) (n : Nat)
    (got : List Entry) (hgot : collect es.reverse (n + 1) = got) :
    pttLoadG collect es 0 (Int.ofNat n) false =
      .ok (if Int.ofNat got.length = Int.ofNat n + 1 then ⟨got.take n, got[n]?⟩ else ⟨got, none⟩) := by
  obtain ⟨n2, n3, n6, n7⟩ := cap_facts n
  have hc : (0 : Int) = 0 ∧ ¬ false = true := ⟨rfl, Bool.false_ne_true⟩
  have hseq : (if Int.ofNat es.length - 1 < 0 then (pure [] : M (List Entry))
      else pure (downFrom es (Int.ofNat es.length - 1).toNat)) = .ok es.reverse := by
    cases es with
    | nil => rfl
    | cons e rest =>
      obtain ⟨_, p2, p3⟩ := start_facts rest.length
      show (if Int.ofNat rest.length + 1 - 1 < 0 then (pure [] : M (List Entry))
        else pure (downFrom (e :: rest) (Int.ofNat rest.length + 1 - 1).toNat)) = _
      rw [if_neg p2, p3]
      unfold downFrom
      rw [show rest.length + 1 = (e :: rest).length from rfl, List.take_length]
      rfl
  unfold pttLoadG
  rw [if_pos hc]
  simp only [if_neg n2, n3, if_neg n6, n7, Bool.false_eq_true, if_false]
  rw [hseq]
  simp only [bind, Except.bind, pure, Except.pure, hgot]
  exact (apply_ite Except.ok _ _ _).symm

/-- the first page (`startIdxStr == ""`: start 1 ascending, 0 = "from the last" descending). -/
theorem pttLoadG_first (ok : Entry → Bool) (es : List Entry) (stop : Entry → Bool) (n : Nat) (isAsc : Bool) :
    pttLoadG (gather stop ok) es (if isAsc then 1 else 0) (n : Int) isAsc =
      .ok ⟨(windowG ok es stop isAsc 0).take n, (windowG ok es stop isAsc 0)[n]?⟩ := by
  rw [← split_page]
  cases isAsc with
  | true => exact pttLoadG_nat (gather stop ok) es 0 n true _ (gather_eq stop ok _ _)
  | false => exact pttLoadG_last (gather stop ok) es n _ (gather_eq stop ok _ _)

/-! ### following the cursors -/

theorem takeWhile_drop {α : Type} (q : α → Bool) (l : List α) (j : Nat) (hj : j ≤ (l.takeWhile q).length) :
    (l.drop j).takeWhile q = (l.takeWhile q).drop j := by
  induction l generalizing j with
  | nil => simp
  | cons a rest ih =>
    cases j with
    | zero => simp
    | succ j =>
      by_cases ha : q a = true
      · simp only [List.takeWhile_cons, ha, if_true, List.length_cons] at hj ⊢
        simp only [List.drop_succ_cons]
        exact ih j (by omega)
      · simp [ha] at hj

/-- the window behind the `m`-th entry of a window. -/
theorem window_shiftG (ok : Entry → Bool) (es : List Entry) (stop : Entry → Bool) (isAsc : Bool) (k0 m : Nat)
    (hm : m < (windowG ok es stop isAsc k0).length) :
    ∃ p', ∃ hp' : p' < (oriented es isAsc).length, (oriented es isAsc)[p'] = (windowG ok es stop isAsc k0)[m] ∧
      windowG ok es stop isAsc p' = (windowG ok es stop isAsc k0).drop m := by
  unfold windowG at hm ⊢
  generalize hos : oriented es isAsc = os at hm ⊢
  obtain ⟨j, hj, h1, h2⟩ := filter_position ok ((os.drop k0).takeWhile (fun e => !stop e)) m hm
  have hjl : j < (os.drop k0).length := Nat.lt_of_lt_of_le hj (List.takeWhile_sublist _).length_le
  have hkj : k0 + j < os.length := by simp at hjl; omega
  refine ⟨k0 + j, hkj, ?_, ?_⟩
  · rw [← h1, (List.takeWhile_prefix (fun e => !stop e)).getElem hj]
    simp
  · rw [← h2, ← takeWhile_drop _ _ j (Nat.le_of_lt hj), List.drop_drop]

theorem liftM_ok {α : Type} {x : M α} {a : α} (h : x = .ok a) : liftM x = .ok a := by rw [h]; rfl

/-- a listing whose first page is the window at visiting position `k0`, and whose page behind the cursor of the
entry at sorted position `p` is `pttLoadG` from `p + 1`, pages through exactly that window. -/
theorem walk_listingG (ok : Entry → Bool) (es : List Entry) (stop : Entry → Bool) (load : Option Cursor → R Page) (by_ : SortBy)
    (isAsc : Bool) (n : Nat) (hn : 1 ≤ n) (k0 : Nat)
    (hfirst : load none = .ok ⟨(windowG ok es stop isAsc k0).take n, (windowG ok es stop isAsc k0)[n]?⟩)
    (hat : ∀ p (hp : p < es.length), ok es[p] = true →
      load (some (cursorOf es[p])) = liftM (pttLoadG (gather stop ok) es (Int.ofNat p + 1) (n : Int) isAsc))
    (Hc : ∀ e ∈ es, ok e = true → ∀ items, nextCursor by_ ⟨items, some e⟩ = some (cursorOf e)) :
    walkFrom load by_ (walkFuel es.length) none =
      .ok (pagesOf n (windowG ok es stop isAsc k0).length (windowG ok es stop isAsc k0)) := by
  have hsub : ∀ e ∈ windowG ok es stop isAsc k0, e ∈ es ∧ ok e = true := by
    intro e he
    have h1 := List.mem_filter.mp he
    exact ⟨mem_oriented (List.mem_of_mem_drop ((List.takeWhile_sublist _).subset h1.1)), h1.2⟩
  have hlen : (windowG ok es stop isAsc k0).length ≤ es.length := by
    unfold windowG
    calc _ ≤ ((oriented es isAsc).drop k0 |>.takeWhile (fun e => !stop e)).length := List.length_filter_le _ _
      _ ≤ ((oriented es isAsc).drop k0).length := (List.takeWhile_sublist _).length_le
      _ ≤ (oriented es isAsc).length := by rw [List.length_drop]; exact Nat.sub_le _ _
      _ = es.length := oriented_length es isAsc
  refine walk_pages (walkFrom load by_) load (fun p => (nextCursor by_ p).map some) ?_ (fun e => some (cursorOf e))
    (windowG ok es stop isAsc k0) n hn ?_ (fun _ => rfl) ?_ (walkFuel es.length) 0 _ none (Nat.zero_add _)
    (Nat.succ_le_succ (Nat.le_trans hlen (Nat.le_succ _))) hfirst
  · intro f c p h
    rw [walkFrom, h]
    simp only [bind, Except.bind]
    cases nextCursor by_ p <;> rfl
  · -- the page behind the cursor of the `m`-th entry: that entry sits at visiting position `p'`
    intro m hm
    obtain ⟨p', hp', h1, h2⟩ := window_shiftG ok es stop isAsc k0 m hm
    have hp'' : p' < es.length := by rw [← oriented_length es isAsc]; exact hp'
    have hp : opos es isAsc p' < es.length := opos_lt es isAsc p' hp''
    have he : es[opos es isAsc p'] = (windowG ok es stop isAsc k0)[m] := by
      rw [← h1, oriented_getElem es isAsc p' hp'']
    have hl : ok es[opos es isAsc p'] = true := by rw [he]; exact (hsub _ (List.getElem_mem hm)).2
    show load (some (cursorOf (windowG ok es stop isAsc k0)[m])) = _
    rw [← he, hat _ hp hl, liftM_ok (pttLoadG_at ok es stop _ hp n isAsc), opos_opos es isAsc p' hp'', h2]
  · intro e he items
    show Option.map some (nextCursor by_ ⟨items, some e⟩) = _
    rw [Hc e (hsub e he).1 (hsub e he).2 items]
    rfl

theorem windowG_nostop (ok : Entry → Bool) (es : List Entry) (isAsc : Bool) (k : Nat) :
    windowG ok es (fun _ => false) isAsc k = ((oriented es isAsc).drop k).filter ok := by
  unfold windowG
  exact congrArg _ (takeWhile_const_true _)

/-! ### the cursor of a board resolves to that board -/

theorem cstr_name_ne (e : Entry) (h : e.b.name.getD 0 0 ≠ 0) : cstr e.b.name ≠ [] := by
  intro hc
  cases hn : e.b.name with
  | nil => rw [hn] at h; exact h rfl
  | cons x xs =>
    rw [hn] at h hc
    rw [cstr_cons, if_neg (fun hx : x = 0 => h hx)] at hc
    cases hc

theorem nkey_ne (e : Entry) (h : e.b.name.getD 0 0 ≠ 0) : nkey e ≠ [] :=
  fun hc => cstr_name_ne e h (List.map_eq_nil_iff.mp hc)

theorem name_of_listable (e : Entry) (h : listable e = true) : e.b.name.getD 0 0 ≠ 0 := by
  unfold listable at h
  rw [Bool.and_eq_true] at h
  exact bne_iff_ne.mp h.1

theorem name_of_detailOK (maxBoard : Nat) (e : Entry) (h : detailOK maxBoard e = true) : e.b.name.getD 0 0 ≠ 0 := by
  unfold detailOK at h
  rw [Bool.and_eq_true] at h
  exact bne_iff_ne.mp h.2

theorem nextCursor_name (e : Entry) (h : e.b.name.getD 0 0 ≠ 0) (items : List Entry) :
    nextCursor .name ⟨items, some e⟩ = some (cursorOf e) := by
  simp only [nextCursor]
  rw [if_neg (cstr_name_ne e h)]

theorem low_cursor_name (nameLen : Nat) (e : Entry) (hl : e.b.name.length = nameLen) :
    low (copyInto nameLen (cstr e.b.name)) = nkey e := by
  unfold low nkey low
  rw [cstr_copyInto, cstr_idem, List.take_of_length_le (by rw [← hl]; exact cstr_length_le _)]

/-- searching a sorted view of distinct names for the key of its own entry at `p` answers `p + 1`, in both directions. -/
theorem findIdx_own_key {κ : Type} {cmp : κ → κ → Ordering} (L : OrdLaws cmp) {key : Entry → κ}
    (hkey : ∀ a b, key a = key b → nkey a = nkey b) {maxBoard : Nat} {f : Entry → M Int} {c : Entry → Int}
    (hc : ∀ e, f e = .ok (c e)) {es : List Entry} (S : SortedBy cmp key es) (D : DistinctNames es)
    (hv : ∀ e ∈ es, e.bid + 1 ≤ maxBoard) {p : Nat} (hp : p < es.length) (hne : nkey es[p] ≠ [])
    (hs : ∀ e ∈ es, SignIs (c e) (cmp (key es[p]) (key e))) (isAsc : Bool) :
    findIdx maxBoard f es isAsc = .ok (Int.ofNat p + 1) := by
  have Mn : Mono c es := mono_of_sorted L key (key es[p]) c es hs S
  have U : Unique0 c es := by
    refine unique0_of_key c es (nkey es[p]) hne (fun e he h0 => ?_) D
    -- equal keys have equal name components
    have hk : key es[p] = key e := (L.eq_iff _ _).mp ((hs e he).2.1.mp h0)
    exact (hkey _ _ hk).symm
  have h0 : c es[p] = 0 := (hs _ (List.getElem_mem hp)).2.1.mpr (L.refl _)
  rw [findIdx_eq_nearest hc hv Mn U isAsc, nearest_of_zero Mn U p hp h0, oneBased_ofNat]

theorem startOfCursor_name_self {t : Tbl} (W : NameView t.maxBoard t.nameLen t.byName)
    (p : Nat) (hp : p < t.byName.length) (hne : nkey t.byName[p] ≠ []) (isAsc : Bool) :
    startOfCursor t .name (some (cursorOf t.byName[p])) isAsc = .ok (Int.ofNat p + 1) := by
  obtain ⟨q, hq⟩ : ∃ q, q = copyInto t.nameLen (cursorOf t.byName[p]).name := ⟨_, rfl⟩
  have hlow : low q = nkey t.byName[p] := by
    rw [hq]; exact low_cursor_name t.nameLen _ (W.names _ (List.getElem_mem hp))
  have hf := findIdx_own_key lexLaws (fun _ _ h => h) (cmpName_eq q) W.sorted W.distinct W.valid hp hne
    (fun e _ => hlow ▸ cmpNameP_sign q e) isAsc
  unfold startOfCursor
  simp only
  rw [← hq, liftM_ok hf]

/-- the hypotheses on a by-class view.  `noAt` is what the `'@'` refusal of `startOfCursor` needs; it speaks of the C
string of the name, `NoAtFF` of its lower-cased key: of `'@'`, which is not a letter, both say the same. -/
structure ClassView (t : Tbl) : Prop where
  names : NamesLen t.nameLen t.byClass
  valid : ∀ e ∈ t.byClass, e.bid + 1 ≤ t.maxBoard
  sorted : SortedBy cmpC ckey t.byClass
  distinct : DistinctNames t.byClass
  classOK : ∀ e ∈ t.byClass, ClassOK e
  noAt : ∀ e ∈ t.byClass, (cstr e.b.name).contains 64 = false

/-- the by-class cursor `(C string of Title[:4], name)` that the bbs layer serialises for the board at position `p`
of the by-class view resolves to `p + 1`, in both directions. -/
theorem startOfCursor_class_self {t : Tbl} (H : ClassView t) (p : Nat) (hp : p < t.byClass.length)
    (hne : nkey t.byClass[p] ≠ []) (isAsc : Bool) :
    startOfCursor t .cls (some (cursorOf t.byClass[p])) isAsc = .ok (Int.ofNat p + 1) := by
  obtain ⟨q, hq⟩ : ∃ q, q = copyInto t.nameLen (cursorOf t.byClass[p]).name := ⟨_, rfl⟩
  obtain ⟨cls, hcls⟩ : ∃ cls, cls = (cursorOf t.byClass[p]).cls := ⟨_, rfl⟩
  have hlow : low q = nkey t.byClass[p] := by
    rw [hq]; exact low_cursor_name t.nameLen _ (H.names _ (List.getElem_mem hp))
  have hQ : (cstr cls, low q) = ckey t.byClass[p] := by
    rw [hcls, hlow]
    exact congrArg (fun a => (a, nkey t.byClass[p])) (cstr_idem _)
  have hf := findIdx_own_key classLaws (fun _ _ h => congrArg Prod.snd h) (cmpClass_eq cls q) H.sorted H.distinct H.valid hp hne
    (fun e he => hQ ▸ cmpClassP_sign cls q e (H.classOK e he)) isAsc
  have hna : (cursorOf t.byClass[p]).name.contains 64 = false := H.noAt _ (List.getElem_mem hp)
  unfold startOfCursor
  simp only
  rw [hna, if_neg Bool.false_ne_true, ← hq, ← hcls, liftM_ok hf]

/-! ### the by-name and by-class listings, summaries and details -/

/-- the boards a complete walk must return, in the order it must return them. -/
def visible (es : List Entry) (isAsc : Bool) : List Entry := (oriented es isAsc).filter listable

/-- the slots a complete walk of LoadGeneralBoardDetails must return: every non-vacated slot, in visiting order. -/
def visibleDetails (maxBoard : Nat) (es : List Entry) (isAsc : Bool) : List Entry :=
  (oriented es isAsc).filter (detailOK maxBoard)

/-- a listing that never stops and whose cursors resolve to their own entries returns every kept entry of the view once,
in visiting order, and ends — wherever the entries not kept sit in the view. -/
theorem walk_cursors (t : Tbl) (by_ : SortBy) (ok : Entry → Bool) (load : Option Cursor → R Page) (n : Nat)
    (isAsc : Bool)
    (hload : ∀ c, load c = (do
      let startIdx ← startOfCursor t by_ c isAsc
      if startIdx < 0 then pure ⟨[], none⟩
      else liftM (pttLoadG (gather (fun _ => false) ok) (t.view by_) startIdx (n : Int) isAsc)))
    (hok : ∀ e, ok e = true → e.b.name.getD 0 0 ≠ 0)
    (hres : ∀ p (hp : p < (t.view by_).length), nkey (t.view by_)[p] ≠ [] →
      startOfCursor t by_ (some (cursorOf (t.view by_)[p])) isAsc = .ok (Int.ofNat p + 1))
    (h1 : 1 ≤ n) :
    walkFrom load by_ (walkFuel (t.view by_).length) none =
      .ok (pagesOf n ((oriented (t.view by_) isAsc).filter ok).length ((oriented (t.view by_) isAsc).filter ok)) := by
  generalize t.view by_ = es at hload hres ⊢
  have hw : windowG ok es (fun _ => false) isAsc 0 = (oriented es isAsc).filter ok := windowG_nostop ok es isAsc 0
  rw [← hw]
  apply walk_listingG ok es (fun _ => false) load by_ isAsc n h1 0
  · rw [hload none]
    unfold startOfCursor
    simp only [bind, Except.bind, pure, Except.pure]
    rw [if_neg (by split <;> omega)]
    exact liftM_ok (pttLoadG_first ok es (fun _ => false) n isAsc)
  · intro p hp hokp
    rw [hload, hres p hp (nkey_ne _ (hok _ hokp))]
    simp only [bind, Except.bind]
    rw [if_neg (by simp only [Int.ofNat_eq_natCast]; omega)]
  · intro e _ hoke items
    cases by_ with
    | name => exact nextCursor_name e (hok e hoke) items
    | cls => rfl

/-! ### the auto-complete listing -/

/-- in a sorted view the boards carrying a prefix are consecutive: of three boards met in this order, the middle one
carries the prefix if the outer two do. -/
theorem pref_between (kw : List Nat) (h0 : ∀ x ∈ kw, x ≠ 0) (es : List Entry) (S : SortedBy lexCmp nkey es)
    (a b c : Entry) (h : [a, b, c].Sublist es) (ha : pref kw a = true) (hc : pref kw c = true) : pref kw b = true := by
  -- the probe comparator is monotone along `a, b, c` and zero at `a` and `c`
  have P : Mono (probeP kw) [a, b, c] := List.Pairwise.sublist h (mono_probeP kw S)
  simp only [Mono, List.pairwise_cons, List.mem_cons] at P
  have hab := P.1 b (Or.inl rfl)
  have hbc := P.2.1 c (Or.inl rfl)
  rw [pref_iff_probeP h0] at ha hc ⊢
  omega

theorem pref_between_oriented (kw : List Nat) (h0 : ∀ x ∈ kw, x ≠ 0) (es : List Entry) (S : SortedBy lexCmp nkey es)
    (isAsc : Bool) (a b c : Entry) (h : [a, b, c].Sublist (oriented es isAsc)) (ha : pref kw a = true) (hc : pref kw c = true) :
    pref kw b = true := by
  cases isAsc with
  | true => exact pref_between kw h0 es S a b c h ha hc
  | false =>
    have h' : [c, b, a].Sublist es := by
      have := List.reverse_sublist.mpr h
      rwa [show oriented es false = es.reverse from rfl, List.reverse_reverse] at this
    exact pref_between kw h0 es S c b a h' hc ha

theorem filter_block_tail (q ok : Entry → Bool) (a : Entry) (r : List Entry)
    (H : ∀ b c, [a, b, c].Sublist (a :: r) → q c = true → q b = true) :
    r.filter (fun e => q e && ok e) = (r.takeWhile q).filter ok := by
  induction r with
  | nil => rfl
  | cons b r' ih =>
    have H' : ∀ b' c, [a, b', c].Sublist (a :: r') → q c = true → q b' = true :=
      fun b' c h => H b' c (h.trans (List.Sublist.cons_cons a (List.sublist_cons_self b r')))
    cases hb : q b with
    | true => rw [List.takeWhile_cons, if_pos hb, List.filter_cons, List.filter_cons, hb, Bool.true_and, ih H']
    | false =>
      rw [List.takeWhile_cons, if_neg (by rw [hb]; exact Bool.false_ne_true)]
      apply List.filter_eq_nil_iff.mpr
      intro e he hqe
      rw [Bool.and_eq_true] at hqe
      rcases List.mem_cons.mp he with rfl | he'
      · rw [hb] at hqe; exact Bool.false_ne_true hqe.1
      · have := H b e (List.Sublist.cons_cons a (List.Sublist.cons_cons b (List.singleton_sublist.mpr he'))) hqe.1
        rw [hb] at this; exact Bool.false_ne_true this

theorem filter_block (q ok : Entry → Bool) (os : List Entry)
    (H : ∀ a b c, [a, b, c].Sublist os → q a = true → q c = true → q b = true) :
    os.filter (fun e => q e && ok e) = ((os.dropWhile (fun e => !q e)).takeWhile q).filter ok := by
  induction os with
  | nil => rfl
  | cons a r ih =>
    cases ha : q a with
    | false =>
      rw [List.filter_cons, ha, Bool.false_and, if_neg Bool.false_ne_true, List.dropWhile_cons, ha, Bool.not_false,
        if_pos rfl]
      exact ih (fun a' b c h => H a' b c (h.trans (List.sublist_cons_self a r)))
    | true =>
      rw [List.dropWhile_cons, ha, Bool.not_true, if_neg Bool.false_ne_true, List.takeWhile_cons, if_pos ha,
        List.filter_cons, List.filter_cons, ha, Bool.true_and,
        filter_block_tail q ok a r (fun b c h hc => H a b c h ha hc)]

theorem drop_eq_dropWhile (q : Entry → Bool) (os : List Entry) (d : Nat) (hd : d < os.length) (h2 : q os[d] = true)
    (h3 : ∀ k (hk : k < d), q (os[k]'(Nat.lt_trans hk hd)) = false) : os.drop d = os.dropWhile (fun e => !q e) := by
  induction d generalizing os with
  | zero =>
    cases os with
    | nil => exact absurd hd (Nat.lt_irrefl 0)
    | cons a r =>
      have ha : q a = true := h2
      rw [List.drop_zero, List.dropWhile_cons, ha, Bool.not_true, if_neg Bool.false_ne_true]
  | succ d ih =>
    cases os with
    | nil => exact absurd hd (Nat.not_lt_zero _)
    | cons a r =>
      have ha : q a = false := h3 0 (Nat.succ_pos d)
      rw [List.drop_succ_cons, List.dropWhile_cons, ha, Bool.not_false, if_pos rfl]
      exact ih r (Nat.lt_of_succ_lt_succ hd) h2 (fun k hk => h3 (k + 1) (Nat.succ_lt_succ hk))

/-- the boards a complete auto-complete walk must return. -/
def visibleAuto (kw : List Nat) (es : List Entry) (isAsc : Bool) : List Entry :=
  (oriented es isAsc).filter (fun e => pref kw e && listable e)

theorem loadAuto_cursor {t : Tbl} (W : NameView t.maxBoard t.nameLen t.byName) (kw : List Nat) (n : Nat) (isAsc : Bool)
    (p : Nat) (hp : p < t.byName.length) (hl : listable t.byName[p] = true) :
    loadAuto t (some (cursorOf t.byName[p])) (n : Int) kw isAsc =
      liftM (pttLoad t.byName (notPrefixed kw) (Int.ofNat p + 1) (n : Int) isAsc) := by
  unfold loadAuto
  simp only [bind, Except.bind, pure, Except.pure]
  rw [startOfCursor_name_self W p hp (nkey_ne _ (name_of_listable _ hl)) isAsc]
  simp only
  rw [if_neg (by simp only [Int.ofNat_eq_natCast]; omega)]

/-- paging the auto-complete listing, given that the start search found the first (last) board with the prefix. -/
theorem walkAuto_found {t : Tbl} (W : NameView t.maxBoard t.nameLen t.byName) (kw : List Nat) (h0 : ∀ x ∈ kw, x ≠ 0)
    (n : Nat) (h1 : 1 ≤ n) (isAsc : Bool) (f : Nat) (hf : f < t.byName.length)
    (hstart : autoStart t.maxBoard t.nameLen t.byName kw isAsc = .ok (Int.ofNat f + 1))
    (hpf : pref kw t.byName[f] = true)
    (hbefore : ∀ k (hk : k < t.byName.length), k < opos t.byName isAsc f →
      pref kw ((oriented t.byName isAsc)[k]'(by rw [oriented_length]; exact hk)) = false) :
    walkAuto t (n : Int) kw isAsc =
      .ok (pagesOf n (visibleAuto kw t.byName isAsc).length (visibleAuto kw t.byName isAsc)) := by
  have hk0' : opos t.byName isAsc f < t.byName.length := opos_lt t.byName isAsc f hf
  have hk0 : opos t.byName isAsc f < (oriented t.byName isAsc).length := by rw [oriented_length]; exact hk0'
  have hoo : opos t.byName isAsc (opos t.byName isAsc f) = f := opos_opos t.byName isAsc f hf
  have hW : windowG listable t.byName (notPrefixed kw) isAsc (opos t.byName isAsc f) = visibleAuto kw t.byName isAsc := by
    unfold windowG visibleAuto
    have hfun : (fun e => !notPrefixed kw e) = pref kw := by
      funext e; simp [notPrefixed_eq]
    rw [hfun]
    rw [drop_eq_dropWhile (pref kw) (oriented t.byName isAsc) (opos t.byName isAsc f) hk0,
      filter_block (pref kw) listable _ (pref_between_oriented kw h0 t.byName W.sorted isAsc)]
    · rw [oriented_getElem t.byName isAsc _ hk0']
      simp only [hoo]; exact hpf
    · intro k hk
      exact hbefore k (Nat.lt_trans hk hk0') hk
  rw [← hW]
  unfold walkAuto
  apply walk_listingG listable t.byName (notPrefixed kw) _ .name isAsc n h1 (opos t.byName isAsc f)
  · show loadAuto t none (n : Int) kw isAsc = _
    unfold loadAuto
    simp only [bind, Except.bind, pure, Except.pure]
    rw [liftM_ok hstart]
    simp only
    rw [if_neg (by simp only [Int.ofNat_eq_natCast]; omega)]
    exact liftM_ok (pttLoadG_at listable t.byName (notPrefixed kw) f hf n isAsc)
  · intro p hp hl
    exact loadAuto_cursor W kw n isAsc p hp hl
  · intro e _ hl items
    exact nextCursor_name e (name_of_listable e hl) items

/-- nothing carries the prefix: one empty page. -/
theorem walkAuto_none {t : Tbl} (kw : List Nat) (n : Nat) (isAsc : Bool)
    (hstart : autoStart t.maxBoard t.nameLen t.byName kw isAsc = .ok (-1))
    (hno : ∀ e ∈ t.byName, pref kw e = false) :
    walkAuto t (n : Int) kw isAsc =
      .ok (pagesOf n (visibleAuto kw t.byName isAsc).length (visibleAuto kw t.byName isAsc)) := by
  have hV : visibleAuto kw t.byName isAsc = [] := by
    unfold visibleAuto
    apply List.filter_eq_nil_iff.mpr
    intro e he
    rw [hno e (mem_oriented he)]; simp
  rw [hV]
  unfold walkAuto walkFuel
  rw [walkFrom]
  unfold loadAuto
  simp only [bind, Except.bind, pure, Except.pure]
  rw [liftM_ok hstart]
  rfl

/-- paging the auto-complete listing: every listable board carrying the prefix, once, in order. -/
theorem walkAuto_eq {t : Tbl} (W : NameView t.maxBoard t.nameLen t.byName) (kw : List Nat) (h0 : ∀ x ∈ kw, x ≠ 0)
    (n : Nat) (h1 : 1 ≤ n) (isAsc : Bool)
    (hstart : autoStart t.maxBoard t.nameLen t.byName kw isAsc = .ok (specAuto kw t.byName isAsc)) :
    walkAuto t (n : Int) kw isAsc =
      .ok (pagesOf n (visibleAuto kw t.byName isAsc).length (visibleAuto kw t.byName isAsc)) := by
  cases isAsc with
  | true =>
    rw [specAuto_asc] at hstart
    rcases scanFirst_spec (pref kw) t.byName with ⟨h1', h2⟩ | ⟨f, hf, h1', h2, h3⟩
    · rw [h1'] at hstart
      exact walkAuto_none kw n true hstart h2
    · rw [h1', oneBased_ofNat] at hstart
      exact walkAuto_found W kw h0 n h1 true f hf hstart h2 (fun k _ hlt => h3 k hlt)
  | false =>
    rw [specAuto_desc] at hstart
    rcases scanLast_spec (pref kw) t.byName with ⟨h1', h2⟩ | ⟨f, hf, h1', h2, h3⟩
    · rw [h1'] at hstart
      exact walkAuto_none kw n false hstart h2
    · rw [h1', oneBased_ofNat] at hstart
      apply walkAuto_found W kw h0 n h1 false f hf hstart h2
      -- visiting position `k` is sorted position `length - 1 - k`, behind `f`
      intro k hk hlt
      rw [oriented_getElem t.byName false k hk]
      have hlt' : k < t.byName.length - 1 - f := hlt
      have hk' : opos t.byName false k = t.byName.length - 1 - k := if_neg Bool.false_ne_true
      exact h3 _ (opos_lt t.byName false k hk) (by rw [hk']; omega)

/-! ### the class listings: slot order, paged by bid -/

/-- the client loop over `next_bid`: if the page from bid 1 and the page from the bid of every entry of `V` are the
corresponding windows of `V`, the walk returns `V` cut into pages, and ends. -/
theorem walkBid_pages (load : Int → R Page) (V : List Entry) (n : Nat) (hn : 1 ≤ n)
    (H1 : ∀ m (hm : m < V.length), load (Int.ofNat V[m].bid + 1) = .ok ⟨(V.drop m).take n, (V.drop m)[n]?⟩) :
    ∀ fuel m b, m ≤ V.length → (V.length - m) + 1 ≤ fuel →
      load b = .ok ⟨(V.drop m).take n, (V.drop m)[n]?⟩ →
      walkBid load fuel b = .ok (pagesOf n (V.length - m) (V.drop m)) := by
  intro fuel m b hm
  refine walk_pages (walkBid load) load (fun p => p.next.map fun e => Int.ofNat e.bid + 1) ?_
    (fun e => Int.ofNat e.bid + 1) V n hn H1 (fun _ => rfl) (fun _ _ _ => rfl) fuel m _ b (Nat.add_sub_cancel' hm)
  intro f b p h
  rw [walkBid, h]
  simp only [bind, Except.bind]
  cases p.next <;> rfl

/-- paging bbs.LoadFullClassBoards through `next_bid`: every class of the board table — in whichever slot it sits,
the last one included — exactly once, in slot order. -/
theorem walkFullClass_eq (maxBoard : Nat) (slots : List Entry) (hb : ∀ i (h : i < slots.length), slots[i].bid = i)
    (hlen : slots.length ≤ maxBoard) (hmb : 1 ≤ maxBoard) (n : Nat) (h1 : 1 ≤ n) :
    walkFullClass maxBoard slots (n : Int) =
      .ok (pagesOf n (slots.filter isClass).length (slots.filter isClass)) := by
  have hload : ∀ p : Nat, p < maxBoard → loadFullClass maxBoard slots (Int.ofNat p + 1) (n : Int) =
      liftM (pttLoadG (gather (fun _ => false) isClass) slots (Int.ofNat p + 1) (n : Int) true) := by
    intro p hp
    have hvalid : 1 ≤ Int.ofNat p + 1 ∧ Int.ofNat p + 1 ≤ Int.ofNat maxBoard := by
      simp only [Int.ofNat_eq_natCast]
      omega
    unfold loadFullClass
    rw [if_neg (fun h => h hvalid)]
  unfold walkFullClass
  refine walkBid_pages _ (slots.filter isClass) n h1 ?_ (walkFuel slots.length) 0 1 (Nat.zero_le _)
    (Nat.succ_le_succ (Nat.le_trans (List.length_filter_le _ _) (Nat.le_succ _))) ?_
  · -- the page from the bid of the `m`-th class, which sits in slot `p`
    intro m hm
    obtain ⟨p, hp, h1', h2⟩ := filter_position isClass slots m hm
    rw [← h1', hb p hp]
    show loadFullClass maxBoard slots (Int.ofNat p + 1) (n : Int) = _
    rw [hload p (Nat.lt_of_lt_of_le hp hlen), liftM_ok (pttLoadG_at isClass slots (fun _ => false) p hp n true),
      show opos slots true p = p from rfl, windowG_nostop, show oriented slots true = slots from rfl, h2]
  · have hf : pttLoadG (gather (fun _ => false) isClass) slots (Int.ofNat 0 + 1) (n : Int) true = _ :=
      pttLoadG_first isClass slots (fun _ => false) n true
    show loadFullClass maxBoard slots (Int.ofNat 0 + 1) (n : Int) = _
    rw [hload 0 hmb, liftM_ok hf, windowG_nostop]
    rfl

/-! ### bbs.LoadClassBoards: histories of requests on one table -/

/-- the sub-classes of a class: what LoadClassBoards must return. -/
def subclasses (t : Tbl) (links : List (Nat × Nat)) (c : Int) (by' : SortBy) : List Entry :=
  (childrenOf t links c by').filter isClass

/-- the order LoadClassBoards walks the children in: the root class 1 is always listed by class. -/
def byOf (c : Int) (by_ : SortBy) : SortBy := if c = 1 then SortBy.cls else by_

def SameGids (a b : List (Nat × Nat)) : Prop := ∀ j, (a.getD j (0, 0)).1 = (b.getD j (0, 0)).1

theorem childrenOf_congr (t : Tbl) (a b : List (Nat × Nat)) (h : SameGids a b) (c : Int) (by' : SortBy) :
    childrenOf t a c by' = childrenOf t b c by' := by
  unfold childrenOf
  apply List.filter_congr
  intro e _
  rw [h e.bid]

theorem getD_set {α : Type} (l : List α) (i j : Nat) (v d : α) :
    (l.set i v).getD j d = if i = j ∧ i < l.length then v else l.getD j d := by
  simp only [List.getD_eq_getElem?_getD, List.getElem?_set]
  by_cases h : i = j
  · subst h
    by_cases hl : i < l.length
    · simp [hl]
    · simp [hl]
  · simp [h]

theorem sameGids_setChildCount (st : ClsState) (i c : Nat) : SameGids (st.setChildCount i c).links st.links := by
  intro j
  unfold ClsState.setChildCount
  simp only [getD_set]
  split
  · rename_i h; rw [← h.1]
  · rfl

theorem childCount_setChildCount (st : ClsState) (i c j : Nat) :
    (st.setChildCount i c).childCount j = if i = j ∧ i < st.links.length then c else st.childCount j := by
  unfold ClsState.setChildCount ClsState.childCount
  simp only [getD_set]
  split <;> rfl

theorem markFirst_links (st : ClsState) (i : Nat) (b : SortBy) : (st.markFirst i b).links = st.links := by
  cases b <;> rfl

theorem markFirst_childCount (st : ClsState) (i j : Nat) (b : SortBy) : (st.markFirst i b).childCount j = st.childCount j := by
  cases b <;> rfl

theorem firstSet_setChildCount (st : ClsState) (i c j : Nat) (b : SortBy) :
    (st.setChildCount i c).firstSet j b = st.firstSet j b := by cases b <;> rfl

theorem firstSet_markFirst_ne (st : ClsState) (i j : Nat) (b b' : SortBy) (h : i ≠ j) :
    (st.markFirst i b).firstSet j b' = st.firstSet j b' := by
  have hij : ¬ (i = j ∧ i < st.first.length) := fun hh => h hh.1
  cases b <;> cases b' <;> simp only [ClsState.markFirst, ClsState.firstSet, getD_set, if_neg hij]

/-- what cache.ResolveBoardGroup changes for the class in slot `i`: `ChildCount[i]` becomes `n`, `FirstChild[i][b]` is set
when there is a child, the `Gid`s and every other slot stay. -/
theorem resolve_frame (st : ClsState) (i n : Nat) (b : SortBy) (empty : Bool) (hi : i < st.links.length) (s1 : ClsState)
    (hs1 : s1 = if empty then st.setChildCount i n else (st.setChildCount i n).markFirst i b) :
    s1.childCount i = n ∧ (∀ j, j ≠ i → s1.childCount j = st.childCount j) ∧
      (∀ j b', j ≠ i → s1.firstSet j b' = st.firstSet j b') ∧ SameGids s1.links st.links ∧
      s1.links.length = st.links.length := by
  have hat : (st.setChildCount i n).childCount i = n := by
    rw [childCount_setChildCount, if_pos ⟨rfl, hi⟩]
  have hoff : ∀ j, j ≠ i → (st.setChildCount i n).childCount j = st.childCount j := fun j hj => by
    rw [childCount_setChildCount, if_neg (fun h => hj h.1.symm)]
  have hlen : (st.setChildCount i n).links.length = st.links.length := List.length_set
  cases empty with
  | true =>
    rw [if_pos rfl] at hs1
    subst hs1
    exact ⟨hat, hoff, fun j b' _ => firstSet_setChildCount st i n j b', sameGids_setChildCount st i n, hlen⟩
  | false =>
    rw [if_neg Bool.false_ne_true] at hs1
    subst hs1
    refine ⟨?_, fun j hj => ?_, fun j b' hj => ?_, ?_, ?_⟩
    · rw [markFirst_childCount, hat]
    · rw [markFirst_childCount, hoff j hj]
    · rw [firstSet_markFirst_ne _ _ _ _ _ (fun h => hj h.symm), firstSet_setChildCount]
    · rw [markFirst_links]
      exact sameGids_setChildCount st i n
    · rw [markFirst_links]
      exact hlen

/-- every class whose child links are in place has the right `ChildCount` (or 0, which forces a new resolve). -/
def ClsInv (t : Tbl) (st : ClsState) : Prop :=
  ∀ (c : Int) (b : SortBy), 1 ≤ c → st.firstSet (c - 1).toNat b = true →
    st.childCount (c - 1).toNat = 0 ∨ ∀ b', st.childCount (c - 1).toNat = (childrenOf t st.links c b').length

theorem clsInv_fresh (t : Tbl) (links : List (Nat × Nat)) : ClsInv t (ClsState.fresh links) := by
  intro c b _ h
  exfalso
  revert h
  generalize (c - 1).toNat = i
  intro h
  cases b <;>
    (simp only [ClsState.fresh, ClsState.firstSet, List.getD_eq_getElem?_getD, List.getElem?_map] at h
     cases hh : links[i]? <;> simp [hh] at h)

/-- one request: the complete list of sub-classes, and the invariant is kept. -/
theorem loadClassBoards_step (t : Tbl) (st : ClsState) (c : Int) (by_ : SortBy)
    (hv : 1 ≤ c ∧ c ≤ Int.ofNat t.maxBoard) (hi : (c - 1).toNat < st.links.length)
    (hlen : ∀ c' b b', (childrenOf t st.links c' b).length = (childrenOf t st.links c' b').length)
    (I : ClsInv t st) :
    ∃ st', loadClassBoards t st c by_ = .ok (subclasses t st.links c (byOf c by_), st') ∧ ClsInv t st' ∧
      SameGids st'.links st.links ∧ st'.links.length = st.links.length := by
  obtain ⟨i, hidef⟩ : ∃ i, i = (c - 1).toNat := ⟨_, rfl⟩
  obtain ⟨b', hb'⟩ : ∃ b', b' = byOf c by_ := ⟨_, rfl⟩
  obtain ⟨ch, hch⟩ : ∃ ch, ch = childrenOf t st.links c b' := ⟨_, rfl⟩
  have hsub : (ch.filter isClass).length ≤ ch.length := List.length_filter_le _ _
  -- once `ChildCount` is the number of children the bound `ChildCount + 5` cuts nothing off
  have hgather : gather (fun _ => false) isClass ch (ch.length + 5) = ch.filter isClass := by
    rw [gather_nostop]
    exact List.take_of_length_le (Nat.le_trans hsub (Nat.le_add_right _ _))
  unfold loadClassBoards
  rw [if_neg (by simpa using hv)]
  simp only [pure, Except.pure]
  rw [← hidef]
  have hby : (if c = 1 then SortBy.cls else by_) = b' := by rw [hb']; rfl
  rw [hby, ← hch]
  by_cases hres : (!st.firstSet i b' || st.childCount i == 0) = true
  · -- ResolveBoardGroup
    rw [if_pos hres]
    obtain ⟨s1, hs1⟩ : ∃ s1, s1 = (if ch.isEmpty then st.setChildCount i ch.length
        else (st.setChildCount i ch.length).markFirst i b') := ⟨_, rfl⟩
    rw [← hs1]
    obtain ⟨hcc1, hccj, hffj, hsg, hlen1⟩ := resolve_frame st i ch.length b' ch.isEmpty (by rw [hidef]; exact hi) s1 hs1
    rw [hcc1, hgather, if_neg (Nat.not_lt.mpr hsub)]
    refine ⟨s1, by rw [hch, hb']; rfl, ?_, hsg, hlen1⟩
    intro c2 b2 hc2 hf2
    by_cases hci : (c2 - 1).toNat = i
    · right
      intro b3
      have hc : c2 = c := by omega
      rw [hci, hcc1, hc, childrenOf_congr t s1.links st.links hsg, hch]
      exact hlen c b' b3
    · rw [hffj _ b2 hci] at hf2
      rw [hccj _ hci]
      rcases I c2 b2 hc2 hf2 with h | h
      · left; exact h
      · right; intro b3; rw [childrenOf_congr t s1.links st.links hsg]; exact h b3
  · -- the links are in place and ChildCount is not 0
    rw [if_neg hres]
    have hfs : st.firstSet i b' = true := by
      cases h : st.firstSet i b' <;> simp [h] at hres ⊢
    have hcc0 : st.childCount i ≠ 0 := by
      intro h; simp [h] at hres
    have hcceq : st.childCount i = ch.length := by
      rcases I c b' hv.1 (by rw [← hidef]; exact hfs) with h | h
      · rw [← hidef] at h; exact absurd h hcc0
      · rw [hidef, hch]; exact h b'
    rw [hcceq, hgather, if_neg (Nat.not_lt.mpr hsub)]
    exact ⟨st, by rw [hch, hb']; rfl, I, fun _ => rfl, rfl⟩

/-- a history of requests on one (unchanging) table. -/
def runCalls (t : Tbl) : ClsState → List (Int × SortBy) → R (List (List Entry))
  | _, [] => pure []
  | st, (c, b) :: rest => do
    let (l, st') ← loadClassBoards t st c b
    let ls ← runCalls t st' rest
    pure (l :: ls)

theorem runCalls_eq (t : Tbl) (links : List (Nat × Nat)) (st : ClsState) (calls : List (Int × SortBy))
    (hsg : SameGids st.links links) (hl : st.links.length = links.length)
    (hv : ∀ cb ∈ calls, 1 ≤ cb.1 ∧ cb.1 ≤ Int.ofNat t.maxBoard ∧ (cb.1 - 1).toNat < links.length)
    (hlen : ∀ c' b b', (childrenOf t links c' b).length = (childrenOf t links c' b').length)
    (I : ClsInv t st) :
    runCalls t st calls = .ok (calls.map fun cb => subclasses t links cb.1 (byOf cb.1 cb.2)) := by
  induction calls generalizing st with
  | nil => rfl
  | cons cb rest ih =>
    obtain ⟨c, b⟩ := cb
    have hv0 := hv (c, b) (by simp)
    have hlen' : ∀ c' b b', (childrenOf t st.links c' b).length = (childrenOf t st.links c' b').length := by
      intro c' b1 b2
      rw [childrenOf_congr t st.links links hsg, childrenOf_congr t st.links links hsg]; exact hlen c' b1 b2
    obtain ⟨st', h1, I', hsg', hl'⟩ := loadClassBoards_step t st c b ⟨hv0.1, hv0.2.1⟩ (by rw [hl]; exact hv0.2.2) hlen' I
    unfold runCalls
    rw [h1]
    simp only [bind, Except.bind]
    rw [ih st' (fun j => (hsg' j).trans (hsg j)) (hl'.trans hl) (fun cb hcb => hv cb (by simp [hcb])) I']
    simp only [pure, Except.pure, List.map_cons]
    unfold subclasses
    rw [childrenOf_congr t st.links links hsg]

end PttVerif.C11
