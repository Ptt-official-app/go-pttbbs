import PttVerif.Model.C11
import PttVerif.Proofs.C18
/-
C11 — helper lemmas.  Part 1: three-way orders and the two board orders; comparators that are monotone along a
sorted view; the bisection and the directional fix-up loops, which from its landing position compute the linear scans
of the specification: FindBoardIdxByName / FindBoardIdxByClass.
-/
namespace PttVerif.C11
open PttVerif PttVerif.C18

/-! ### three-way comparison functions that are total preorders with `eq` = equality -/

structure OrdLaws {κ : Type} (cmp : κ → κ → Ordering) : Prop where
  eq_iff : ∀ a b, cmp a b = .eq ↔ a = b
  swap : ∀ a b, cmp b a = (cmp a b).swap
  le_trans : ∀ a b c, cmp a b ≠ .gt → cmp b c ≠ .gt → cmp a c ≠ .gt

namespace OrdLaws
variable {κ : Type} {cmp : κ → κ → Ordering} (L : OrdLaws cmp)
include L

theorem refl (a : κ) : cmp a a = .eq := (L.eq_iff a a).mpr rfl

theorem gt_iff_lt (a b : κ) : cmp a b = .gt ↔ cmp b a = .lt := by
  rw [L.swap a b]; cases cmp a b <;> simp [Ordering.swap]

theorem lt_of_le_of_ne (a c : κ) (h : cmp a c ≠ .gt) (hne : a ≠ c) : cmp a c = .lt := by
  cases hc : cmp a c with
  | lt => rfl
  | gt => exact absurd hc h
  | eq => exact absurd ((L.eq_iff a c).mp hc) hne

theorem lt_of_lt_of_le (a b c : κ) (h1 : cmp a b = .lt) (h2 : cmp b c ≠ .gt) : cmp a c = .lt := by
  apply L.lt_of_le_of_ne a c (L.le_trans a b c (by rw [h1]; decide) h2)
  rintro rfl
  exact h2 ((L.gt_iff_lt b a).mpr h1)

theorem lt_of_le_of_lt (a b c : κ) (h1 : cmp a b ≠ .gt) (h2 : cmp b c = .lt) : cmp a c = .lt := by
  apply L.lt_of_le_of_ne a c (L.le_trans a b c h1 (by rw [h2]; decide))
  rintro rfl
  exact h1 ((L.gt_iff_lt a b).mpr h2)

theorem lt_trans (a b c : κ) (h1 : cmp a b = .lt) (h2 : cmp b c = .lt) : cmp a c = .lt :=
  L.lt_of_lt_of_le a b c h1 (by rw [h2]; decide)

end OrdLaws

theorem lexLaws : OrdLaws lexCmp := ⟨lexCmp_eq_iff, lexCmp_swap, lexCmp_le_trans⟩

/-- the lexicographic product of two three-way comparisons. -/
def pairCmp {α β : Type} (c1 : α → α → Ordering) (c2 : β → β → Ordering) (x y : α × β) : Ordering :=
  match c1 x.1 y.1 with
  | .eq => c2 x.2 y.2
  | o => o

section
variable {α β : Type} {c1 : α → α → Ordering} {c2 : β → β → Ordering}

theorem pairCmp_eq_eq (x y : α × β) : pairCmp c1 c2 x y = .eq ↔ c1 x.1 y.1 = .eq ∧ c2 x.2 y.2 = .eq := by
  unfold pairCmp
  cases c1 x.1 y.1 <;> simp

theorem pairCmp_ne_gt (x y : α × β) :
    pairCmp c1 c2 x y ≠ .gt ↔ c1 x.1 y.1 = .lt ∨ (c1 x.1 y.1 = .eq ∧ c2 x.2 y.2 ≠ .gt) := by
  unfold pairCmp
  cases c1 x.1 y.1 <;> simp

theorem pairLaws (L1 : OrdLaws c1) (L2 : OrdLaws c2) : OrdLaws (pairCmp c1 c2) where
  eq_iff a b := by rw [pairCmp_eq_eq, L1.eq_iff, L2.eq_iff, Prod.ext_iff]
  swap a b := by
    unfold pairCmp
    rw [L1.swap a.1 b.1, L2.swap a.2 b.2]
    cases c1 a.1 b.1 <;> rfl
  le_trans a b c h1 h2 := by
    rw [pairCmp_ne_gt] at h1 h2 ⊢
    rcases h1 with hab | ⟨hab, hab2⟩
    · rcases h2 with hbc | ⟨hbc, _⟩
      · exact Or.inl (L1.lt_trans _ _ _ hab hbc)
      · exact Or.inl ((L1.eq_iff _ _).mp hbc ▸ hab)
    · rw [(L1.eq_iff _ _).mp hab]
      rcases h2 with hbc | ⟨hbc, hbc2⟩
      · exact Or.inl hbc
      · exact Or.inr ⟨hbc, L2.le_trans _ _ _ hab2 hbc2⟩

end

/-! ### a C comparison result that stands for a three-way comparison -/

/-- the sign of the integer `j` (what `strcmp` and the Go comparators return) is the outcome `o`. -/
def SignIs (j : Int) (o : Ordering) : Prop := (j < 0 ↔ o = .lt) ∧ (j = 0 ↔ o = .eq) ∧ (0 < j ↔ o = .gt)

theorem strcmp_signIs (a b : List Nat) (ha : ∀ x ∈ a, x ≠ 0) (hb : ∀ x ∈ b, x ≠ 0) :
    SignIs (strcmp a b) (lexCmp a b) :=
  ⟨strcmp_neg_iff a b ha hb, by rw [lexCmp_eq_iff]; exact strcmp_zero_iff a b ha hb, strcmp_pos_iff a b ha hb⟩

theorem SignIs.lex {j1 j2 : Int} {o1 o2 : Ordering} (h1 : SignIs j1 o1) (h2 : SignIs j2 o2) :
    SignIs (if j1 ≠ 0 then j1 else j2) (o1.then o2) := by
  cases o1 with
  | eq =>
    have : j1 = 0 := h1.2.1.mpr rfl
    rw [if_neg (fun h => h this)]
    exact h2
  | lt =>
    have : j1 < 0 := h1.1.mpr rfl
    rw [if_pos (by omega)]
    exact h1
  | gt =>
    have : 0 < j1 := h1.2.2.mpr rfl
    rw [if_pos (by omega)]
    exact h1

/-! ### the keys of the two board orders and the pure comparators -/

/-- a byte string as the case-insensitive comparison sees it: its C string, ASCII lower-cased. -/
def low (s : List Nat) : List Nat := (cstr s).map ccharTolower

theorem low_nonzero (s : List Nat) : ∀ x ∈ low s, x ≠ 0 := map_lower_nonzero _ (cstr_nonzero s)

/-- the key of the by-name order. -/
def nkey (e : Entry) : List Nat := low e.b.name

/-- the key of the by-class order (`shmBoardByClass.Less`): the C string of `Title[:4]`, then the name. -/
def ckey (e : Entry) : List Nat × List Nat := (cstr (class4 e.b.title), low e.b.name)

abbrev cmpC := pairCmp lexCmp lexCmp

theorem classLaws : OrdLaws cmpC := pairLaws lexLaws lexLaws

theorem cstrcasecmp_eq (a b : List Nat) : cstrcasecmp a b = .ok (strcmp (low a) (low b)) := by
  unfold cstrcasecmp low
  rw [cstrcmp_eq', cstr_map_lower, cstr_map_lower]

/-- the value of `Cstrcasecmp(q, name)`. -/
def cmpNameP (q : List Nat) (e : Entry) : Int := strcmp (low q) (nkey e)

theorem cmpName_eq (q : List Nat) (e : Entry) : cmpName q e = .ok (cmpNameP q e) := cstrcasecmp_eq q e.b.name

/-- the value of `cmpBoardByClass`. -/
def cmpClassP (cls q : List Nat) (e : Entry) : Int :=
  let j := strcmp (cstr cls) (cstr (boardClass e.b.title))
  if j ≠ 0 then j else cmpNameP q e

theorem cmpClass_eq (cls q : List Nat) (e : Entry) : cmpClass cls q e = .ok (cmpClassP cls q e) := by
  unfold cmpClass cmpClassP
  rw [cstrcmp_eq']
  simp only [bind, Except.bind]
  split
  · rfl
  · exact cmpName_eq q e

/-- the comparator's sign is the three-way comparison of the keys (by name). -/
theorem cmpNameP_sign (q : List Nat) (e : Entry) : SignIs (cmpNameP q e) (lexCmp (low q) (nkey e)) :=
  strcmp_signIs _ _ (low_nonzero q) (low_nonzero _)

theorem cmpNameP_eq_zero (q : List Nat) (e : Entry) : cmpNameP q e = 0 ↔ nkey e = low q := by
  rw [(cmpNameP_sign q e).2.1, lexCmp_eq_iff]
  exact eq_comm

/-- the board's 5-byte `BoardClass()` reads as the same C string as the sort key `Title[:4]`
(true when `Title[4]` is a blank or NUL, or the class is shorter than 4 bytes). -/
def ClassOK (e : Entry) : Prop := cstr (boardClass e.b.title) = cstr (class4 e.b.title)

instance (e : Entry) : Decidable (ClassOK e) := by unfold ClassOK; infer_instance

theorem cmpClassP_sign (cls q : List Nat) (e : Entry) (h : ClassOK e) :
    SignIs (cmpClassP cls q e) (cmpC (cstr cls, low q) (ckey e)) := by
  have s : SignIs (strcmp (cstr cls) (cstr (boardClass e.b.title))) (lexCmp (cstr cls) (cstr (class4 e.b.title))) := by
    rw [← h]
    exact strcmp_signIs _ _ (cstr_nonzero cls) (cstr_nonzero _)
  exact s.lex (cmpNameP_sign q e)

/-! ### sortedness and monotone comparators -/

/-- `es` is in non-decreasing order of `key` (what `sort.Sort` with the corresponding `Less` establishes). -/
def SortedBy {κ : Type} (cmp : κ → κ → Ordering) (key : Entry → κ) (es : List Entry) : Prop :=
  es.Pairwise (fun a b => cmp (key a) (key b) ≠ .gt)

/-- adjacent order implies the order between all pairs (the comparison is transitive). -/
theorem sortedBy_of_adjacent {κ : Type} {cmp : κ → κ → Ordering} (L : OrdLaws cmp) (key : Entry → κ)
    (es : List Entry) (h : ∀ i (h : i + 1 < es.length), cmp (key es[i]) (key es[i + 1]) ≠ .gt) : SortedBy cmp key es := by
  apply List.pairwise_iff_getElem.mpr
  intro i j _ hj hij
  obtain ⟨d, rfl⟩ := Nat.exists_eq_add_of_lt hij
  clear hij
  induction d with
  | zero => exact h i hj
  | succ d ih => exact L.le_trans _ _ _ (ih (Nat.lt_of_succ_lt hj)) (h (i + d + 1) hj)

/-- the comparator of a query against the entries of a sorted list changes sign at most twice: `+ … + 0 … 0 − … −`. -/
def Mono (c : Entry → Int) (es : List Entry) : Prop :=
  es.Pairwise (fun a b => (c a ≤ 0 → c b ≤ 0) ∧ (c a < 0 → c b < 0))

theorem mono_of_sorted {κ : Type} {cmp : κ → κ → Ordering} (L : OrdLaws cmp) (key : Entry → κ) (Q : κ)
    (c : Entry → Int) (es : List Entry) (hs : ∀ e ∈ es, SignIs (c e) (cmp Q (key e)))
    (S : SortedBy cmp key es) : Mono c es := by
  refine List.Pairwise.imp_of_mem ?_ S
  intro a b ha hb hab
  obtain ⟨a1, _, a3⟩ := hs a ha
  obtain ⟨b1, _, b3⟩ := hs b hb
  constructor
  · intro h
    have hqa : cmp Q (key a) ≠ .gt := fun hg => by have := a3.mpr hg; omega
    have hqb : ¬ 0 < c b := fun hp => L.le_trans _ _ _ hqa hab (b3.mp hp)
    omega
  · intro h
    exact b1.mpr (L.lt_of_lt_of_le _ _ _ (a1.mp h) hab)

theorem mono_cmpName (q : List Nat) (es : List Entry) (S : SortedBy lexCmp nkey es) : Mono (cmpNameP q) es :=
  mono_of_sorted lexLaws nkey (low q) (cmpNameP q) es (fun e _ => cmpNameP_sign q e) S

theorem Mono.tail {c : Entry → Int} {a : Entry} {es : List Entry} (h : Mono c (a :: es)) : Mono c es :=
  (List.pairwise_cons.mp h).2

theorem Mono.get {c : Entry → Int} {es : List Entry} (h : Mono c es) (i j : Nat) (hij : i < j) (hj : j < es.length) :
    (c (es[i]'(by omega)) ≤ 0 → c es[j] ≤ 0) ∧ (c (es[i]'(by omega)) < 0 → c es[j] < 0) :=
  (List.pairwise_iff_getElem.mp h) i j (by omega) hj hij

/-! ### the bisection -/

/-- every entry before position `p` is below the query (compares `> 0`). -/
def Before (c : Entry → Int) (es : List Entry) (p : Nat) : Prop := ∀ k (_ : k < es.length), k < p → 0 < c es[k]

/-- every entry after position `p` is above the query (compares `< 0`). -/
def After (c : Entry → Int) (es : List Entry) (p : Nat) : Prop := ∀ k (_ : k < es.length), p < k → c es[k] < 0

theorem Mono.before {c : Entry → Int} {es : List Entry} (h : Mono c es) (i : Nat) (hi : i < es.length)
    (hpos : 0 < c es[i]) : Before c es (i + 1) := by
  intro k hk hlt
  rcases Nat.eq_or_lt_of_le (Nat.le_of_lt_succ hlt) with rfl | hki
  · exact hpos
  · have := (h.get k i hki hi).1
    omega

theorem Mono.after {c : Entry → Int} {es : List Entry} (h : Mono c es) (i : Nat) (hi : i < es.length)
    (hneg : c es[i] < 0) : After c es i :=
  fun k hk hlt => (h.get i k hlt hk).2 hneg

/-- at most one entry equals the query. -/
def Unique0 (c : Entry → Int) (es : List Entry) : Prop :=
  ∀ i j (hi : i < es.length) (hj : j < es.length), c es[i] = 0 → c es[j] = 0 → i = j

theorem Mono.before_of_nonneg {c : Entry → Int} {es : List Entry} (h : Mono c es) (U : Unique0 c es) (p : Nat)
    (hp : p < es.length) (h0 : 0 ≤ c es[p]) : Before c es p := by
  intro k hk hkp
  obtain ⟨m1, m2⟩ := h.get k p hkp hp
  have hne : c es[k] = 0 → c es[p] ≠ 0 := fun a b => Nat.ne_of_lt hkp (U k p hk hp a b)
  omega

theorem Mono.after_of_nonpos {c : Entry → Int} {es : List Entry} (h : Mono c es) (U : Unique0 c es) (p : Nat)
    (hp : p < es.length) (h0 : c es[p] ≤ 0) : After c es p := by
  intro k hk hpk
  obtain ⟨m1, m2⟩ := h.get p k hpk hk
  have hne : c es[p] = 0 → c es[k] ≠ 0 := fun a b => Nat.ne_of_lt hpk (U p k hp hk a b)
  omega

/-- what the bisection returns: an entry equal to the query, or a landing position that separates the entries
below the query from those above it. -/
def BPost (c : Entry → Int) (es : List Entry) : Found → Prop
  | .empty => False
  | .hit i b => ∃ h : i < es.length, c es[i] = 0 ∧ b = es[i].bid
  | .miss p => ∃ h : p < es.length, c es[p] ≠ 0 ∧ Before c es p ∧ After c es p

theorem ne_zero_of_landing {c : Entry → Int} {es : List Entry} {p : Nat} (hp : p < es.length) (h0 : c es[p] ≠ 0)
    (hB : Before c es p) (hA : After c es p) : ∀ e ∈ es, c e ≠ 0 := by
  intro e he
  obtain ⟨k, hk, rfl⟩ := List.getElem_of_mem he
  rcases Nat.lt_trichotomy k p with h | rfl | h
  · have := hB k hk h; omega
  · exact h0
  · have := hA k hk h; omega

/-- what the loop uses of its midpoint: it lies in `[s, e]`, below `e` unless `s = e`, and it can be `s` only when
`e ≤ s + 1` (the `idx == start` jump then moves to `e`, the one position left). -/
theorem mid_bounds (s e : Nat) (h : s ≤ e) :
    s ≤ (s + e) / 2 ∧ (s + e) / 2 ≤ e ∧ (s < e → (s + e) / 2 < e) ∧ ((s + e) / 2 = s → e ≤ s + 1) := by
  omega

/-- The loop keeps `s ≤ idx ≤ e` with everything before `s` below and everything behind `e` above the query; every
iteration that does not return narrows `[s, e]` at one end, which is what the fuel `e - s + 2` pays for. -/
theorem bisectLoop_post {cmp : Entry → M Int} {c : Entry → Int} (hc : ∀ e, cmp e = .ok (c e))
    {es : List Entry} (Mn : Mono c es) :
    ∀ fuel s e, s ≤ e → e < es.length → e - s + 2 ≤ fuel → Before c es s → After c es e →
      ∃ r, bisectLoop cmp es fuel s e ((s + e) / 2) = .ok r ∧ BPost c es r := by
  intro fuel
  induction fuel with
  | zero => intro s e _ _ hf; omega
  | succ f ih =>
    intro s e hse hen hf hB hA
    have narrower : ∀ a b, s ≤ a → a ≤ b → b ≤ e → a ≠ s ∨ b ≠ e → b - a + 2 ≤ f := by
      intro a b _ _ _ _; omega
    obtain ⟨his, hie, hlt, hjump⟩ := mid_bounds s e hse
    generalize (s + e) / 2 = i at his hie hlt hjump ⊢
    have hil : i < es.length := Nat.lt_of_le_of_lt hie hen
    rw [bisectLoop, idx_of_lt es i hil]
    simp only [bind, Except.bind, hc, pure, Except.pure]
    by_cases h0 : c es[i] = 0
    · rw [if_pos h0]
      exact ⟨_, rfl, hil, h0, rfl⟩
    rw [if_neg h0]
    by_cases hes : e = s
    · rw [if_pos hes]
      subst hes
      have : i = e := Nat.le_antisymm hie his
      subst this
      exact ⟨_, rfl, hil, h0, hB, hA⟩
    rw [if_neg hes]
    rcases Int.lt_or_gt_of_ne h0 with hneg | hpos
    · have hA' : After c es i := Mn.after i hil hneg
      by_cases hiS : i = s
      · rw [if_pos hiS, if_pos hneg]
        subst hiS
        exact ⟨_, rfl, hil, h0, hB, hA'⟩
      · rw [if_neg hiS, if_neg (Int.lt_asymm hneg)]
        have hie' : i ≠ e := Nat.ne_of_lt (hlt (Nat.lt_of_le_of_ne hse (Ne.symm hes)))
        exact ih s i his hil (narrower s i (Nat.le_refl s) his hie (Or.inr hie')) hB hA'
    · have hB' : Before c es (i + 1) := Mn.before i hil hpos
      by_cases hiS : i = s
      · rw [if_pos hiS, if_neg (Int.lt_asymm hpos)]
        subst hiS
        have : e = i + 1 := Nat.le_antisymm (hjump rfl) (Nat.lt_of_le_of_ne hse (Ne.symm hes))
        subst this
        exact ih (i + 1) (i + 1) (Nat.le_refl _) hen
          (narrower (i + 1) (i + 1) (Nat.le_succ i) (Nat.le_refl _) (Nat.le_refl _) (Or.inl (Nat.succ_ne_self i))) hB' hA
      · rw [if_neg hiS, if_pos hpos]
        exact ih i e hie hen (narrower i e his hie (Nat.le_refl e) (Or.inl hiS))
          (fun k hk hki => hB' k hk (Nat.lt_succ_of_lt hki)) hA

theorem bisect_nil (cmp : Entry → M Int) : bisect cmp [] = .ok .empty := rfl

theorem bisect_post {cmp : Entry → M Int} {c : Entry → Int} (hc : ∀ e, cmp e = .ok (c e))
    {es : List Entry} (Mn : Mono c es) (hne : es ≠ []) : ∃ r, bisect cmp es = .ok r ∧ BPost c es r := by
  have hl : 0 < es.length := List.length_pos_iff.mpr hne
  unfold bisect
  rw [if_neg (by omega)]
  apply bisectLoop_post hc Mn _ 0 (es.length - 1) (Nat.zero_le _) (Nat.sub_lt hl Nat.one_pos)
    (by unfold bisectFuel; omega)
  · exact fun k _ hk => absurd hk (Nat.not_lt_zero k)
  · exact fun k hk hlt => absurd (Nat.lt_of_lt_of_le hlt (Nat.le_sub_one_of_lt hk)) (Nat.lt_irrefl _)

/-! ### the linear scans the property compares with -/

/-- position of the first entry of `l` (whose head is at position `i`) satisfying `P`; `-1`: none. -/
def scanFirst (P : Entry → Bool) : List Entry → Nat → Int
  | [], _ => -1
  | e :: r, i => if P e then Int.ofNat i else scanFirst P r (i + 1)

/-- position of the last entry of `es` satisfying `P`; `-1`: none. -/
def scanLast (P : Entry → Bool) (es : List Entry) : Int :=
  let r := scanFirst P es.reverse 0
  if r = -1 then -1 else Int.ofNat es.length - 1 - r

theorem scanFirst_spec_from (P : Entry → Bool) (l : List Entry) (i : Nat) :
    (scanFirst P l i = -1 ∧ ∀ e ∈ l, P e = false) ∨
      (∃ d, ∃ h : d < l.length, scanFirst P l i = Int.ofNat (i + d) ∧ P l[d] = true ∧ ∀ k (hk : k < d), P (l[k]'(by omega)) = false) := by
  induction l generalizing i with
  | nil => exact Or.inl ⟨rfl, fun _ h => nomatch h⟩
  | cons e r ih =>
    unfold scanFirst
    by_cases hp : P e = true
    · rw [if_pos hp]
      exact Or.inr ⟨0, Nat.zero_lt_succ _, rfl, hp, fun k hk => absurd hk (Nat.not_lt_zero k)⟩
    · rw [if_neg hp]
      have hp' : P e = false := Bool.eq_false_iff.mpr hp
      rcases ih (i + 1) with ⟨h1, h2⟩ | ⟨d, hd, h1, h2, h3⟩
      · refine Or.inl ⟨h1, ?_⟩
        intro x hx
        rcases List.mem_cons.mp hx with rfl | hx
        · exact hp'
        · exact h2 x hx
      · refine Or.inr ⟨d + 1, Nat.succ_lt_succ hd, ?_, h2, ?_⟩
        · rw [h1, Nat.add_assoc, Nat.add_comm 1 d]
        · intro k hk
          cases k with
          | zero => exact hp'
          | succ k => exact h3 k (Nat.lt_of_succ_lt_succ hk)

theorem scanFirst_spec (P : Entry → Bool) (es : List Entry) :
    (scanFirst P es 0 = -1 ∧ ∀ e ∈ es, P e = false) ∨
      (∃ d, ∃ h : d < es.length, scanFirst P es 0 = Int.ofNat d ∧ P es[d] = true ∧
        ∀ k (hk : k < d), P (es[k]'(by omega)) = false) := by
  have := scanFirst_spec_from P es 0
  simp only [Nat.zero_add] at this
  exact this

theorem scanFirst_none {P : Entry → Bool} {es : List Entry} (h : ∀ e ∈ es, P e = false) : scanFirst P es 0 = -1 := by
  rcases scanFirst_spec P es with ⟨h1, _⟩ | ⟨d, hd, _, h2, _⟩
  · exact h1
  · rw [h _ (List.getElem_mem hd)] at h2; cases h2

theorem scanFirst_eq_of (P : Entry → Bool) (es : List Entry) (d : Nat) (hd : d < es.length) (h1 : P es[d] = true)
    (h2 : ∀ k (hk : k < d), P (es[k]'(by omega)) = false) : scanFirst P es 0 = Int.ofNat d := by
  rcases scanFirst_spec P es with ⟨_, h⟩ | ⟨d', hd', h3, h4, h5⟩
  · rw [h _ (List.getElem_mem hd)] at h1; cases h1
  · rcases Nat.lt_trichotomy d d' with h | rfl | h
    · rw [h5 d h] at h1; cases h1
    · exact h3
    · rw [h2 d' h] at h4; cases h4

theorem mirror_facts (n d : Nat) (hd : d < n) :
    n - 1 - d < n ∧ Int.ofNat n - 1 - Int.ofNat d = Int.ofNat (n - 1 - d) := by
  simp only [Int.ofNat_eq_natCast]
  omega

theorem mirror_back (n d k : Nat) (hk : k < n) (h : n - 1 - d < k) : n - 1 - k < d ∧ n - 1 - (n - 1 - k) = k :=
  ⟨by omega, Nat.sub_sub_self (Nat.le_sub_one_of_lt hk)⟩

theorem scanLast_spec (P : Entry → Bool) (es : List Entry) :
    (scanLast P es = -1 ∧ ∀ e ∈ es, P e = false) ∨
      (∃ p, ∃ hp : p < es.length, scanLast P es = Int.ofNat p ∧ P es[p] = true ∧
        ∀ k (hk : k < es.length), p < k → P es[k] = false) := by
  unfold scanLast
  rcases scanFirst_spec P es.reverse with ⟨h1, h2⟩ | ⟨d, hd, h1, h2, h3⟩
  · rw [h1]
    exact Or.inl ⟨rfl, fun e he => h2 e (List.mem_reverse.mpr he)⟩
  · rw [List.length_reverse] at hd
    rw [List.getElem_reverse] at h2
    obtain ⟨hp, hcast⟩ := mirror_facts es.length d hd
    refine Or.inr ⟨es.length - 1 - d, hp, ?_, h2, ?_⟩
    · rw [h1, if_neg (by simp only [Int.ofNat_eq_natCast]; omega)]
      exact hcast
    · intro k hk hlt
      obtain ⟨hkd, hkk⟩ := mirror_back es.length d k hk hlt
      have := h3 (es.length - 1 - k) hkd
      rw [List.getElem_reverse] at this
      rw [← this]
      congr 2
      exact hkk.symm

theorem scanLast_none {P : Entry → Bool} {es : List Entry} (h : ∀ e ∈ es, P e = false) : scanLast P es = -1 := by
  rcases scanLast_spec P es with ⟨h1, _⟩ | ⟨p, hp, _, h2, _⟩
  · exact h1
  · rw [h _ (List.getElem_mem hp)] at h2; cases h2

theorem scanLast_eq_of (P : Entry → Bool) (es : List Entry) (p : Nat) (hp : p < es.length) (h1 : P es[p] = true)
    (h2 : ∀ k (hk : k < es.length), p < k → P es[k] = false) : scanLast P es = Int.ofNat p := by
  rcases scanLast_spec P es with ⟨_, h⟩ | ⟨p', hp', h3, h4, h5⟩
  · rw [h _ (List.getElem_mem hp)] at h1; cases h1
  · rcases Nat.lt_trichotomy p p' with h | rfl | h
    · rw [h2 p' hp' h] at h4; cases h4
    · exact h3
    · rw [h5 p hp h] at h1; cases h1

/-! ### the directional fix-up loops equal the scans

Both loops start at a position all entries on whose far side fail the test, so the first entry they meet that
passes it is the first (last) such entry of the whole list. -/

/-- what a descending loop starting at `m - 1` visits.  The descending lemmas are stated for `m` = start position + 1, so
that "the loop has run off the front" is `m = 0` and needs no position `-1`; `downFrom es p` is `downTo es (p + 1)`. -/
def downTo (es : List Entry) (m : Nat) : List Entry := (es.take m).reverse

theorem downTo_succ (es : List Entry) (m : Nat) (hm : m < es.length) : downTo es (m + 1) = es[m] :: downTo es m := by
  unfold downTo
  rw [List.take_succ_eq_append_getElem hm, List.reverse_append]
  rfl

theorem mem_of_mem_downTo {es : List Entry} {m : Nat} {e : Entry} (h : e ∈ downTo es m) : e ∈ es :=
  List.mem_of_mem_take (List.mem_reverse.mp h)

theorem mem_of_mem_downFrom {es : List Entry} {p : Nat} {e : Entry} (h : e ∈ downFrom es p) : e ∈ es :=
  mem_of_mem_downTo (m := p + 1) h

theorem downFrom_eq (es : List Entry) (p : Nat) (hp : p < es.length) :
    downFrom es p = es.reverse.drop (es.length - 1 - p) := by
  unfold downFrom
  rw [List.reverse_take]
  congr 1
  omega

section
variable {maxBoard : Nat} {cmp : Entry → M Int} {c : Entry → Int} (hc : ∀ e, cmp e = .ok (c e))
include hc

theorem ascScan_cons {e : Entry} (he : e.bid + 1 ≤ maxBoard) (rest : List Entry) (i : Nat) :
    ascScan maxBoard cmp (e :: rest) i = if c e ≤ 0 then .ok (Int.ofNat i) else ascScan maxBoard cmp rest (i + 1) := by
  have hve : validBid maxBoard e = true := decide_eq_true he
  rw [ascScan]
  simp only [hve, not_true_eq_false, if_false, bind, Except.bind, hc, pure, Except.pure]

theorem descScan_cons {e : Entry} (he : e.bid + 1 ≤ maxBoard) (rest : List Entry) (i : Nat) :
    descScan maxBoard cmp (e :: rest) i = if 0 ≤ c e then .ok (Int.ofNat i) else descScan maxBoard cmp rest (i - 1) := by
  have hve : validBid maxBoard e = true := decide_eq_true he
  rw [descScan]
  simp only [hve, not_true_eq_false, if_false, bind, Except.bind, hc, pure, Except.pure, ge_iff_le]

variable {es : List Entry} (hv : ∀ e ∈ es, e.bid + 1 ≤ maxBoard)
include hv

theorem ascScan_from (p : Nat) (hB : Before c es p) :
    ascScan maxBoard cmp (es.drop p) p = .ok (scanFirst (fun e => decide (c e ≤ 0)) es 0) := by
  generalize hd : es.length - p = d
  induction d generalizing p with
  | zero =>
    have hle : es.length ≤ p := Nat.le_of_sub_eq_zero hd
    rw [List.drop_eq_nil_of_le hle, scanFirst_none]
    · rfl
    · intro e he
      obtain ⟨k, hk, rfl⟩ := List.getElem_of_mem he
      exact decide_eq_false (Int.not_le.mpr (hB k hk (Nat.lt_of_lt_of_le hk hle)))
  | succ d ih =>
    have hp : p < es.length := Nat.lt_of_sub_pos (hd ▸ Nat.succ_pos d)
    rw [List.drop_eq_getElem_cons hp, ascScan_cons hc (hv _ (List.getElem_mem hp))]
    by_cases h0 : c es[p] ≤ 0
    · rw [if_pos h0,
        scanFirst_eq_of _ es p hp (decide_eq_true h0)
          (fun k hk => decide_eq_false (Int.not_le.mpr (hB k (Nat.lt_trans hk hp) hk)))]
    · rw [if_neg h0]
      apply ih (p + 1) _ (by rw [Nat.sub_add_eq, hd]; rfl)
      intro k hk hlt
      rcases Nat.eq_or_lt_of_le (Nat.le_of_lt_succ hlt) with rfl | hkp
      · exact Int.not_le.mp h0
      · exact hB k hk hkp

theorem descScan_from (m : Nat) (hm : m ≤ es.length) (hA : ∀ k (hk : k < es.length), m ≤ k → c es[k] < 0) :
    descScan maxBoard cmp (downTo es m) (m - 1) = .ok (scanLast (fun e => decide (0 ≤ c e)) es) := by
  induction m with
  | zero =>
    rw [scanLast_none]
    · rfl
    · intro e he
      obtain ⟨k, hk, rfl⟩ := List.getElem_of_mem he
      exact decide_eq_false (Int.not_le.mpr (hA k hk (Nat.zero_le k)))
  | succ m ih =>
    have hm' : m < es.length := hm
    rw [downTo_succ es m hm', descScan_cons hc (hv _ (List.getElem_mem hm')), Nat.add_sub_cancel]
    by_cases h0 : 0 ≤ c es[m]
    · rw [if_pos h0,
        scanLast_eq_of _ es m hm' (decide_eq_true h0)
          (fun k hk hlt => decide_eq_false (Int.not_le.mpr (hA k hk hlt)))]
    · rw [if_neg h0]
      apply ih (Nat.le_of_lt hm')
      intro k hk hle
      rcases Nat.eq_or_lt_of_le hle with rfl | hlt
      · exact Int.not_le.mp h0
      · exact hA k hk hlt

end

/-! ### FindBoardIdxByName / FindBoardIdxByClass -/

/-- the nearest entry in the requested direction: least position `≥ q` (asc) / greatest position `≤ q` (desc). -/
def nearest (c : Entry → Int) (es : List Entry) (isAsc : Bool) : Int :=
  if isAsc then scanFirst (fun e => decide (c e ≤ 0)) es 0 else scanLast (fun e => decide (0 ≤ c e)) es

/-- the specification of the positional search as one linear scan: the (first) entry equal to the query if there
is one, else the nearest entry in the requested direction, else `-1`; positions are 1-based. -/
def specFind (c : Entry → Int) (es : List Entry) (isAsc : Bool) : Int :=
  let x := scanFirst (fun e => decide (c e = 0)) es 0
  if x ≠ -1 then x + 1
  else
    let y := nearest c es isAsc
    if y = -1 then -1 else y + 1

def oneBased (y : Int) : Int := if y = -1 then -1 else y + 1

theorem ofNat_ne_neg_one (p : Nat) : Int.ofNat p ≠ -1 := fun h => nomatch h

theorem oneBased_ofNat (p : Nat) : oneBased (Int.ofNat p) = Int.ofNat p + 1 := if_neg (ofNat_ne_neg_one p)

theorem pure_oneBased (y : Int) : (if y = -1 then pure (-1) else pure (y + 1) : M Int) = .ok (oneBased y) :=
  (apply_ite Except.ok _ _ _).symm

theorem nearest_range (c : Entry → Int) (es : List Entry) (isAsc : Bool) :
    nearest c es isAsc = -1 ∨ ∃ p, p < es.length ∧ nearest c es isAsc = Int.ofNat p := by
  unfold nearest
  cases isAsc with
  | true =>
    rcases scanFirst_spec (fun e => decide (c e ≤ 0)) es with ⟨h, _⟩ | ⟨d, hd, h, _⟩
    · exact Or.inl h
    · exact Or.inr ⟨d, hd, h⟩
  | false =>
    rcases scanLast_spec (fun e => decide (0 ≤ c e)) es with ⟨h, _⟩ | ⟨p, hp, h, _⟩
    · exact Or.inl h
    · exact Or.inr ⟨p, hp, h⟩

theorem nearest_of_zero {c : Entry → Int} {es : List Entry} (Mn : Mono c es) (U : Unique0 c es) (i : Nat)
    (hi : i < es.length) (h0 : c es[i] = 0) (isAsc : Bool) : nearest c es isAsc = Int.ofNat i := by
  unfold nearest
  cases isAsc with
  | true =>
    rw [if_pos rfl]
    apply scanFirst_eq_of _ es i hi (decide_eq_true (Int.le_of_eq h0))
    intro k hk
    exact decide_eq_false (Int.not_le.mpr (Mn.before_of_nonneg U i hi (Int.le_of_eq h0.symm) k (Nat.lt_trans hk hi) hk))
  | false =>
    rw [if_neg Bool.false_ne_true]
    apply scanLast_eq_of _ es i hi (decide_eq_true (Int.le_of_eq h0.symm))
    intro k hk hlt
    exact decide_eq_false (Int.not_le.mpr (Mn.after_of_nonpos U i hi (Int.le_of_eq h0) k hk hlt))

section
variable {maxBoard : Nat} {cmp : Entry → M Int} {c : Entry → Int} (hc : ∀ e, cmp e = .ok (c e)) {es : List Entry}
  (hv : ∀ e ∈ es, e.bid + 1 ≤ maxBoard) (Mn : Mono c es)
include hc hv Mn

theorem findIdx_post (isAsc : Bool) :
    ∃ r, findIdx maxBoard cmp es isAsc = .ok r ∧
      ((∃ i, ∃ h : i < es.length, r = Int.ofNat i + 1 ∧ c es[i] = 0) ∨
        ((∀ e ∈ es, c e ≠ 0) ∧ r = oneBased (nearest c es isAsc))) := by
  by_cases hne : es = []
  · subst hne
    refine ⟨-1, rfl, Or.inr ⟨fun _ h => (nomatch h), ?_⟩⟩
    cases isAsc <;> rfl
  · obtain ⟨r0, hb, hp⟩ := bisect_post hc Mn hne
    unfold findIdx
    rw [hb]
    simp only [bind, Except.bind]
    cases r0 with
    | empty => exact hp.elim
    | hit i b =>
      obtain ⟨hi, h0, hbid⟩ := hp
      have : b + 1 ≤ maxBoard := by rw [hbid]; exact hv _ (List.getElem_mem hi)
      simp only [this, if_true, pure, Except.pure]
      exact ⟨_, rfl, Or.inl ⟨i, hi, rfl, h0⟩⟩
    | miss p =>
      obtain ⟨hpl, h0, hB, hA⟩ := hp
      refine ⟨_, ?_, Or.inr ⟨ne_zero_of_landing hpl h0 hB hA, rfl⟩⟩
      unfold nearest
      cases isAsc with
      | true =>
        simp only [if_true]
        rw [ascScan_from hc hv p hB]
        exact pure_oneBased _
      | false =>
        simp only [Bool.false_eq_true, if_false]
        rw [show downFrom es p = downTo es (p + 1) from rfl]
        have := descScan_from hc hv (p + 1) hpl hA
        rw [Nat.add_sub_cancel] at this
        rw [this]
        exact pure_oneBased _

variable (U : Unique0 c es)
include U

theorem findIdx_eq_nearest (isAsc : Bool) : findIdx maxBoard cmp es isAsc = .ok (oneBased (nearest c es isAsc)) := by
  obtain ⟨r, hr, h⟩ := findIdx_post hc hv Mn isAsc
  rw [hr]
  rcases h with ⟨i, hi, rfl, h0⟩ | ⟨_, rfl⟩
  · rw [nearest_of_zero Mn U i hi h0, oneBased_ofNat]
  · rfl

theorem findIdx_lands (isAsc : Bool) :
    (findIdx maxBoard cmp es isAsc = .ok (-1) ∧ ∀ e ∈ es, if isAsc then 0 < c e else c e < 0) ∨
      ∃ p, ∃ _ : p < es.length,
        findIdx maxBoard cmp es isAsc = .ok (Int.ofNat p + 1) ∧ Before c es p ∧ After c es p := by
  rw [findIdx_eq_nearest hc hv Mn U isAsc]
  unfold nearest
  cases isAsc with
  | true =>
    rw [if_pos rfl]
    rcases scanFirst_spec (fun e => decide (c e ≤ 0)) es with ⟨h1, h2⟩ | ⟨p, hp, h1, h2, h3⟩
    · -- no entry at or below the key
      refine Or.inl ⟨?_, fun e he => ?_⟩
      · rw [h1]; rfl
      · exact Int.not_le.mp (of_decide_eq_false (h2 e he))
    · -- `p` is the first entry at or below the key
      refine Or.inr ⟨p, hp, ?_, fun k hk hlt => ?_, ?_⟩
      · rw [h1, oneBased_ofNat]
      · exact Int.not_le.mp (of_decide_eq_false (h3 k hlt))
      · exact Mn.after_of_nonpos U p hp (of_decide_eq_true h2)
  | false =>
    rw [if_neg Bool.false_ne_true]
    rcases scanLast_spec (fun e => decide (0 ≤ c e)) es with ⟨h1, h2⟩ | ⟨p, hp, h1, h2, h3⟩
    · -- no entry at or above the key
      refine Or.inl ⟨?_, fun e he => ?_⟩
      · rw [h1]; rfl
      · exact Int.not_le.mp (of_decide_eq_false (h2 e he))
    · -- `p` is the last entry at or above the key
      refine Or.inr ⟨p, hp, ?_, ?_, fun k hk hlt => ?_⟩
      · rw [h1, oneBased_ofNat]
      · exact Mn.before_of_nonneg U p hp (of_decide_eq_true h2)
      · exact Int.not_le.mp (of_decide_eq_false (h3 k hk hlt))

theorem findIdx_eq_specFind (isAsc : Bool) : findIdx maxBoard cmp es isAsc = .ok (specFind c es isAsc) := by
  rw [findIdx_eq_nearest hc hv Mn U isAsc]
  unfold specFind
  simp only
  rcases scanFirst_spec (fun e => decide (c e = 0)) es with ⟨h1, _⟩ | ⟨d, hd, h1, h2, _⟩
  · rw [h1, if_neg (c := (-1 : Int) ≠ -1) (fun h => h rfl)]
    rfl
  · rw [h1, nearest_of_zero Mn U d hd (of_decide_eq_true h2), oneBased_ofNat, if_pos (ofNat_ne_neg_one d)]

end

theorem oneBased_range {y : Int} {n : Nat} (h : y = -1 ∨ ∃ p, p < n ∧ y = Int.ofNat p) :
    oneBased y = -1 ∨ (1 ≤ oneBased y ∧ oneBased y ≤ Int.ofNat n) := by
  rcases h with rfl | ⟨p, hp, rfl⟩
  · exact Or.inl rfl
  · rw [oneBased_ofNat]
    simp only [Int.ofNat_eq_natCast]
    omega

theorem specFind_range (c : Entry → Int) (es : List Entry) (isAsc : Bool) :
    specFind c es isAsc = -1 ∨ (1 ≤ specFind c es isAsc ∧ specFind c es isAsc ≤ Int.ofNat es.length) := by
  unfold specFind
  simp only
  rcases scanFirst_spec (fun e => decide (c e = 0)) es with ⟨h1, _⟩ | ⟨d, hd, h1, _⟩
  · rw [h1, if_neg (c := (-1 : Int) ≠ -1) (fun h => h rfl)]
    exact oneBased_range (nearest_range c es isAsc)
  · rw [h1, if_pos (ofNat_ne_neg_one d), ← oneBased_ofNat]
    exact oneBased_range (Or.inr ⟨d, hd, rfl⟩)

end PttVerif.C11
