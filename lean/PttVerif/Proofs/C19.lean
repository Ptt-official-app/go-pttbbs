import PttVerif.Model.C19
/-
C19 — the `.fav` format: `WriteFavrec` is the grammar (`serFav`), `ReadFavrec` inverts it up to the ids, `rebuildFav`
computes `canon`, so a save followed by a load yields `canon`; sizes and byte ranges of the grammar.

A folder entry carries a record of the same shape as the root (`Fav`): three stored counters and a level of
entries. Facts about one level are stated for `Fav` and serve the root and every folder.
-/
namespace PttVerif.C19
open PttVerif

attribute [local simp] bind Except.bind pure Except.pure

/-! ### the regenerated constants, as numerals -/

@[simp] theorem VERSION_eq : VERSION = 3363 := by decide
@[simp] theorem T_BOARD_eq : T_BOARD = 1 := by decide
@[simp] theorem T_FOLDER_eq : T_FOLDER = 2 := by decide
@[simp] theorem T_LINE_eq : T_LINE = 3 := by decide
@[simp] theorem FAVH_FAV_eq : FAVH_FAV = 1 := by decide
@[simp] theorem boardPad_eq : boardPad = 3 := by decide
@[simp] theorem linePad_eq : linePad = 0 := by decide
@[simp] theorem TITLE_LEN_eq : TITLE_LEN = 49 := by decide
@[simp] theorem MAX_FAV_eq : MAX_FAV = 1024 := by decide
@[simp] theorem MAX_LINE_eq : MAX_LINE = 64 := by decide
@[simp] theorem MAX_FOLDER_eq : MAX_FOLDER = 64 := by decide

/-! ### induction over the tree -/

/-- The recursor of the nested `Item` with the motive on levels. A recursive `theorem` with a call on `sub` in
`.folder … sub :: rest` is not structural for Lean: it goes by well-founded recursion on `sizeOf`, slow to check. -/
theorem items_induction {P : List Item → Prop} (nil : P [])
    (board : ∀ a bid lv ba rest, P rest → P (.board a bid lv ba :: rest))
    (line : ∀ a lid rest, P rest → P (.line a lid :: rest))
    (folder : ∀ a fid t nB nL nF sub rest, P sub → P rest → P (.folder a fid t nB nL nF sub :: rest)) :
    ∀ items, P items :=
  Item.rec_1 (motive_1 := fun it => ∀ rest, P rest → P (it :: rest)) (motive_2 := P)
    board line (fun a fid t nB nL nF sub hsub rest h => folder a fid t nB nL nF sub rest hsub h)
    nil (fun _ rest hit hrest => hit rest hrest)

/-! ### counting -/

@[simp] theorem cntB_nil : cntB [] = 0 := rfl
@[simp] theorem cntL_nil : cntL [] = 0 := rfl
@[simp] theorem cntF_nil : cntF [] = 0 := rfl

@[simp] theorem cntB_cons (it : Item) (r : List Item) : cntB (it :: r) = cntB r + (if it.isBoard then 1 else 0) := by
  simp [cntB, List.countP_cons]
@[simp] theorem cntL_cons (it : Item) (r : List Item) : cntL (it :: r) = cntL r + (if it.isLine then 1 else 0) := by
  simp [cntL, List.countP_cons]
@[simp] theorem cntF_cons (it : Item) (r : List Item) : cntF (it :: r) = cntF r + (if it.isFolder then 1 else 0) := by
  simp [cntF, List.countP_cons]

attribute [local simp] Item.isBoard Item.isLine Item.isFolder

theorem cnt_sum (items : List Item) : cntB items + cntL items + cntF items = items.length := by
  induction items with
  | nil => rfl
  | cons it r ih =>
    cases it <;> simp <;> omega

theorem cntB_append (a b : List Item) : cntB (a ++ b) = cntB a + cntB b := by simp [cntB]
theorem cntL_append (a b : List Item) : cntL (a ++ b) = cntL a + cntL b := by simp [cntL]
theorem cntF_append (a b : List Item) : cntF (a ++ b) = cntF a + cntF b := by simp [cntF]

/-! ### well-formedness: what the round trip needs of a tree -/

/-- the fields that must fit their wire width for the bytes to decode to the same values. -/
def rtOK : Item → Bool
  | .board _ bid lv _ => decide (bid < 4294967296) && decide (lv < 4294967296)
  | .line .. => true
  | .folder _ _ t _ _ _ _ => t.length == TITLE_LEN

/-- the per-level counts fit the `int8`/`int16` header fields. -/
def fitsLevel (items : List Item) : Bool :=
  decide (cntL items < 128) && decide (cntF items < 128) && decide (items.length < 32768)

/-- every folder's stored counters are the counts of its entries, every level fits, every field fits. -/
def wfItems : List Item → Bool
  | [] => true
  | .folder a fid t nB nL nF sub :: rest =>
      rtOK (.folder a fid t nB nL nF sub) && nB == cntB sub && nL == cntL sub && nF == cntF sub
        && fitsLevel sub && wfItems sub && wfItems rest
  | it :: rest => rtOK it && wfItems rest

def wfFav (f : Fav) : Bool :=
  f.nB == cntB f.items && f.nL == cntL f.items && f.nF == cntF f.items && fitsLevel f.items && wfItems f.items

theorem wfFav_iff {nB nL nF : Nat} {items : List Item} : wfFav ⟨nB, nL, nF, items⟩ = true ↔
    nB = cntB items ∧ nL = cntL items ∧ nF = cntF items ∧ fitsLevel items = true ∧ wfItems items = true := by
  simp [wfFav, and_assoc]

theorem wfItems_of_wfFav {f : Fav} (h : wfFav f = true) : wfItems f.items = true :=
  (wfFav_iff.mp h).2.2.2.2

theorem wfItems_cons {it : Item} {rest : List Item} (h : wfItems (it :: rest) = true) :
    rtOK it = true ∧ wfItems rest = true := by
  cases it with
  | board => simpa [wfItems] using h
  | line => simpa [wfItems] using h
  | folder =>
    simp [wfItems] at h
    exact ⟨h.1.1.1.1.1.1, h.2⟩

theorem wfItems_folder {a fid : Nat} {t : List Nat} {nB nL nF : Nat} {sub rest : List Item} :
    wfItems (.folder a fid t nB nL nF sub :: rest) = true ↔
      t.length = TITLE_LEN ∧ wfFav ⟨nB, nL, nF, sub⟩ = true ∧ wfItems rest = true := by
  simp [wfItems, wfFav, rtOK, and_assoc]

/-- over a well-formed tree, the stored counters of a folder already replaced by the counts. -/
theorem wf_induction {motive : (items : List Item) → wfItems items = true → Prop} (nil : ∀ {h}, motive [] h)
    (board : ∀ a bid lv ba rest {hrest h}, rtOK (.board a bid lv ba) = true → motive rest hrest →
      motive (.board a bid lv ba :: rest) h)
    (line : ∀ a lid rest {hrest h}, motive rest hrest → motive (.line a lid :: rest) h)
    (folder : ∀ a fid t sub rest {hrest h}, t.length = TITLE_LEN → fitsLevel sub = true →
      ∀ hf : wfFav ⟨cntB sub, cntL sub, cntF sub, sub⟩ = true, motive sub (wfItems_of_wfFav hf) → motive rest hrest →
      motive (.folder a fid t (cntB sub) (cntL sub) (cntF sub) sub :: rest) h)
    (items : List Item) (h : wfItems items = true) : motive items h := by
  induction items using items_induction with
  | nil => exact nil
  | board a bid lv ba rest ih => exact board a bid lv ba rest (wfItems_cons h).1 (ih (wfItems_cons h).2)
  | line a lid rest ih => exact line a lid rest (ih (wfItems_cons h).2)
  | folder a fid t nB nL nF sub rest ihs ihr =>
    obtain ⟨ht, hf, hrest⟩ := wfItems_folder.mp h
    obtain ⟨rfl, rfl, rfl, hfit, hsub⟩ := wfFav_iff.mp hf
    exact folder a fid t sub rest ht hfit hf (ihs hsub) (ihr hrest)

/-! ### specification-level functions -/

/-- the folders of a level, each as header, entries, own sub-folders: depth first. -/
def serSubs : List Item → List Nat
  | [] => []
  | .folder _ _ _ nB nL nF sub :: rest => hdr nB nL nF ++ encEntries sub ++ serSubs sub ++ serSubs rest
  | _ :: rest => serSubs rest

/-- the `.fav` grammar below the version word. -/
def serFav (f : Fav) : List Nat := hdr f.nB f.nL f.nF ++ encEntries f.items ++ serSubs f.items

theorem serSubs_folder (a fid : Nat) (t : List Nat) (nB nL nF : Nat) (sub rest : List Item) :
    serSubs (.folder a fid t nB nL nF sub :: rest) = serFav ⟨nB, nL, nF, sub⟩ ++ serSubs rest := by
  simp [serSubs, serFav]

/-- what `ReadFavrec` leaves of the ids: lines and folders numbered from `l+1`, `f+1` (as `int8`). -/
def renumFrom : Nat → Nat → List Item → List Item
  | _, _, [] => []
  | l, f, .board a b lv ba :: rest => .board a b lv ba :: renumFrom l f rest
  | l, f, .line a _ :: rest => .line a ((l + 1) % 256) :: renumFrom ((l + 1) % 256) f rest
  | l, f, .folder a _ t nB nL nF sub :: rest =>
      .folder a ((f + 1) % 256) t nB nL nF (renumFrom 0 0 sub) :: renumFrom l ((f + 1) % 256) rest

def renumFav (f : Fav) : Fav := { f with items := renumFrom 0 0 f.items }

/-- the entries with the FAV bit, in order (recursively inside kept folders), counters recounted. -/
def keepValid : List Item → List Item
  | [] => []
  | .folder a fid t _ _ _ sub :: rest =>
      if isValidAttr a then
        .folder a fid t (cntB (keepValid sub)) (cntL (keepValid sub)) (cntF (keepValid sub)) (keepValid sub)
          :: keepValid rest
      else keepValid rest
  | .board a b lv ba :: rest => if isValidAttr a then .board a b lv ba :: keepValid rest else keepValid rest
  | .line a l :: rest => if isValidAttr a then .line a l :: keepValid rest else keepValid rest

def keepValidFav (f : Fav) : Fav :=
  ⟨cntB (keepValid f.items), cntL (keepValid f.items), cntF (keepValid f.items), keepValid f.items⟩

/-- the tree a save followed by a load yields. -/
def canon (f : Fav) : Fav := renumFav (keepValidFav f)

/-- an entry as the first loop of `ReadFavrec` has it: a folder's record is not read yet. -/
def shallow : Item → Item
  | .folder a fid t _ _ _ _ => .folder a fid t 0 0 0 []
  | it => it

/-! ### arithmetic -/

theorem fits_bounds {items : List Item} (h : fitsLevel items = true) :
    cntB items < 32768 ∧ cntL items < 128 ∧ cntF items < 128 ∧ items.length < 32768 := by
  simp [fitsLevel] at h
  have := cnt_sum items
  omega

theorem fits_mod {items : List Item} (h : fitsLevel items = true) :
    cntB items % 65536 = cntB items ∧ cntL items % 256 = cntL items ∧ cntF items % 256 = cntF items := by
  obtain ⟨kb, kl, kf, _⟩ := fits_bounds h
  exact ⟨Nat.mod_eq_of_lt (Nat.lt_trans kb (by decide)), Nat.mod_eq_of_lt (Nat.lt_trans kl (by decide)),
    Nat.mod_eq_of_lt (Nat.lt_trans kf (by decide))⟩

theorem neg16_of_lt {n : Nat} (h : n < 32768) : neg16 n = false := by simp [neg16]; omega
theorem neg8_of_lt {n : Nat} (h : n < 128) : neg8 n = false := by simp [neg8]; omega

theorem total16_of_fits (items : List Item) (h : fitsLevel items = true) :
    total16 (cntB items) (cntL items) (cntF items) = items.length ∧ neg16 items.length = false
      ∧ loopCount items.length = items.length := by
  obtain ⟨_, hl, hf, hn⟩ := fits_bounds h
  have := cnt_sum items
  refine ⟨?_, neg16_of_lt hn, by simp [loopCount, hn]⟩
  simp [total16, sext8, hl, hf]
  omega

theorem dec16_le16 (n : Nat) (h : n < 65536) : dec16 (n % 256) (n / 256 % 256) = n := by
  simp [dec16]; omega

theorem dec32_le32 (n : Nat) (h : n < 4294967296) :
    dec32 (n % 256) (n / 256 % 256) (n / 65536 % 256) (n / 16777216 % 256) = n := by
  simp [dec32]; omega

/-! ### WriteFavrec on a well-formed tree is the specification serialiser -/

theorem writeSubs_eq (items : List Item) (h : wfItems items = true) :
    writeSubs items.length items = .ok (serSubs items) := by
  induction items, h using wf_induction with
  | nil => simp [writeSubs, serSubs]
  | board a bid lv ba rest _ ih => simp [writeSubs, serSubs, ih]
  | line a lid rest ih => simp [writeSubs, serSubs, ih]
  | folder a fid t sub rest _ hfit _ ihs ihr =>
    simp [writeSubs, serSubs, total16_of_fits sub hfit, ihs, ihr]

theorem writeFavrec_eq (f : Fav) (h : wfFav f = true) : writeFavrec f = .ok (serFav f) := by
  obtain ⟨nB, nL, nF, items⟩ := f
  obtain ⟨rfl, rfl, rfl, hfit, hw⟩ := wfFav_iff.mp h
  simp [writeFavrec, serFav, total16_of_fits items hfit, writeSubs_eq items hw]

/-! ### the first loop of ReadFavrec inverts the entry encoding -/

@[simp] theorem encEntries_nil : encEntries [] = [] := rfl
@[simp] theorem encEntries_cons (it : Item) (r : List Item) : encEntries (it :: r) = encEntry it ++ encEntries r :=
  List.flatMap_cons ..

theorem readEntry_enc (it : Item) (rest : List Nat) (h : rtOK it = true) :
    readEntry (encEntry it ++ rest) = some (shallow it, rest) := by
  cases it with
  | board a bid lv ba =>
    simp [rtOK] at h
    simp [encEntry, readEntry, le32, shallow, dec32_le32 _ h.1, dec32_le32 _ h.2, List.replicate]
  | line a lid =>
    simp [encEntry, readEntry, shallow]
  | folder a fid t nB nL nF sub =>
    simp [rtOK] at h
    simp [encEntry, readEntry, shallow, h]

theorem readEntries_enc : ∀ (items : List Item) (rest : List Nat), (∀ it ∈ items, rtOK it = true) →
    readEntries items.length (encEntries items ++ rest) = some (items.map shallow, rest)
  | [], rest, _ => by simp [readEntries]
  | it :: r, rest, h => by
      have h1 := h it (by simp)
      have h2 : ∀ x ∈ r, rtOK x = true := fun x hx => h x (by simp [hx])
      simp [readEntries, List.append_assoc, readEntry_enc it _ h1, readEntries_enc r rest h2]

theorem rtOK_of_wf (items : List Item) (h : wfItems items = true) : ∀ it ∈ items, rtOK it = true := by
  induction items with
  | nil => intro it hit; cases hit
  | cons x r ih =>
    intro it hit
    rcases List.mem_cons.mp hit with rfl | e
    · exact (wfItems_cons h).1
    · exact ih (wfItems_cons h).2 it e

/-! ### ReadFavrec inverts the serialiser (given enough call depth) -/

theorem readFavrec_step (fuel : Nat) (f : Fav) (tail : List Nat) (X : List Item) (h : wfFav f = true)
    (hQ : attach (readFavrec fuel) (f.items.map shallow) (serSubs f.items ++ tail) 0 0 = .ok (some (X, tail))) :
    readFavrec (fuel + 1) (serFav f ++ tail) = .ok (some (⟨f.nB, f.nL, f.nF, X⟩, tail)) := by
  obtain ⟨nB, nL, nF, items⟩ := f
  obtain ⟨rfl, rfl, rfl, hfit, hw⟩ := wfFav_iff.mp h
  obtain ⟨hb, hl, hf, _⟩ := fits_bounds hfit
  have hd := dec16_le16 (cntB items) (Nat.lt_trans hb (by decide))
  simp only [] at hQ  -- `f.items` of the structure literal becomes `items`
  simp [readFavrec, serFav, hdr, le16, hd, total16_of_fits items hfit, neg16_of_lt hb, neg8_of_lt hl, neg8_of_lt hf,
    readEntries_enc items _ (rtOK_of_wf items hw), hQ]

theorem serFav_length_ge (f : Fav) : 4 + (serSubs f.items).length ≤ (serFav f).length := by
  simp [serFav, hdr, le16]; omega

theorem fuel_split {s L r fuel : Nat} (h1 : 4 + s ≤ L) (h2 : L + r ≤ fuel) :
    ∃ k, fuel = k + 1 ∧ s ≤ k ∧ r ≤ k + 1 := by
  cases fuel with
  | zero => omega
  | succ k => exact ⟨k, rfl, by omega⟩

/-- Every nested record consumes at least its 4 header bytes, so a call depth of the number of bytes still to
read is enough. -/
theorem attach_ser (items : List Item) (h : wfItems items = true) :
    ∀ (fuel : Nat), (serSubs items).length ≤ fuel → ∀ (tail : List Nat) (l f : Nat),
    attach (readFavrec fuel) (items.map shallow) (serSubs items ++ tail) l f
      = .ok (some (renumFrom l f items, tail)) := by
  induction items, h using wf_induction with
  | nil => intro fuel _ tail l f; simp [attach, serSubs, renumFrom]
  | board a bid lv ba rest _ ih =>
    intro fuel hd tail l f
    simp only [serSubs] at hd
    simp [attach, serSubs, renumFrom, shallow, ih fuel hd tail l f]
  | line a lid rest ih =>
    intro fuel hd tail l f
    simp only [serSubs] at hd
    simp [attach, serSubs, renumFrom, shallow, ih fuel hd tail ((l + 1) % 256) f]
  | folder a fid t sub rest _ _ hf ihs ihr =>
    intro fuel hd tail l f
    rw [serSubs_folder] at hd ⊢
    rw [List.length_append] at hd
    obtain ⟨fuel', rfl, hs, hr⟩ := fuel_split (serFav_length_ge ⟨_, _, _, sub⟩) hd
    have hrec := readFavrec_step fuel' _ (serSubs rest ++ tail) _ hf (ihs fuel' hs _ 0 0)
    simp [attach, renumFrom, shallow, List.append_assoc, hrec, ihr (fuel' + 1) hr tail l ((f + 1) % 256)]

theorem load_ser (f : Fav) (v0 v1 : Nat) (h : wfFav f = true) :
    load (v0 :: v1 :: serFav f) = .ok (some (renumFav f)) := by
  have hq := attach_ser f.items (wfItems_of_wfFav h) _ (Nat.le_of_add_left_le (serFav_length_ge f)) [] 0 0
  have := readFavrec_step _ f [] _ h hq
  rw [List.append_nil] at this
  simp [load, renumFav, this]

/-! ### renumbering and filtering -/

theorem renumFrom_length (items : List Item) : ∀ (l f : Nat), (renumFrom l f items).length = items.length := by
  induction items with
  | nil => intro l f; simp [renumFrom]
  | cons it rest ih => intro l f; cases it <;> simp [renumFrom, ih]

theorem renumFrom_cnt (items : List Item) : ∀ (l f : Nat),
    cntB (renumFrom l f items) = cntB items ∧ cntL (renumFrom l f items) = cntL items
      ∧ cntF (renumFrom l f items) = cntF items := by
  induction items with
  | nil => intro l f; simp [renumFrom]
  | cons it rest ih => intro l f; cases it <;> simp [renumFrom, ih]

theorem fitsLevel_renum (items : List Item) (l f : Nat) : fitsLevel (renumFrom l f items) = fitsLevel items := by
  simp [fitsLevel, renumFrom_cnt, renumFrom_length]

theorem wfItems_renum (items : List Item) : ∀ (l f : Nat), wfItems (renumFrom l f items) = wfItems items := by
  induction items using items_induction with
  | nil => intro l f; simp [renumFrom]
  | board a bid lv ba rest ih => intro l f; simp [renumFrom, wfItems, rtOK, ih]
  | line a lid rest ih => intro l f; simp [renumFrom, wfItems, rtOK, ih]
  | folder a fid t nB nL nF sub rest ihs ihr =>
    intro l f
    simp [renumFrom, wfItems, rtOK, ihs, ihr, fitsLevel_renum, renumFrom_cnt]

theorem wfFav_renum (f : Fav) : wfFav (renumFav f) = wfFav f := by
  simp [wfFav, renumFav, wfItems_renum, fitsLevel_renum, renumFrom_cnt]

theorem keepValid_le (items : List Item) :
    cntL (keepValid items) ≤ cntL items ∧ cntF (keepValid items) ≤ cntF items
      ∧ (keepValid items).length ≤ items.length := by
  induction items with
  | nil => simp [keepValid]
  | cons it rest ih =>
    cases it with
    | board a => by_cases hv : isValidAttr a = true <;> simp [keepValid, hv] <;> omega
    | line a => by_cases hv : isValidAttr a = true <;> simp [keepValid, hv] <;> omega
    | folder a => by_cases hv : isValidAttr a = true <;> simp [keepValid, hv] <;> omega

theorem fitsLevel_keepValid (items : List Item) (h : fitsLevel items = true) :
    fitsLevel (keepValid items) = true := by
  have := keepValid_le items
  simp [fitsLevel] at h ⊢
  omega

theorem wfItems_keepValid (items : List Item) (h : wfItems items = true) : wfItems (keepValid items) = true := by
  induction items, h using wf_induction with
  | nil => simp [keepValid, wfItems]
  | board a bid lv ba rest hok ih =>
    by_cases hv : isValidAttr a = true <;> simp [keepValid, hv, wfItems, hok, ih]
  | line a lid rest ih =>
    by_cases hv : isValidAttr a = true <;> simp [keepValid, hv, wfItems, rtOK, ih]
  | folder a fid t sub rest ht hfit _ ihs ihr =>
    by_cases hv : isValidAttr a = true
    · simp only [keepValid, hv, if_true]
      exact wfItems_folder.mpr ⟨ht, wfFav_iff.mpr ⟨rfl, rfl, rfl, fitsLevel_keepValid sub hfit, ihs⟩, ihr⟩
    · simp [keepValid, hv, ihr]

theorem wfFav_keepValid (f : Fav) (h : wfFav f = true) : wfFav (keepValidFav f) = true := by
  obtain ⟨_, _, _, hfit, hw⟩ := wfFav_iff.mp h
  exact wfFav_iff.mpr ⟨rfl, rfl, rfl, fitsLevel_keepValid _ hfit, wfItems_keepValid _ hw⟩

theorem wfFav_canon (f : Fav) (h : wfFav f = true) : wfFav (canon f) = true := by
  simp [canon, wfFav_renum, wfFav_keepValid f h]

theorem renumFrom_idem (items : List Item) : ∀ (l f : Nat),
    renumFrom l f (renumFrom l f items) = renumFrom l f items := by
  induction items using items_induction with
  | nil => intro l f; simp [renumFrom]
  | board a bid lv ba rest ih => intro l f; simp [renumFrom, ih]
  | line a lid rest ih => intro l f; simp [renumFrom, ih]
  | folder a fid t nB nL nF sub rest ihs ihr => intro l f; simp [renumFrom, ihs, ihr]

theorem keepValid_of_noRebuild (items : List Item) (h : wfItems items = true) (hn : needRebuild items = false) :
    keepValid items = items := by
  induction items, h using wf_induction with
  | nil => simp [keepValid]
  | board a bid lv ba rest _ ih =>
    simp [needRebuild, Item.attr] at hn
    simp [keepValid, hn.1, ih hn.2]
  | line a lid rest ih =>
    simp [needRebuild, Item.attr] at hn
    simp [keepValid, hn.1, ih hn.2]
  | folder a fid t sub rest _ _ _ ihs ihr =>
    simp [needRebuild] at hn
    simp [keepValid, hn.1, ihs hn.2.1, ihr hn.2.2]

theorem keepValidFav_of_noRebuild (f : Fav) (h : wfFav f = true) (hn : needRebuild f.items = false) :
    keepValidFav f = f := by
  obtain ⟨nB, nL, nF, items⟩ := f
  obtain ⟨hB, hL, hF, _, hw⟩ := wfFav_iff.mp h
  simp [keepValidFav, keepValid_of_noRebuild items hw hn, hB, hL, hF]

theorem totalCount_renum (items : List Item) : ∀ (l f : Nat), totalCount (renumFrom l f items) = totalCount items := by
  induction items using items_induction with
  | nil => intro l f; simp [renumFrom]
  | board a bid lv ba r ih => intro l f; simp [renumFrom, totalCount, ih]
  | line a lid r ih => intro l f; simp [renumFrom, totalCount, ih]
  | folder a fid t nB nL nF sub r ihs ihr => intro l f; simp [renumFrom, totalCount, ihs, ihr]

theorem totalCount_keepValid (items : List Item) : totalCount (keepValid items) ≤ totalCount items := by
  induction items using items_induction with
  | nil => simp [keepValid]
  | board a bid lv ba r ih => by_cases hv : isValidAttr a = true <;> simp [keepValid, hv, totalCount] <;> omega
  | line a lid r ih => by_cases hv : isValidAttr a = true <;> simp [keepValid, hv, totalCount] <;> omega
  | folder a fid t nB nL nF sub r ihs ihr =>
    by_cases hv : isValidAttr a = true <;> simp [keepValid, hv, totalCount] <;> omega

theorem totalCount_canon (f : Fav) : totalCount (canon f).items ≤ totalCount f.items := by
  simp only [canon, renumFav, keepValidFav, totalCount_renum]
  exact totalCount_keepValid f.items

/-! ### rebuildFav computes `canon` -/

/-- `Favh[:getDataNumber()]` after the rebuild loop cuts nothing. -/
theorem take_renumFrom (items : List Item) (l f : Nat) :
    (renumFrom l f items).take items.length = renumFrom l f items :=
  List.take_of_length_le (Nat.le_of_eq (renumFrom_length items l f))

/-- Stated for arbitrary entry counters and last ids, modulo their width, so that the induction passes the rest of
a level; only the cut of a rebuilt folder needs a level that fits. -/
theorem rebuildItems_eq (items : List Item) (hw : wfItems items = true) : ∀ (cB cL cF li fi : Nat),
    rebuildItems items ⟨cB % 65536, cL % 256, cF % 256, li % 256, fi % 256⟩ =
      .ok (renumFrom (li % 256) (fi % 256) (keepValid items),
        ⟨(cB + cntB (keepValid items)) % 65536, (cL + cntL (keepValid items)) % 256,
          (cF + cntF (keepValid items)) % 256, (li + cntL (keepValid items)) % 256,
          (fi + cntF (keepValid items)) % 256⟩) := by
  induction items, hw using wf_induction with
  | nil => intro cB cL cF li fi; simp [rebuildItems, keepValid, renumFrom]
  | board a bid lv ba rest _ ih =>
    intro cB cL cF li fi
    by_cases hv : isValidAttr a = true
    · simp [rebuildItems, keepValid, hv, renumFrom, ih, Nat.add_assoc, Nat.add_comm 1]
    · simp [rebuildItems, keepValid, hv, ih]
  | line a lid rest ih =>
    intro cB cL cF li fi
    by_cases hv : isValidAttr a = true
    · simp [rebuildItems, keepValid, hv, renumFrom, ih, Nat.add_assoc, Nat.add_comm 1]
    · simp [rebuildItems, keepValid, hv, ih]
  | folder a fid t sub rest _ hfit _ ihs ihr =>
    intro cB cL cF li fi
    by_cases hv : isValidAttr a = true
    · have ihs := ihs 0 0 0 0 0
      have hfk := fitsLevel_keepValid sub hfit
      simp only [Nat.zero_mod, Nat.zero_add, fits_mod hfk] at ihs
      simp [rebuildItems, keepValid, hv, renumFrom, ihs, ihr, total16_of_fits _ hfk, renumFrom_length, take_renumFrom,
        Nat.add_assoc, Nat.add_comm 1]
    · simp [rebuildItems, keepValid, hv, ihr]

theorem rebuildFav_eq (f : Fav) (h : wfFav f = true) : rebuildFav f = .ok (canon f) := by
  obtain ⟨nB, nL, nF, items⟩ := f
  obtain ⟨_, _, _, hfit, hw⟩ := wfFav_iff.mp h
  have ih := rebuildItems_eq items hw 0 0 0 0 0
  have hfk := fitsLevel_keepValid items hfit
  simp only [Nat.zero_mod, Nat.zero_add, fits_mod hfk] at ih
  simp [rebuildFav, canon, renumFav, keepValidFav, ih, total16_of_fits _ hfk, renumFrom_length, take_renumFrom]

/-! ### save then load -/

theorem save_spec (f : Fav) (h : wfFav f = true) :
    ∃ g, cleanup f = .ok g ∧ wfFav g = true ∧ renumFav g = canon f
      ∧ saveBytes f = .ok (le16 VERSION ++ serFav g) := by
  have hg : ∃ g, cleanup f = .ok g ∧ wfFav g = true ∧ renumFav g = canon f := by
    by_cases hn : needRebuild f.items = true
    · refine ⟨canon f, by simp [cleanup, hn, rebuildFav_eq f h], wfFav_canon f h, ?_⟩
      simp [canon, renumFav, renumFrom_idem]
    · simp at hn
      exact ⟨f, by simp [cleanup, hn], h, by rw [canon, keepValidFav_of_noRebuild f h hn]⟩
  obtain ⟨g, hc, hw, hr⟩ := hg
  exact ⟨g, hc, hw, hr, by simp [saveBytes, hc, writeFavrec_eq g hw]⟩

theorem save_load (f : Fav) (h : wfFav f = true) :
    ∃ bytes, saveBytes f = .ok bytes ∧ load bytes = .ok (some (canon f)) := by
  obtain ⟨g, _, hg, hr, hs⟩ := save_spec f h
  refine ⟨_, hs, ?_⟩
  rw [← hr]
  exact load_ser g _ _ hg

/-! ### sizes and byte ranges of the serialisation -/

/-- the board entries at every depth (`cntB` counts one level); `deepL`, `deepF` likewise. -/
def deepB : List Item → Nat
  | [] => 0
  | .board .. :: r => 1 + deepB r
  | .folder _ _ _ _ _ _ sub :: r => deepB sub + deepB r
  | _ :: r => deepB r
def deepL : List Item → Nat
  | [] => 0
  | .line .. :: r => 1 + deepL r
  | .folder _ _ _ _ _ _ sub :: r => deepL sub + deepL r
  | _ :: r => deepL r
def deepF : List Item → Nat
  | [] => 0
  | .folder _ _ _ _ _ _ sub :: r => 1 + deepF sub + deepF r
  | _ :: r => deepF r

theorem encEntry_length (it : Item) (h : rtOK it = true) :
    (encEntry it).length = if it.isBoard then 14 else if it.isLine then 3 else 52 := by
  cases it with
  | board => simp [encEntry, le32]
  | line => simp [encEntry]
  | folder a fid t =>
    simp [rtOK] at h
    simp [encEntry, h]

theorem encEntries_length (items : List Item) (h : ∀ it ∈ items, rtOK it = true) :
    (encEntries items).length = 14 * cntB items + 3 * cntL items + 52 * cntF items := by
  induction items with
  | nil => rfl
  | cons it r ih =>
    have h1 := encEntry_length it (h it (by simp))
    have h2 := ih (fun x hx => h x (by simp [hx]))
    simp only [encEntries_cons, List.length_append, h1, h2]
    cases it <;> simp <;> omega

theorem deep_level : ∀ (items : List Item),
    cntB items ≤ deepB items ∧ cntL items ≤ deepL items ∧ cntF items ≤ deepF items := by
  intro items
  induction items with
  | nil => simp [deepB, deepL, deepF]
  | cons it r ih => cases it <;> simp [deepB, deepL, deepF] <;> omega

/-- 14 bytes per board, 3 per line, 52 + 4 (its record's header) per folder, at every depth. -/
theorem ser_length (items : List Item) (h : wfItems items = true) :
    (encEntries items).length + (serSubs items).length
      = 14 * deepB items + 3 * deepL items + 56 * deepF items := by
  induction items, h using wf_induction with
  | nil => simp [serSubs, deepB, deepL, deepF]
  | board a bid lv ba r hok ih =>
    simp [encEntry_length _ hok, serSubs, deepB, deepL, deepF]; omega
  | line a lid r ih =>
    simp [encEntry_length (.line a lid) rfl, serSubs, deepB, deepL, deepF]; omega
  | folder a fid t sub r ht _ _ ihs ihr =>
    simp [encEntry, ht, serSubs, deepB, deepL, deepF, hdr, le16]; omega

theorem serFav_length (f : Fav) (h : wfFav f = true) :
    (serFav f).length = 4 * (1 + deepF f.items) + 14 * deepB f.items + 3 * deepL f.items + 52 * deepF f.items := by
  have := ser_length f.items (wfItems_of_wfFav h)
  simp [serFav, hdr, le16]
  omega

theorem deep_total (items : List Item) : deepB items + deepL items + deepF items = totalCount items := by
  induction items using items_induction with
  | nil => simp [deepB, deepL, deepF, totalCount]
  | board a bid lv ba r ih => simp only [deepB, deepL, deepF, totalCount, ← ih]; omega
  | line a lid r ih => simp only [deepB, deepL, deepF, totalCount, ← ih]; omega
  | folder a fid t nB nL nF sub r ihs ihr => simp only [deepB, deepL, deepF, totalCount, ← ihs, ← ihr]; omega

/-- every field is the image of a byte (so the model's "bytes" are bytes). -/
def bytesOK : List Item → Bool
  | [] => true
  | .board a _ _ ba :: r => decide (a < 256) && decide (ba < 256) && bytesOK r
  | .line a l :: r => decide (a < 256) && decide (l < 256) && bytesOK r
  | .folder a fid t _ _ _ sub :: r =>
      decide (a < 256) && decide (fid < 256) && t.all (fun b => decide (b < 256)) && bytesOK sub && bytesOK r

theorem encEntries_bytes (items : List Item) (h : bytesOK items = true) : ∀ b ∈ encEntries items, b < 256 := by
  induction items with
  | nil => simp
  | cons it r ih =>
    cases it with
    | board a bid lv ba =>
      simp [bytesOK] at h
      simpa [encEntry, le32, h, Nat.mod_lt] using ih h.2
    | line a l =>
      simp [bytesOK] at h
      simpa [encEntry, h] using ih h.2
    | folder a fid t nB nL nF sub =>
      simp [bytesOK] at h
      simpa [encEntry, h, or_imp, forall_and] using ⟨h.1.1.2, ih h.2⟩

theorem serFav_bytes_of (f : Fav) (h : wfFav f = true) (hb : bytesOK f.items = true)
    (hs : ∀ b ∈ serSubs f.items, b < 256) : ∀ b ∈ serFav f, b < 256 := by
  obtain ⟨nB, nL, nF, items⟩ := f
  obtain ⟨_, rfl, rfl, hfit, _⟩ := wfFav_iff.mp h
  obtain ⟨_, kl, kf, _⟩ := fits_bounds hfit
  intro b hm
  simp only [serFav, List.mem_append] at hm
  rcases hm with (hm | hm) | hm
  · simp [hdr, le16] at hm; omega
  · exact encEntries_bytes _ hb b hm
  · exact hs b hm

theorem serSubs_bytes (items : List Item) (h : bytesOK items = true) (hw : wfItems items = true) :
    ∀ b ∈ serSubs items, b < 256 := by
  induction items, hw using wf_induction with
  | nil => intro b hb; simp [serSubs] at hb
  | board a bid lv ba r _ ih =>
    simp [bytesOK] at h
    simpa [serSubs] using ih h.2
  | line a lid r ih =>
    simp [bytesOK] at h
    simpa [serSubs] using ih h.2
  | folder a fid t sub r _ _ hf ihs ihr =>
    simp [bytesOK] at h
    intro b hb
    rw [serSubs_folder] at hb
    rcases List.mem_append.mp hb with hb | hb
    · exact serFav_bytes_of _ hf h.1.2 (ihs h.1.2) b hb
    · exact ihr h.2 b hb

/-! ### FavNum -/

theorem favSum_eq (items : List Item) (h : totalCount items < 65536) :
    items.length + subFavSum items = totalCount items := by
  induction items using items_induction with
  | nil => simp [subFavSum, totalCount]
  | board a bid lv ba r ih =>
    simp only [totalCount] at h
    simp only [subFavSum, totalCount, List.length_cons, ← ih (by omega)]; omega
  | line a lid r ih =>
    simp only [totalCount] at h
    simp only [subFavSum, totalCount, List.length_cons, ← ih (by omega)]; omega
  | folder a fid t nB nL nF sub r ihs ihr =>
    simp only [totalCount] at h
    have h2 := ihs (by omega)
    simp only [subFavSum, totalCount, List.length_cons, ← ihr (by omega), h2]; omega

/-! ### the largest file within the API limits, and the read limit of GetFavorites -/

theorem MAX_FILE_eq : MAX_FILE = 57350 := by decide

/-- a chain of `n` nested empty-titled folders: the most expensive tree per entry. -/
def chainItems : Nat → List Item
  | 0 => []
  | n + 1 => [.folder 1 1 (List.replicate 49 0) 0 0 (cntF (chainItems n)) (chainItems n)]

/-- one induction: each clause at `n + 1` needs several at `n`. -/
theorem chain_facts : ∀ n, wfItems (chainItems n) = true ∧ cntB (chainItems n) = 0 ∧ cntL (chainItems n) = 0
    ∧ cntF (chainItems n) ≤ 1 ∧ (chainItems n).length ≤ 1 ∧ totalCount (chainItems n) = n
    ∧ deepF (chainItems n) = n ∧ deepB (chainItems n) = 0 ∧ deepL (chainItems n) = 0
  | 0 => by simp [chainItems, wfItems, totalCount, deepF, deepB, deepL]
  | n + 1 => by
      obtain ⟨hwf, hcB, hcL, hcF, hlen, htotal, hdF, hdB, hdL⟩ := chain_facts n
      simp [chainItems, wfItems, rtOK, fitsLevel, totalCount, deepF, deepB, deepL, Item.isBoard, Item.isLine,
        Item.isFolder, hwf, hcB, hcL, htotal, hdF, hdB, hdL]
      omega

def chainFav (n : Nat) : Fav := ⟨0, 0, cntF (chainItems n), chainItems n⟩

theorem chainFav_wf (n : Nat) : wfFav (chainFav n) = true := by
  obtain ⟨hwf, hcB, hcL, hcF, hlen, _⟩ := chain_facts n
  simp [wfFav, chainFav, hwf, hcB, hcL, fitsLevel]
  refine ⟨decide_eq_true ?_, decide_eq_true ?_⟩ <;> omega

theorem chainFav_total (n : Nat) : totalCount (chainFav n).items = n := by
  obtain ⟨_, _, _, _, _, htotal, _⟩ := chain_facts n
  exact htotal

theorem chainFav_length (n : Nat) : (serFav (chainFav n)).length = 4 + 56 * n := by
  obtain ⟨_, _, _, _, _, _, hdF, hdB, hdL⟩ := chain_facts n
  rw [serFav_length _ (chainFav_wf n)]
  simp [chainFav, hdF, hdB, hdL]
  omega

/-- the regenerated read limit of GetFavorites, if any, is not below the largest legal file. -/
def limitOK : Bool :=
  match GET_LIMIT with
  | none => true
  | some n => decide (MAX_FILE ≤ n)

theorem readAllLimited_id (c : List Nat) (hl : limitOK = true) (hc : c.length ≤ MAX_FILE) :
    readAllLimited GET_LIMIT c = c := by
  unfold limitOK at hl
  cases h : GET_LIMIT with
  | none => simp [readAllLimited]
  | some n =>
    rw [h] at hl
    simp at hl
    simp only [readAllLimited]
    exact List.take_of_length_le (by omega)

end PttVerif.C19
