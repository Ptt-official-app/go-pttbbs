import PttVerif.Model.C02
import PttVerif.Model.C02Spec
/-
C02 — lemmas about the model of crypt.go (Model/C02.lean).  `cFcrypt` is four lookups followed by `hashOf`
(`cFcrypt_ok_iff`); every statement about `Fcrypt` goes through that: `Fcrypt` is `cFcrypt` by definition.  The
regenerated tables are compared whole with Model/C02Spec.lean by kernel evaluation.  Core Lean only.
-/
namespace PttVerif.C02
open PttVerif PttVerif.Gen.CryptTables

-- equations between results in the error monad (`Fcrypt … = .ok …`) are decided by evaluation in `fcrypt_vectors`
deriving instance DecidableEq for Except

/-! ### lengths the proofs below need (all shapes: `Props.table_shapes`) -/

theorem cov_2char_length : cov_2char.length = 64 := by decide +kernel
theorem passlen_eq : ptttypePASSLEN = 14 := by decide +kernel

/-! ### the effective key -/

/-- the bytes of the password that reach DES: the first eight, up to the first NUL, low seven bits each. -/
def effKey (p : List Nat) : List Nat := ((p.take 8).takeWhile (· ≠ 0)).map (· &&& 0x7f)

/-- the same, zero padded to the eight bytes of a DES key (coarser than `effKey`: a trailing 0x80 and a
terminating NUL both give 0). -/
def effKey8 (p : List Nat) : List Nat := copyInto 8 (effKey p)

theorem keyBytes_eq (l : List Nat) :
    keyBytes l = ((l.takeWhile (· ≠ 0)).map (· &&& 0x7f)).map (· * 2) := by
  fun_induction keyBytes l with
  | case1 => rfl
  | case2 => simp
  | case3 c cs h ih =>
    have e : c &&& 0x7f = c % 128 := Nat.and_two_pow_sub_one_eq_mod c 7
    simp [h, ih, e]
    omega

theorem truncate_eq (p : List Nat) : (if p.length > 8 then p.take 8 else p) = p.take 8 := by
  split
  · rfl
  · rw [List.take_of_length_le (by omega)]

theorem copyInto_map_double (n : Nat) (l : List Nat) :
    copyInto n (l.map (· * 2)) = (copyInto n l).map (· * 2) := by
  simp [copyInto, List.map_take]

/-- the DES key block is a function of the effective key only. -/
theorem mkKey_eq (p : List Nat) :
    mkKey (if p.length > 8 then p.take 8 else p) = (effKey8 p).map (· * 2) := by
  rw [truncate_eq, mkKey, keyBytes_eq, copyInto_map_double]
  rfl

/-! ### the output encoding -/

theorem bit6_lt (bb : List Nat) : ∀ (j k c y u : Nat), c < 2 ^ k → (bit6 bb j (c, y, u)).1 < 2 ^ (k + j)
  | 0, _, _, _, _, h => h
  | j + 1, k, c, y, u, h => by
    have h3 : c <<< 1 ||| 1 < 2 ^ (k + 1) :=
      Nat.or_lt_two_pow (by rw [Nat.shiftLeft_eq, Nat.pow_succ]; omega) (Nat.one_lt_two_pow (by omega))
    have h2 : c <<< 1 < 2 ^ (k + 1) := Nat.lt_of_le_of_lt Nat.left_le_or h3
    rw [show k + (j + 1) = (k + 1) + j by omega]
    unfold bit6
    dsimp only
    split <;> split <;> exact bit6_lt bb j (k + 1) _ _ _ ‹_›

theorem outChars_length (bb : List Nat) (n : Nat) (st : Nat × Nat) : (outChars bb n st).length = n := by
  fun_induction outChars bb n st <;> simp [*]

theorem getD_mem {l : List Nat} {i : Nat} (h : i < l.length) : l.getD i 0 ∈ l := by
  rw [List.getD_eq_getElem?_getD, List.getElem?_eq_getElem h]
  exact List.getElem_mem h

theorem outChars_mem (bb : List Nat) (n : Nat) (st : Nat × Nat) : ∀ c ∈ outChars bb n st, c ∈ cov_2char := by
  fun_induction outChars bb n st with
  | case1 => simp
  | case2 n y u c y' u' hb ih =>
    rw [List.forall_mem_cons]
    refine ⟨getD_mem ?_, ih⟩
    rw [cov_2char_length]
    simpa [hb] using bit6_lt bb 6 0 0 y u (by decide)

/-! ### `idx` and bind in the error monad -/

theorem idx_ok_iff {α} (l : List α) (i : Nat) (a : α) : idx l i = .ok a ↔ l[i]? = some a := by
  unfold idx
  cases h : l[i]? <;> simp

theorem idx_error_iff {α} (l : List α) (i : Nat) (e : Fault) : idx l i = .error e ↔ (l.length ≤ i ∧ e = .panic) := by
  unfold idx
  cases h : l[i]? with
  | none => simp at h; simp [h]; exact eq_comm
  | some a => have := (List.getElem?_eq_some_iff.mp h).1; simp; omega

theorem idx_panic {α} {l : List α} {i : Nat} (e : Fault) (h : idx l i = .error e) : e = .panic :=
  ((idx_error_iff l i e).mp h).2

theorem bind_ok_iff {α β} (x : M α) (f : α → M β) (b : β) : x >>= f = .ok b ↔ ∃ a, x = .ok a ∧ f a = .ok b := by
  cases x with
  | error e => simp [bind, Except.bind]
  | ok a => simp [bind, Except.bind]

theorem bind_panic {α β} {x : M α} {f : α → M β} (hx : ∀ e, x = .error e → e = .panic)
    (hf : ∀ a e, f a = .error e → e = .panic) (e : Fault) (h : x >>= f = .error e) : e = .panic := by
  cases x with
  | error e' => exact hx e (congrArg Except.error (Except.error.inj h))
  | ok a => exact hf a e h

/-! ### cFcrypt, opened up -/

/-- the hash for salt characters `x0`, `x1` (already mapped NUL ↦ 'A') with table entries `e0`, `e1`. -/
def hashOf (p : List Nat) (x0 x1 e0 e1 : Nat) : List Nat :=
  let out := body (desSetKey ((effKey8 p).map (· * 2))) e0 (shl e1 4)
  [x0, x1] ++ outChars (l2c out.1 ++ l2c out.2 ++ [0]) 11 (0, 0x80) ++ [0]

theorem con_salt_table : con_salt = (List.range 128).map Spec.saltValue := by decide +kernel

theorem con_salt_getElem? (c e : Nat) : con_salt[c]? = some e ↔ c < 128 ∧ Spec.saltValue c = e := by
  rw [List.getElem?_eq_some_iff]
  simp [con_salt_table]

/-- `cFcrypt` returns exactly when the salt has two bytes whose salt characters index `con_salt` (are 7-bit). -/
theorem cFcrypt_ok_iff (p s h : List Nat) :
    cFcrypt p s = .ok h ↔
      ∃ s0 s1, s[0]? = some s0 ∧ s[1]? = some s1 ∧ saltChar s0 < 128 ∧ saltChar s1 < 128 ∧
        h = hashOf p (saltChar s0) (saltChar s1) (Spec.saltValue (saltChar s0)) (Spec.saltValue (saltChar s1)) := by
  unfold cFcrypt
  dsimp only
  rw [mkKey_eq]
  simp only [bind_ok_iff, idx_ok_iff, con_salt_getElem?, pure, Except.pure, Except.ok.injEq]
  constructor
  · rintro ⟨s0, h0, _, ⟨l0, rfl⟩, s1, h1, _, ⟨l1, rfl⟩, rfl⟩
    exact ⟨s0, s1, h0, h1, l0, l1, rfl⟩
  · rintro ⟨s0, s1, h0, h1, l0, l1, rfl⟩
    exact ⟨s0, h0, _, ⟨l0, rfl⟩, s1, h1, _, ⟨l1, rfl⟩, rfl⟩

/-- `cFcrypt` never diverges: its only failures are the four lookups. -/
theorem cFcrypt_error_panic (p s : List Nat) (e : Fault) (h : cFcrypt p s = .error e) : e = .panic :=
  bind_panic idx_panic (fun _ => bind_panic idx_panic fun _ => bind_panic idx_panic fun _ =>
    bind_panic idx_panic fun _ _ h => by cases h) e h

theorem saltChar_ne_zero (s : Nat) : saltChar s ≠ 0 := by
  unfold saltChar; split <;> omega

theorem saltChar_idem (s : Nat) : saltChar (saltChar s) = saltChar s :=
  if_pos (saltChar_ne_zero s)

theorem saltChar_lt_iff (c : Nat) : saltChar c < 128 ↔ c < 128 := by
  unfold saltChar; split <;> omega

theorem saltChar_alphabet : ∀ c ∈ Spec.alphabet64, saltChar c = c ∧ saltChar c < 128 := by decide

/-- the salt enters only through its first two bytes, and the hash starts with them (NUL read as 'A'): any salt that
starts like the hash reproduces it. -/
theorem cFcrypt_ok_of_prefix {p s s' h : List Nat} (hh : cFcrypt p s = .ok h) (g0 : s'[0]? = h[0]?) (g1 : s'[1]? = h[1]?) :
    cFcrypt p s' = .ok h := by
  obtain ⟨s0, s1, _, _, l0, l1, rfl⟩ := (cFcrypt_ok_iff p s h).mp hh
  refine (cFcrypt_ok_iff p s' _).mpr ⟨saltChar s0, saltChar s1, g0, g1, ?_⟩
  rw [saltChar_idem, saltChar_idem]
  exact ⟨l0, l1, rfl⟩

theorem hashOf_shape (p : List Nat) (x0 x1 e0 e1 : Nat) :
    ∃ l, l.length = 11 ∧ (∀ c ∈ l, c ∈ cov_2char) ∧ hashOf p x0 x1 e0 e1 = x0 :: x1 :: (l ++ [0]) :=
  ⟨_, outChars_length _ 11 _, outChars_mem _ 11 _, rfl⟩

/-! ### CheckPasswd -/

theorem checkPasswd_of_fcrypt {e p h : List Nat} (hf : Fcrypt p e = .ok h) : CheckPasswd e p = .ok (h == e) := by
  unfold CheckPasswd
  rw [hf]
  rfl

theorem checkPasswd_panics {g : List Nat} {c0 c1 : Nat} (h0 : g[0]? = some c0) (h1 : g[1]? = some c1)
    (hi : 128 ≤ c0 ∨ 128 ≤ c1) (pw : List Nat) : CheckPasswd g pw = .error .panic := by
  unfold CheckPasswd Fcrypt
  cases hf : cFcrypt pw g with
  | error e => rw [cFcrypt_error_panic _ _ _ hf]; rfl
  | ok h =>
    obtain ⟨s0, s1, k0, k1, l0, l1, _⟩ := (cFcrypt_ok_iff pw g h).mp hf
    cases h0.symm.trans k0
    cases h1.symm.trans k1
    rw [saltChar_lt_iff] at l0 l1
    omega

/-! ### the regenerated tables against the FIPS-46 / crypt(3) definitions -/

theorem S_lt : ∀ row ∈ Spec.S, ∀ v ∈ row, v < 16 := by decide +kernel

theorem getD_lt {l : List Nat} {n : Nat} (h : ∀ v ∈ l, v < n) (hn : 0 < n) (i : Nat) : l.getD i 0 < n := by
  rw [List.getD_eq_getElem?_getD]
  cases hi : l[i]? with
  | none => exact hn
  | some v => exact h v (List.mem_of_getElem? hi)

theorem sbox_lt (b B : Nat) : Spec.sbox b B < 16 := by
  refine getD_lt (fun v hv => ?_) (by decide) _
  rw [List.getD_eq_getElem?_getD] at hv
  cases hb : Spec.S[b]? with
  | none => rw [hb] at hv; cases hv
  | some row => rw [hb] at hv; exact S_lt row (List.mem_of_getElem? hb) v hv

/-- what `spEntry` does after the S-box: the 4-bit value `v` at the place of S-box `b+1`, through P, into libdes bit
order, rotated. -/
def spNib (b v : Nat) : Nat := Spec.rotl1 (Spec.revBits 32 (Spec.permF Spec.P 32 (v * 2 ^ (4 * (7 - b)))))

/-- every row of `SPtrans` is the S-box followed by a lookup among the sixteen values of `spNib`: stated with the
sixteen as one shared list, so that the kernel computes 128 images under P, not one for each of the 512 entries. -/
theorem SPtrans_nib : SPtrans = (List.range 8).map fun b =>
    (fun t : List Nat => (List.range 64).map fun x => t.getD (Spec.sbox b (Spec.revBits 6 x)) 0)
      ((List.range 16).map (spNib b)) := by
  decide +kernel

open Spec in
theorem SPtrans_table : SPtrans = (List.range 8).map fun b => (List.range 64).map (spEntry b) := by
  rw [SPtrans_nib]
  refine List.map_congr_left fun b _ => List.map_congr_left fun x _ => ?_
  rw [List.getD_eq_getElem?_getD, List.getElem?_map, List.getElem?_range (sbox_lt ..), Option.map_some,
    Option.getD_some, spNib, spEntry]

theorem permF_append (a b : List Nat) (n x : Nat) :
    Spec.permF (a ++ b) n x = Spec.permF a n x * 2 ^ b.length + Spec.permF b n x ∧
      Spec.permF b n x < 2 ^ b.length := by
  unfold Spec.permF
  rw [List.foldl_append]
  generalize List.foldl _ 0 a = acc
  induction b generalizing acc with
  | nil => simp
  | cons j b ih =>
    simp only [List.foldl_cons, List.length_cons, Nat.pow_succ]
    have ht : (if Spec.fbit n x j then 1 else 0) ≤ 1 := by split <;> omega
    generalize (if Spec.fbit n x j then 1 else 0) = t at *
    have h1 := ih (2 * acc + t)
    rw [h1.1, (ih (2 * 0 + t)).1, Nat.add_mul, Nat.add_mul, Nat.mul_assoc, Nat.mul_comm _ 2, Nat.mul_left_comm acc 2]
    generalize 2 ^ b.length = P at *
    obtain rfl | rfl : t = 0 ∨ t = 1 := by omega
    · omega
    · omega

open Spec in
/-- each entry from the half of PC-2 that its C resp. D bits can reach: 24 selections per entry for the kernel to
evaluate where `skbEntry` has 48; `skb_table` puts the halves together by `permF_append`. -/
theorem skb_half : skb = (List.range 8).map fun b => (List.range 64).map fun x =>
    ksLayout (permF (if b < 4 then PC2.take 24 else PC2.drop 24) 56 (cdOf b x)) := by
  decide +kernel

open Spec in
theorem skb_table : skb = (List.range 8).map fun b => (List.range 64).map (skbEntry b) := by
  rw [skb_half]
  refine List.map_congr_left fun b _ => List.map_congr_left fun x _ => ?_
  obtain ⟨h, hlt⟩ := permF_append (PC2.take 24) (PC2.drop 24) 56 (cdOf b x)
  rw [List.take_append_drop] at h
  rw [show (PC2.drop 24).length = 24 from rfl] at h hlt
  unfold skbEntry
  dsimp only
  rw [h]
  congr 1
  split <;> omega

theorem tbl_map_range (g : Nat → Nat → Nat) (b x : Nat) (hb : b < 8) (hx : x < 64) :
    tbl ((List.range 8).map fun b => (List.range 64).map (g b)) b x = g b x := by
  simp [tbl, List.getD_eq_getElem?_getD, hb, hx]

/-! ### test vectors of the model -/

/-- crypt("A", "AA") = "AADp2/qSzuKtU". -/
def hashA : List Nat := [65, 65, 68, 112, 50, 47, 113, 83, 122, 117, 75, 116, 85, 0]

/-- crypt("B", "AA") = "AAUhWFBZB2.wY". -/
def hashB : List Nat := [65, 65, 85, 104, 87, 70, 66, 90, 66, 50, 46, 119, 89, 0]

/-- three runs of the model, stated together: evaluated one by one, each would repeat the part of the kernel's work
that does not depend on the vector.  The third (salt bytes 44, 1: not of the alphabet) is `GenPasswdWith 300 "AB"`, the
hash named in the example after `Props.check_gen`. -/
theorem fcrypt_vectors :
    Fcrypt [65] [65, 65] = .ok hashA ∧ Fcrypt [66] [65, 65] = .ok hashB ∧
      Fcrypt [65, 66] [44, 1] = .ok [44, 1, 107, 53, 103, 79, 105, 107, 47, 85, 114, 89, 54, 0] := by
  decide +kernel

/-- re-hashing under either hash is re-hashing under the salt "AA". -/
theorem checkPasswd_vectors :
    CheckPasswd hashA [65] = .ok true ∧ CheckPasswd hashA [66] = .ok false ∧ CheckPasswd hashB [65] = .ok false :=
  ⟨checkPasswd_of_fcrypt (cFcrypt_ok_of_prefix fcrypt_vectors.1 (s' := hashA) rfl rfl),
   checkPasswd_of_fcrypt (cFcrypt_ok_of_prefix fcrypt_vectors.2.1 (s' := hashA) rfl rfl),
   checkPasswd_of_fcrypt (cFcrypt_ok_of_prefix fcrypt_vectors.1 (s' := hashB) rfl rfl)⟩

end PttVerif.C02
