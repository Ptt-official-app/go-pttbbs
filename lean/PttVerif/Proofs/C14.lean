import PttVerif.Model.C14
/-
The inductive invariant `Inv` of the append protocol. It reads the threads' positions through three views only
(`holds`, `owns`, `wroteAt`), and every atomic step moves one thread and changes at most one of the kernel
lock, a lock table and the file; so it is kept part by part (the clause about the kernel lock, `TableOk`,
`FileOk`). Then the system with descriptor numbers and other lock users: under the discipline its appender part
only takes atomic steps of the plain system.
All of it is for `cl = true`: the lock functions take the table key out again when the kernel refuses the lock.
-/
namespace PttVerif.C14

/-- the thread owns its process's lock-table entry. -/
def owns : PC → Bool
  | .wantFlock | .haveLock | .seeked _ | .written _ | .unlocked _ | .lockFailed | .bodyFailed | .unlockedErr => true
  | _ => false

/-- the thread's open file description holds the flock. -/
def holds : PC → Bool
  | .haveLock | .seeked _ | .written _ | .bodyFailed => true
  | _ => false

/-- the record index the thread has written (and will return / has returned). -/
def wroteAt : PC → Option Nat
  | .written i | .unlocked i | .doneOk i => some i
  | _ => none

structure Inv (proc : Nat → Nat) (n0 : Nat) (s : Sys) : Prop where
  holder_iff : ∀ t, s.holder = some t ↔ holds (s.pc t) = true
  owns_table : ∀ t, owns (s.pc t) = true → s.table (proc t) = true
  owner_unique : ∀ t u, owns (s.pc t) = true → owns (s.pc u) = true → proc t = proc u → t = u
  table_owner : ∀ p, s.table p = true → ∃ t, proc t = p ∧ owns (s.pc t) = true
  seeked_len : ∀ t i, s.pc t = .seeked i → i = s.recs.length
  written_at : ∀ t i, wroteAt (s.pc t) = some i → s.recs[i]? = some (some t)
  writers : ∃ ws : List Nat, s.recs = List.replicate n0 none ++ ws.map some ∧ ws.Nodup ∧
      ∀ t, t ∈ ws ↔ (wroteAt (s.pc t)).isSome = true

theorem owns_of_holds : ∀ p : PC, holds p = true → owns p = true
  | .haveLock, _ | .seeked _, _ | .written _, _ | .bodyFailed, _ => rfl

@[simp] theorem setPc_same (s : Sys) (t : Nat) (p : PC) : setPc s t p t = p := if_pos rfl

theorem setPc_other {s : Sys} {t u : Nat} {p : PC} (h : u ≠ t) : setPc s t p u = s.pc u := if_neg h

theorem setTable_same (s : Sys) (q : Nat) (b : Bool) : setTable s q b q = b := if_pos rfl

theorem setTable_other {s : Sys} {q r : Nat} {b : Bool} (h : r ≠ q) : setTable s q b r = s.table r := if_neg h

theorem setPc_view {α : Type} (f : PC → α) {s : Sys} {t : Nat} {q p : PC} (hpc : s.pc t = q) (h : f p = f q)
    (u : Nat) : f (setPc s t p u) = f (s.pc u) := by
  by_cases hu : u = t
  · rw [hu, setPc_same, hpc, h]
  · rw [setPc_other hu]

theorem of_setPc_on (f : PC → Bool) {s : Sys} {t u : Nat} {p : PC} (hp : f p = false)
    (hu : f (setPc s t p u) = true) : u ≠ t ∧ f (s.pc u) = true := by
  have hut : u ≠ t := by
    intro e
    rw [e, setPc_same, hp] at hu
    cases hu
  rw [setPc_other hut] at hu
  exact ⟨hut, hu⟩

/-! ### the kernel lock: `holder` against `holds` -/

theorem holds_unique {s : Sys} (hl : ∀ t, s.holder = some t ↔ holds (s.pc t) = true) (t u : Nat)
    (ht : holds (s.pc t) = true) (hu : holds (s.pc u) = true) : t = u := by
  have a := (hl t).2 ht
  have b := (hl u).2 hu
  rw [a] at b
  exact Option.some.inj b

theorem holder_keep {s : Sys} (hl : ∀ u, s.holder = some u ↔ holds (s.pc u) = true) {t : Nat} {q p : PC}
    (hpc : s.pc t = q) (hp : holds p = holds q) : ∀ u, s.holder = some u ↔ holds (setPc s t p u) = true := by
  intro u
  rw [setPc_view holds hpc hp]
  exact hl u

theorem holder_take {s : Sys} (hl : ∀ u, s.holder = some u ↔ holds (s.pc u) = true) {t : Nat} {p : PC}
    (hfree : s.holder = none) (hp : holds p = true) : ∀ u, some t = some u ↔ holds (setPc s t p u) = true := by
  intro u
  by_cases hu : u = t
  · rw [hu, setPc_same]
    exact iff_of_true rfl hp
  · rw [setPc_other hu]
    refine iff_of_false (fun e => hu (Option.some.inj e).symm) ?_
    intro hh
    have := (hl u).2 hh
    rw [hfree] at this
    cases this

theorem holder_drop {s : Sys} (hl : ∀ u, s.holder = some u ↔ holds (s.pc u) = true) {t : Nat} {q p : PC}
    (hpc : s.pc t = q) (hq : holds q = true) (hp : holds p = false) :
    ∀ u, none = some u ↔ holds (setPc s t p u) = true := by
  intro u
  refine iff_of_false nofun ?_
  intro hh
  obtain ⟨hut, hu⟩ := of_setPc_on holds hp hh
  exact hut (holds_unique hl u t hu (by rw [hpc]; exact hq))

/-! ### the lock tables: `table` against `owns` -/

structure TableOk (proc : Nat → Nat) (pc : Nat → PC) (table : Nat → Bool) : Prop where
  owns_table : ∀ t, owns (pc t) = true → table (proc t) = true
  owner_unique : ∀ t u, owns (pc t) = true → owns (pc u) = true → proc t = proc u → t = u
  table_owner : ∀ p, table p = true → ∃ t, proc t = p ∧ owns (pc t) = true

theorem TableOk.keep {proc : Nat → Nat} {s : Sys} (h : TableOk proc s.pc s.table) {t : Nat} {q p : PC}
    (hpc : s.pc t = q) (hp : owns p = owns q) : TableOk proc (setPc s t p) s.table where
  owns_table u := by
    rw [setPc_view owns hpc hp]
    exact h.owns_table u
  owner_unique u v := by
    rw [setPc_view owns hpc hp, setPc_view owns hpc hp]
    exact h.owner_unique u v
  table_owner r hr := by
    obtain ⟨w, hw, ho⟩ := h.table_owner r hr
    exact ⟨w, hw, by rw [setPc_view owns hpc hp]; exact ho⟩

/-- the key of `t`'s process was absent, so `t` is its process's only owner. -/
theorem TableOk.insert {proc : Nat → Nat} {s : Sys} (h : TableOk proc s.pc s.table) {t : Nat} {p : PC}
    (hfree : s.table (proc t) = false) (hp : owns p = true) :
    TableOk proc (setPc s t p) (setTable s (proc t) true) := by
  have alone : ∀ w, owns (setPc s t p w) = true → proc w = proc t → w = t := by
    intro w hw hr
    by_cases hwt : w = t
    · exact hwt
    · rw [setPc_other hwt] at hw
      have := h.owns_table w hw
      rw [hr, hfree] at this
      cases this
  refine ⟨?_, ?_, ?_⟩
  · intro u hu
    by_cases hr : proc u = proc t
    · rw [hr]; exact setTable_same s _ _
    · rw [setTable_other hr]
      rw [setPc_other (fun e => hr (by rw [e]))] at hu
      exact h.owns_table u hu
  · intro u v hu hv huv
    by_cases hr : proc u = proc t
    · rw [alone u hu hr, alone v hv (huv ▸ hr)]
    · rw [setPc_other (fun e => hr (by rw [e]))] at hu
      rw [setPc_other (fun e => hr (by rw [huv, e]))] at hv
      exact h.owner_unique u v hu hv huv
  · intro r hr
    by_cases hrt : r = proc t
    · exact ⟨t, hrt.symm, by rw [setPc_same]; exact hp⟩
    · rw [setTable_other hrt] at hr
      obtain ⟨w, hw, ho⟩ := h.table_owner r hr
      exact ⟨w, hw, by rw [setPc_other (fun e => hrt (by rw [← hw, e]))]; exact ho⟩

/-- the other owners are of other processes, so their keys stay. -/
theorem TableOk.remove {proc : Nat → Nat} {s : Sys} (h : TableOk proc s.pc s.table) {t : Nat} {q p : PC}
    (hpc : s.pc t = q) (hq : owns q = true) (hp : owns p = false) :
    TableOk proc (setPc s t p) (setTable s (proc t) false) := by
  rw [← hpc] at hq
  refine ⟨?_, ?_, ?_⟩
  · intro u hu
    obtain ⟨hut, hu⟩ := of_setPc_on owns hp hu
    rw [setTable_other (fun e => hut (h.owner_unique u t hu hq e))]
    exact h.owns_table u hu
  · intro u v hu hv
    exact h.owner_unique u v (of_setPc_on owns hp hu).2 (of_setPc_on owns hp hv).2
  · intro r hr
    by_cases hrt : r = proc t
    · rw [hrt, setTable_same] at hr
      cases hr
    · rw [setTable_other hrt] at hr
      obtain ⟨w, hw, ho⟩ := h.table_owner r hr
      exact ⟨w, hw, by rw [setPc_other (fun e => hrt (by rw [← hw, e]))]; exact ho⟩

/-! ### the file: `recs` against `wroteAt` and the length read at `seeked` -/

structure FileOk (n0 : Nat) (pc : Nat → PC) (recs : List (Option Nat)) : Prop where
  seeked_len : ∀ t i, pc t = .seeked i → i = recs.length
  written_at : ∀ t i, wroteAt (pc t) = some i → recs[i]? = some (some t)
  writers : ∃ ws : List Nat, recs = List.replicate n0 none ++ ws.map some ∧ ws.Nodup ∧
      ∀ t, t ∈ ws ↔ (wroteAt (pc t)).isSome = true

theorem FileOk.keep {n0 : Nat} {s : Sys} (h : FileOk n0 s.pc s.recs) {t : Nat} {q p : PC}
    (hpc : s.pc t = q) (hw : wroteAt p = wroteAt q) (hs : ∀ i, p = .seeked i → i = s.recs.length) :
    FileOk n0 (setPc s t p) s.recs where
  seeked_len u i hu := by
    by_cases hut : u = t
    · rw [hut, setPc_same] at hu
      exact hs i hu
    · rw [setPc_other hut] at hu
      exact h.seeked_len u i hu
  written_at u i := by
    rw [setPc_view wroteAt hpc hw]
    exact h.written_at u i
  writers := by
    obtain ⟨ws, h1, h2, h3⟩ := h.writers
    exact ⟨ws, h1, h2, fun u => by rw [setPc_view wroteAt hpc hw]; exact h3 u⟩

theorem writeRec_at_end (recs : List (Option Nat)) (t : Nat) :
    writeRec recs recs.length t = recs ++ [some t] := by
  simp [writeRec]

/-- `t` alone has read a length, and it is the file's: the record is appended, the earlier ones keep their places. -/
theorem FileOk.write {n0 : Nat} {s : Sys} (h : FileOk n0 s.pc s.recs) {t i : Nat} (hpc : s.pc t = .seeked i)
    (alone : ∀ u j, s.pc u = .seeked j → u = t) :
    FileOk n0 (setPc s t (.written i)) (writeRec s.recs i t) := by
  have hi := h.seeked_len t i hpc
  subst hi
  rw [writeRec_at_end]
  refine ⟨?_, ?_, ?_⟩
  · intro u j hu
    by_cases hut : u = t
    · rw [hut, setPc_same] at hu
      cases hu
    · rw [setPc_other hut] at hu
      exact absurd (alone u j hu) hut
  · intro u j hu
    by_cases hut : u = t
    · rw [hut, setPc_same] at hu
      cases hu
      rw [hut]
      exact List.getElem?_concat_length
    · rw [setPc_other hut] at hu
      have old := h.written_at u j hu
      rw [List.getElem?_append_left (List.getElem?_eq_some_iff.1 old).1]
      exact old
  · obtain ⟨ws, h1, h2, h3⟩ := h.writers
    have htn : t ∉ ws := by
      intro hm
      have := (h3 t).1 hm
      rw [hpc] at this
      cases this
    refine ⟨ws ++ [t], ?_, ?_, ?_⟩
    · rw [h1, List.map_append, List.append_assoc]
      rfl
    · refine List.nodup_append.2 ⟨h2, List.pairwise_singleton _ t, ?_⟩
      -- no earlier writer is `t`
      intro a ha b hb e
      rw [List.mem_singleton.1 hb] at e
      rw [e] at ha
      exact htn ha
    · intro u
      rw [List.mem_append, List.mem_singleton]
      by_cases hut : u = t
      · rw [hut, setPc_same]
        exact iff_of_true (Or.inr rfl) rfl
      · rw [setPc_other hut, ← h3 u]
        exact ⟨fun h => h.resolve_right hut, Or.inl⟩

/-! ### the invariant is inductive -/

theorem Inv.table {proc : Nat → Nat} {n0 : Nat} {s : Sys} (inv : Inv proc n0 s) : TableOk proc s.pc s.table :=
  ⟨inv.owns_table, inv.owner_unique, inv.table_owner⟩

theorem Inv.file {proc : Nat → Nat} {n0 : Nat} {s : Sys} (inv : Inv proc n0 s) : FileOk n0 s.pc s.recs :=
  ⟨inv.seeked_len, inv.written_at, inv.writers⟩

/-- stated of a system given by its four components: that is the form the results of `step` have, and the
parts then need no projection to be unfolded. -/
theorem Inv.of_parts {proc : Nat → Nat} {n0 : Nat} {pc : Nat → PC} {table : Nat → Bool} {holder : Option Nat}
    {recs : List (Option Nat)} (hl : ∀ t, holder = some t ↔ holds (pc t) = true)
    (ht : TableOk proc pc table) (hf : FileOk n0 pc recs) : Inv proc n0 ⟨pc, table, holder, recs⟩ :=
  ⟨hl, ht.owns_table, ht.owner_unique, ht.table_owner, hf.seeked_len, hf.written_at, hf.writers⟩

theorem inv_init (proc : Nat → Nat) (n0 : Nat) : Inv proc n0 (init n0) where
  holder_iff := fun _ => iff_of_false nofun nofun
  owns_table := nofun
  owner_unique := nofun
  table_owner := nofun
  seeked_len := nofun
  written_at := nofun
  writers := ⟨[], (List.append_nil _).symm, List.nodup_nil, fun _ => iff_of_false nofun nofun⟩

/-- every atomic step preserves the invariant. -/
theorem inv_step (proc : Nat → Nat) (n0 : Nat) (s s' : Sys) (t : Nat)
    (inv : Inv proc n0 s) (h : step proc true s t = some s') : Inv proc n0 s' := by
  have hl := inv.holder_iff
  revert h
  -- the goals come in the order of the branches of `step`, counted from 1
  fun_cases step proc true s t
  case case1 hpc _ =>
    -- lockFD fails: the call returns ErrPttLock
    rintro ⟨⟩
    exact .of_parts (holder_keep hl hpc rfl) (inv.table.keep hpc rfl) (inv.file.keep hpc rfl nofun)
  case case2 hpc hfree =>
    -- lockFD succeeds: the key is inserted
    rintro ⟨⟩
    exact .of_parts (holder_keep hl hpc rfl) (inv.table.insert (Bool.eq_false_iff.2 hfree) rfl)
      (inv.file.keep hpc rfl nofun)
  case case3 hpc hfree =>
    -- flock, the lock being free
    rintro ⟨⟩
    exact .of_parts (holder_take hl hfree rfl) (inv.table.keep hpc rfl) (inv.file.keep hpc rfl nofun)
  case case4 => nofun
  case case5 hpc =>
    -- seekEnd reads the length
    rintro ⟨⟩
    exact .of_parts (holder_keep hl hpc rfl) (inv.table.keep hpc rfl)
      (inv.file.keep hpc rfl (fun _ e => (PC.seeked.inj e).symm))
  case case6 i hpc =>
    -- the write: whoever is at `seeked` holds the flock, so it is `t` alone
    rintro ⟨⟩
    exact .of_parts (holder_keep hl hpc rfl) (inv.table.keep hpc rfl)
      (inv.file.write hpc (fun u j hu => holds_unique hl u t (by rw [hu]; rfl) (by rw [hpc]; rfl)))
  case case7 i hpc =>
    -- funlock
    rintro ⟨⟩
    exact .of_parts (holder_drop hl hpc rfl rfl) (inv.table.keep hpc rfl) (inv.file.keep hpc rfl nofun)
  case case8 i hpc =>
    -- unlockFD, the call returns its index
    rintro ⟨⟩
    exact .of_parts (holder_keep hl hpc rfl) (inv.table.remove hpc rfl rfl) (inv.file.keep hpc rfl nofun)
  case case9 hpc _ =>
    -- the lock function removes the key again and returns the kernel's error
    rintro ⟨⟩
    exact .of_parts (holder_keep hl hpc rfl) (inv.table.remove hpc rfl rfl) (inv.file.keep hpc rfl nofun)
  case case10 _ hcl =>
    -- the branch without clean-up is not taken: `cl = true`
    exact absurd rfl hcl
  case case11 hpc =>
    -- the deferred GoFunlock releases the flock
    rintro ⟨⟩
    exact .of_parts (holder_drop hl hpc rfl rfl) (inv.table.keep hpc rfl) (inv.file.keep hpc rfl nofun)
  case case12 hpc =>
    -- unlockFD, then the call returns the error of the seek / write
    rintro ⟨⟩
    exact .of_parts (holder_keep hl hpc rfl) (inv.table.remove hpc rfl rfl) (inv.file.keep hpc rfl nofun)
  case case13 => nofun
  case case14 => nofun
  case case15 => nofun

/-- a failing system call preserves the invariant: the thread keeps what it owns and holds, and has
written nothing. -/
theorem inv_fail (proc : Nat → Nat) (n0 : Nat) (s s' : Sys) (t : Nat)
    (inv : Inv proc n0 s) (h : failStep s t = some s') : Inv proc n0 s' := by
  have hl := inv.holder_iff
  revert h
  fun_cases failStep s t
  case case4 => nofun
  all_goals
    rename_i hpc
    rintro ⟨⟩
    exact .of_parts (holder_keep hl hpc rfl) (inv.table.keep hpc rfl) (inv.file.keep hpc rfl nofun)

theorem reachable_inv (proc : Nat → Nat) (n0 : Nat) (s : Sys) (h : Reachable proc true n0 s) : Inv proc n0 s := by
  induction h with
  | init => exact inv_init proc n0
  | step t _ hs ih => exact inv_step proc n0 _ _ t ih hs
  | fail t _ hs ih => exact inv_fail proc n0 _ _ t ih hs

/-! ### single steps, reports, end states of concrete histories -/

/-- every position but the three returned ones has a step, except `wantFlock` while the flock is held. -/
theorem step_enabled (proc : Nat → Nat) (cl : Bool) (s : Sys) (t : Nat)
    (ht : ∀ i, s.pc t ≠ .doneOk i) (ht' : s.pc t ≠ .doneErr) (ht'' : s.pc t ≠ .doneFail) :
    (∃ s', step proc cl s t = some s') ∨ (s.pc t = .wantFlock ∧ ∃ u, s.holder = some u) := by
  fun_cases step proc cl s t
  case case4 hpc u hu => exact .inr ⟨hpc, u, hu⟩
  case case13 i hpc => exact absurd hpc (ht i)
  case case14 hpc => exact absurd hpc ht'
  case case15 hpc => exact absurd hpc ht''
  all_goals exact .inl ⟨_, rfl⟩

theorem reportSlot_appended (s : Sys) (t i : Nat) : reportSlot .appended s t = some i ↔ s.pc t = .doneOk i := by
  unfold reportSlot
  split
  next j hpc =>
    rw [hpc]
    exact ⟨fun h => by rw [Option.some.inj h], fun h => by rw [PC.doneOk.inj h]⟩
  next hne => exact ⟨nofun, fun h => absurd h (hne i)⟩

/-- names the end state of a concrete history: the run is checked to end, by evaluation, and its end state is
then `getD` of it. -/
theorem eq_some_getD {α : Type} {o : Option α} (d : α) (h : o.isSome = true) : o = some (o.getD d) := by
  cases o with
  | none => cases h
  | some a => rfl

/-! ### descriptor numbers, other lock users, fallback writers -/

/-- in the disciplined system flock(LOCK_UN) of an appender is always on a description that holds the lock. -/
theorem funlockStep_eq {proc : Nat → Nat} {n0 : Nat} {s : Sys} (inv : Inv proc n0 s) (t : Nat) :
    funlockStep proc true s t = step proc true s t := by
  unfold funlockStep
  split
  next i hpc => exact if_pos ((inv.holder_iff t).2 (by rw [hpc]; rfl))
  next hpc => exact if_pos ((inv.holder_iff t).2 (by rw [hpc]; rfl))
  next => rfl

/-- what the discipline gives: every number an open file was given still names that file's description;
no lock user is left with an unlock pending on a closed file; no fallback write has started. -/
structure XInv (proc procU : Nat → Nat) (x : XSys) : Prop where
  app_names : ∀ t n, x.appFd t = some n → x.names (proc t) n = some (.app t)
  usr_names : ∀ u n, (x.upc u = .opened n ∨ x.upc u = .unlocked n) → x.names (procU u) n = some (.usr u)
  no_closed : ∀ u n, x.upc u ≠ .closed n
  byp_idle : ∀ t, x.byp t = .idle

/-- as `Inv.of_parts`: the form the results of `xstep` have. -/
theorem XInv.of_parts {proc procU : Nat → Nat} {sys : Sys} {byp : Nat → BPC} {names : Nat → Nat → Option Owner}
    {appFd : Nat → Option Nat} {upc : Nat → UPC}
    (h1 : ∀ t n, appFd t = some n → names (proc t) n = some (.app t))
    (h2 : ∀ u n, (upc u = .opened n ∨ upc u = .unlocked n) → names (procU u) n = some (.usr u))
    (h3 : ∀ u n, upc u ≠ .closed n) (h4 : ∀ t, byp t = .idle) :
    XInv proc procU ⟨sys, byp, names, appFd, upc⟩ :=
  ⟨h1, h2, h3, h4⟩

theorem xinv_init (proc procU : Nat → Nat) (n0 : Nat) : XInv proc procU (xinit n0) where
  app_names := nofun
  usr_names := fun _ _ h => h.elim nofun nofun
  no_closed := nofun
  byp_idle := fun _ => rfl

theorem setName_same (x : XSys) (p n : Nat) (o : Option Owner) : setName x p n o p n = o :=
  if_pos ⟨rfl, rfl⟩

/-- the number that changes names something else (nothing, or another file) before the change, so it is not one
that names `w`. -/
theorem setName_keep {x : XSys} {p n q m : Nat} {o : Option Owner} {w : Owner} (h : x.names q m = some w)
    (hne : x.names p n ≠ some w) : setName x p n o q m = some w :=
  (if_neg (fun e => hne (by rw [← e.1, ← e.2]; exact h))).trans h

theorem unlockNum_usr {x : XSys} {p n u : Nat} (h : x.names p n = some (.usr u)) : unlockNum x p n = x := by
  unfold unlockNum
  rw [h]

theorem upc_update_ne_closed {x : XSys} (h : ∀ v m, x.upc v ≠ .closed m) (u : Nat) {c : UPC}
    (hc : ∀ m, c ≠ .closed m) : ∀ v m, (if v = u then c else x.upc v) ≠ .closed m := by
  intro v m
  by_cases hvu : v = u
  · rw [if_pos hvu]
    exact hc m
  · rw [if_neg hvu]
    exact h v m

/-- a disciplined step keeps `XInv`, and changes the appenders' system only by one of their own
atomic steps (or not at all). -/
theorem xstep_disciplined (proc procU : Nat → Nat) (n0 : Nat) (x x' : XSys) (a : XAct)
    (xi : XInv proc procU x) (r : Reachable proc true n0 x.sys)
    (h : xstep proc procU true disciplined x a = some x') :
    XInv proc procU x' ∧ Reachable proc true n0 x'.sys := by
  revert h
  -- branches of `xstep`, counted from 1; those not named below are refusals
  fun_cases xstep proc procU true disciplined x a
  case case1 t _ =>
    rw [funlockStep_eq (reachable_inv proc n0 _ r) t]
    intro h
    obtain ⟨s', hs, rfl⟩ := Option.map_eq_some_iff.1 h
    exact ⟨.of_parts xi.app_names xi.usr_names xi.no_closed xi.byp_idle, .step t r hs⟩
  case case3 t _ =>
    intro h
    obtain ⟨s', hs, rfl⟩ := Option.map_eq_some_iff.1 h
    exact ⟨.of_parts xi.app_names xi.usr_names xi.no_closed xi.byp_idle, .fail t r hs⟩
  case case5 t n g =>
    -- OpenFile: the number was free
    rintro ⟨⟩
    refine ⟨.of_parts ?_ ?_ xi.no_closed xi.byp_idle, r⟩
    · intro u m hu
      by_cases hut : u = t
      · rw [if_pos hut] at hu
        cases hu
        rw [hut]
        exact setName_same x _ _ _
      · rw [if_neg hut] at hu
        exact setName_keep (xi.app_names u m hu) (by rw [g.2.2]; nofun)
    · intro u m hu
      exact setName_keep (xi.usr_names u m hu) (by rw [g.2.2]; nofun)
  case case7 t n hfd _ =>
    -- Close of the appender's file: its number named that file
    rintro ⟨⟩
    have mine := xi.app_names t n hfd
    refine ⟨.of_parts ?_ ?_ xi.no_closed xi.byp_idle, r⟩
    · intro u m hu
      by_cases hut : u = t
      · rw [if_pos hut] at hu
        cases hu
      · rw [if_neg hut] at hu
        refine setName_keep (xi.app_names u m hu) ?_
        rw [mine]
        exact fun e => hut (Owner.app.inj (Option.some.inj e)).symm
    · intro u m hu
      exact setName_keep (xi.usr_names u m hu) (by rw [mine]; nofun)
  -- no fallback write starts, so none goes on
  case case10 t g => exact absurd g.1 Bool.false_ne_true
  case case12 t k hb =>
    rw [xi.byp_idle t] at hb
    cases hb
  case case14 u n g =>
    -- a lock user opens its file: the number was free
    rintro ⟨⟩
    refine ⟨.of_parts ?_ ?_ (upc_update_ne_closed xi.no_closed u nofun) xi.byp_idle, r⟩
    · intro t m ht
      exact setName_keep (xi.app_names t m ht) (by rw [g.2]; nofun)
    · intro v m hv
      by_cases hvu : v = u
      · rw [if_pos hvu] at hv
        have hm : n = m := hv.elim UPC.opened.inj nofun
        rw [hvu, ← hm]
        exact setName_same x _ _ _
      · rw [if_neg hvu] at hv
        exact setName_keep (xi.usr_names v m hv) (by rw [g.2]; nofun)
  case case17 u n hpc _ =>
    -- the user's unlock, its file still open: the number names that file, no appender's
    have mine := xi.usr_names u n (Or.inl hpc)
    rw [unlockNum_usr mine]
    rintro ⟨⟩
    refine ⟨.of_parts xi.app_names ?_ (upc_update_ne_closed xi.no_closed u nofun) xi.byp_idle, r⟩
    intro v m hv
    by_cases hvu : v = u
    · rw [if_pos hvu] at hv
      have hm : n = m := hv.elim nofun UPC.unlocked.inj
      rw [hvu, ← hm]
      exact mine
    · rw [if_neg hvu] at hv
      exact xi.usr_names v m hv
  case case18 u n hpc => exact absurd hpc (xi.no_closed u n)
  case case20 _ _ _ hd => exact absurd hd Bool.false_ne_true
  case case22 u n hpc =>
    -- the user's Close, after its unlock: its number named that file
    rintro ⟨⟩
    have mine := xi.usr_names u n (Or.inr hpc)
    refine ⟨.of_parts ?_ ?_ (upc_update_ne_closed xi.no_closed u nofun) xi.byp_idle, r⟩
    · intro t m ht
      exact setName_keep (xi.app_names t m ht) (by rw [mine]; nofun)
    · intro v m hv
      by_cases hvu : v = u
      · rw [if_pos hvu] at hv
        exact hv.elim nofun nofun
      · rw [if_neg hvu] at hv
        refine setName_keep (xi.usr_names v m hv) ?_
        rw [mine]
        exact fun e => hvu (Owner.usr.inj (Option.some.inj e)).symm
  all_goals nofun

theorem xreachable_disciplined (proc procU : Nat → Nat) (n0 : Nat) (x : XSys)
    (h : XReachable proc procU true disciplined n0 x) : XInv proc procU x ∧ Reachable proc true n0 x.sys := by
  induction h with
  | init => exact ⟨xinv_init proc procU n0, .init⟩
  | step a _ hs ih => exact xstep_disciplined proc procU n0 _ _ a ih.1 ih.2 hs

end PttVerif.C14
