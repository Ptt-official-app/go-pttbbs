import PttVerif.Proofs.C02Lin
/-
C02 — the data path, its linear stages as circuits, each against its textbook counterpart: the bit-swap network at
the end of `body` (FP), the index extraction of `dEncrypt` (blocks of the round key and of the expansion E), the
recombination of the S-box outputs (P), the salt swap network (`Spec.saltE`).
Halves are held as the implementation holds them: bit-reversed and rotated left by one (`rho`).
-/
namespace PttVerif.C02.Lin
open PttVerif PttVerif.C02 PttVerif.Gen.CryptTables

/-- libdes representation of a FIPS 32-bit half: FIPS bit j at word bit j-1, then rotated left by one. -/
def rhoE (x : LE) : LE := LE.or (LE.shl (LE.rev 32 x) 1) (LE.shr (LE.rev 32 x) 31)
def rho (x : Nat) : Nat := eval x (rhoE LE.inp)
theorem eval_rhoE (X : Nat) (x : LE) : eval X (rhoE x) = rho (eval X x) := rfl
theorem rho_eq_rotl1 (y : Nat) : rho y = Spec.rotl1 (Spec.revBits 32 y) := rfl

/-- `rho` moves bits, so it distributes over or (no disjointness needed). -/
theorem rho_or (a b : Nat) : rho (a ||| b) = rho a ||| rho b := by
  rw [rho_eq_rotl1, rho_eq_rotl1, rho_eq_rotl1, revBits_or]
  generalize Spec.revBits 32 a = u
  generalize Spec.revBits 32 b = v
  unfold Spec.rotl1
  rw [Nat.shiftLeft_or_distrib, Nat.shiftRight_or_distrib, show (4294967296 : Nat) = 2 ^ 32 from rfl, Nat.or_mod_two_pow]
  ac_rfl

theorem rho_lt (x : Nat) : rho x < 2 ^ 32 :=
  Nat.or_lt_two_pow (Nat.mod_lt _ (by decide)) (Nat.lt_of_le_of_lt (Nat.shiftRight_le _ _) (revBits_lt 32 x))

theorem rho_xor (x y : Nat) (hx : x < 2 ^ 32) (hy : y < 2 ^ 32) : rho (x ^^^ y) = rho x ^^^ rho y :=
  le_lin 32 (rhoE LE.inp) (by decide +kernel) x y hx hy

theorem rho_zero : rho 0 = 0 := by decide +kernel

/-! ### the final permutation -/

/-- `finalPerm` as a circuit. -/
def finalPermE (l r : LE) : LE × LE :=
  let t := r
  let r := LE.or (LE.shr l 1) (LE.shl l 31)
  let l := LE.or (LE.shr t 1) (LE.shl t 31)
  let l := LE.and l 0xffffffff
  let r := LE.and r 0xffffffff
  let (r, l) := PermOpE r l 1 0x55555555
  let (l, r) := PermOpE l r 8 0x00ff00ff
  let (r, l) := PermOpE r l 2 0x33333333
  let (l, r) := PermOpE l r 16 0x0000ffff
  let (r, l) := PermOpE r l 4 0x0f0f0f0f
  (l, r)

/-- the four bytes `l2c` stores, read back as a big-endian number (first stored byte most significant). -/
def bswapE (w : LE) : LE :=
  LE.or (LE.or (LE.or (LE.shlN (LE.and w 0xff) 24) (LE.shlN (LE.and (LE.shr w 8) 0xff) 16))
    (LE.shlN (LE.and (LE.shr w 16) 0xff) 8)) (LE.and (LE.shr w 24) 0xff)
def bswap (w : Nat) : Nat := eval w (bswapE LE.inp)

/-- the 64 output bits, first output byte most significant. -/
def outVal (o : Nat × Nat) : Nat := (bswap o.1 <<< 32) ||| bswap o.2

def outValE (l r : LE) : LE := LE.or (LE.shlN (bswapE l) 32) (bswapE r)

/-- the two halves of a packed 64-bit block `A‖B`. -/
def hiE : LE := LE.shr LE.inp 32
def loE : LE := LE.and LE.inp 0xffffffff

theorem eval_hiE (A : Nat) {B : Nat} (hB : B < 2 ^ 32) : eval (A * 4294967296 + B) hiE = A := pack_hi 32 A hB
theorem eval_loE (A : Nat) {B : Nat} (hB : B < 2 ^ 32) : eval (A * 4294967296 + B) loE = B := pack_lo 32 A hB

def finalM : LE × LE := finalPermE (rhoE hiE) (rhoE loE)

theorem finalPerm_eval (A : Nat) {B : Nat} (hB : B < 2 ^ 32) :
    finalPerm (rho A, rho B) = (eval (A * 4294967296 + B) finalM.1, eval (A * 4294967296 + B) finalM.2) := by
  have h : finalPerm (eval (A * 4294967296 + B) (rhoE hiE), eval (A * 4294967296 + B) (rhoE loE)) =
      (eval (A * 4294967296 + B) finalM.1, eval (A * 4294967296 + B) finalM.2) := rfl
  rw [eval_rhoE, eval_rhoE, eval_hiE A hB, eval_loE A hB] at h
  exact h

/-- the tail of `body` is the textbook final permutation FP: for the pre-output halves `A‖B` held in the
implementation's representation, the eight output bytes read big-endian are `FP(A‖B)`. -/
theorem finalPerm_eq_FP (A B : Nat) (hA : A < 2 ^ 32) (hB : B < 2 ^ 32) :
    outVal (finalPerm (rho A, rho B)) = Spec.permF Spec.FP 64 (A * 4294967296 + B) := by
  rw [finalPerm_eval A hB]
  exact le_ext 64 (outValE finalM.1 finalM.2) (LE.perm Spec.FP 64 LE.inp) (by decide +kernel) (by decide +kernel) (by decide +kernel) _
    (pack_lt hA hB)

theorem finalPerm_lt (A B : Nat) (hA : A < 2 ^ 32) (hB : B < 2 ^ 32) :
    (finalPerm (rho A, rho B)).1 < 2 ^ 32 ∧ (finalPerm (rho A, rho B)).2 < 2 ^ 32 := by
  rw [finalPerm_eval A hB]
  exact ⟨Nat.lt_of_le_of_lt (le_bound 64 finalM.1 (by decide +kernel) _ (pack_lt hA hB)) (by decide +kernel),
    Nat.lt_of_le_of_lt (le_bound 64 finalM.2 (by decide +kernel) _ (pack_lt hA hB)) (by decide +kernel)⟩

/-- output bit `j` of IP takes FP's output bit `k`, which FP takes from input bit `j`. -/
theorem ip_fp_tables : ∀ j : Fin 64, 64 - Spec.IP.getD (63 - j.val) 0 < 64 ∧
    64 - Spec.FP.getD (63 - (64 - Spec.IP.getD (63 - j.val) 0)) 0 = j.val := by decide +kernel

/-- IP and FP are inverse permutations: between two of the 25 encryptions nothing happens to the block. -/
theorem ip_fp_cancel (x : Nat) (hx : x < 2 ^ 64) : Spec.permF Spec.IP 64 (Spec.permF Spec.FP 64 x) = x := by
  apply Nat.eq_of_testBit_eq
  intro j
  rw [permF_testBit]
  by_cases hj : j < 64
  · obtain ⟨h1, h2⟩ := ip_fp_tables ⟨j, hj⟩
    rw [permF_testBit]
    simp only [show Spec.IP.length = 64 from rfl, show Spec.FP.length = 64 from rfl, Nat.reduceSub] at *
    rw [h2, decide_eq_true hj, decide_eq_true h1, Bool.true_and, Bool.true_and]
  · rw [Nat.testBit_lt_two_pow (Nat.lt_of_lt_of_le hx (Nat.pow_le_pow_right (by decide) (by omega)))]
    simp [show Spec.IP.length = 64 from rfl, hj]

/-- IP of the zero block is the zero block: `body` starts its first pass from `(0, 0)` without permuting. -/
theorem ip_zero : Spec.permF Spec.IP 64 0 = 0 := by decide +kernel

/-! ### how `dEncrypt` consumes the schedule words and the data word

The index `dEncrypt` feeds to `SPtrans[b]` is the xor of a key part (`keyIdx`), a data part (`dataIdx`) and a salt part
(`fsRE`, in the last section); that it is their xor is `mIdx_split` in C02RoundFn. -/

/-- `(t >> 4) | (t << 28)` of `dEncrypt`. -/
def rotr4E (w : LE) : LE := LE.or (LE.shr w 4) (LE.shl w 28)
def rotr4 (w : Nat) : Nat := eval w (rotr4E LE.inp)

theorem rotr4_xor (x y : Nat) (hx : x < 2 ^ 32) (hy : y < 2 ^ 32) : rotr4 (x ^^^ y) = rotr4 x ^^^ rotr4 y :=
  le_lin 32 (rotr4E LE.inp) (by decide +kernel) x y hx hy

theorem rotr4_eq_xor (x : Nat) (hx : x < 2 ^ 32) : rotr4 x = shr x 4 ^^^ shl x 28 :=
  le_ext 32 (rotr4E LE.inp) (LE.xor (LE.shr LE.inp 4) (LE.shl LE.inp 28)) (by decide +kernel) (by decide +kernel)
    (by decide +kernel) x hx

/-- the S-box index `dEncrypt` extracts for box `b` (0-based) from the key-only part of `u` (even boxes, word `kw0`)
resp. of the rotated `t` (odd boxes, word `kw1`). -/
def keyIdxE (b : Nat) : LE :=
  if b % 2 = 0 then LE.and (LE.shr (kw0E LE.inp) (8 * (b / 2))) 0x3f
  else LE.and (LE.shr (rotr4E (kw1E LE.inp)) (8 * (b / 2))) 0x3f

def keyIdx (K b : Nat) : Nat := eval K (keyIdxE b)

/-- the six key bits that reach S-box `b+1` in `dEncrypt` are block `B_{b+1}` of the round key (bits 6b+1 … 6b+6),
first bit least significant — for every 48-bit round key. -/
theorem keyIdx_eq_block (K b : Nat) (hK : K < 2 ^ 48) (hb : b < 8) :
    keyIdx K b = Spec.revBits 6 ((K >>> (6 * (7 - b))) &&& 63) :=
  le_ext_range 48 8 keyIdxE (chunkE LE.inp) (by decide +kernel) b hb K hK

/-- the S-box index `dEncrypt` extracts for box `b` from the data word alone (no key, no salt): from `R` itself for
even boxes, from `R` rotated right by 4 for odd boxes, `R` being held as `rho` of the FIPS half. -/
def dataIdxE (b : Nat) : LE :=
  if b % 2 = 0 then LE.and (LE.shr (rhoE LE.inp) (8 * (b / 2))) 0x3f
  else LE.and (LE.shr (rotr4E (rhoE LE.inp)) (8 * (b / 2))) 0x3f

def dataIdx (R b : Nat) : Nat := eval R (dataIdxE b)

/-- the six data bits that reach S-box `b+1` are block `b+1` of the textbook expansion `E(R)` — the rotation by one
and by four of the implementation is exactly the E bit-selection table, for every 32-bit half. -/
theorem dataIdx_eq_Eblock (R b : Nat) (hR : R < 2 ^ 32) (hb : b < 8) :
    dataIdx R b = Spec.revBits 6 ((Spec.permF Spec.E 32 R >>> (6 * (7 - b))) &&& 63) :=
  le_ext_range 32 8 dataIdxE (chunkE (LE.perm Spec.E 32 LE.inp)) (by decide +kernel) b hb R hR

/-! ### the S-box outputs recombine -/

/-- nibble `b` (S-box `b+1` output position, FIPS bits 4b+1…4b+4) of a 32-bit value, in place. -/
def nibE (b : Nat) : LE := LE.shlN (LE.and (LE.shr LE.inp (4 * (7 - b))) 15) (4 * (7 - b))

def spOfE (b : Nat) : LE := rhoE (LE.perm Spec.P 32 (nibE b))

/-- the or in the order `dEncrypt` writes it. -/
def recombE : LE :=
  LE.or (LE.or (LE.or (LE.or (LE.or (LE.or (LE.or (spOfE 1) (spOfE 3)) (spOfE 5)) (spOfE 7)) (spOfE 0)) (spOfE 2))
    (spOfE 4)) (spOfE 6)

/-- the eight nibbles in the same order: their or is the value itself. -/
def nibsE : LE :=
  LE.or (LE.or (LE.or (LE.or (LE.or (LE.or (LE.or (nibE 1) (nibE 3)) (nibE 5)) (nibE 7)) (nibE 0)) (nibE 2))
    (nibE 4)) (nibE 6)

/-- P and `rho` only move bits: the or of the images of the nibbles is the image of their or. -/
theorem recomb (y : Nat) (hy : y < 2 ^ 32) : eval y recombE = rho (Spec.permF Spec.P 32 y) := by
  have hn : eval y nibsE = y :=
    le_ext 32 nibsE LE.inp (by decide +kernel) (by decide +kernel) (by decide +kernel) y hy
  simp only [recombE, spOfE, eval, eval_rhoE]
  simp only [← rho_or, ← permF_or]
  exact congrArg (fun z => rho (Spec.permF Spec.P 32 z)) hn

/-! ### the salt: the `E0`/`E1` swap network of `dEncrypt` against `Spec.saltE`

Both sides are bilinear in (data, salt): linear in the data for a fixed (symbolic) salt — the checker never inspects
an and-mask — and, at a fixed unit data vector, linear in the 12 salt bits. -/

/-- `t = R ^ (R >> 16)` of `dEncrypt`, over the FIPS half. -/
def ttE : LE := LE.xor (rhoE LE.inp) (LE.shr (rhoE LE.inp) 16)

/-- `e ^ (e >> 24)` of `Spec.saltE`. -/
def ecE : LE := LE.xor (LE.perm Spec.E 32 LE.inp) (LE.shr (LE.perm Spec.E 32 LE.inp) 24)

/-- the salt-dependent part of the S-box index `b` in `dEncrypt`: `(u ^ (u << 16))` resp. its rotation by 4
(written with xor: the two halves of a rotation are disjoint), with `u = t & E0` resp. `t & E1`. -/
def fsCore (b : Nat) (q : LE) : LE :=
  let sw := LE.xor q (LE.shl q 16)
  if b % 2 = 0 then LE.and (LE.shr sw (8 * (b / 2))) 0x3f
  else LE.and (LE.shr (LE.xor (LE.shr sw 4) (LE.shl sw 28)) (8 * (b / 2))) 0x3f

/-- over the data, the salt masks as constants. -/
def fsRE (b E0 E1 : Nat) : LE := fsCore b (LE.and ttE (if b % 2 = 0 then E0 else E1))

/-- over the packed salt `σ = v0 + 64·v1`, the data-dependent word `T` as a constant. -/
def fsSE (b T : Nat) : LE :=
  fsCore b (LE.and (if b % 2 = 0 then LE.and LE.inp 63 else LE.shl (LE.shr LE.inp 6) 4) T)

/-- the salt-dependent part of block `b` of `Spec.saltE`: `d ^ (d << 24)`, `d = (e ^ (e >> 24)) & mask`. -/
def gsCore (b : Nat) (d : LE) : LE := chunkE (LE.xor d (LE.shlN d 24)) b

def gsRE (b m : Nat) : LE := gsCore b (LE.and ecE m)

/-- `Spec.saltMaskOf (σ &&& 63) (σ >>> 6)` as a circuit over the packed salt `σ`. -/
def maskSE : LE := LE.or (LE.shlN (LE.rev 6 (LE.and LE.inp 63)) 18) (LE.shlN (LE.rev 6 (LE.shr LE.inp 6)) 12)

def gsSE (b c : Nat) : LE := gsCore b (LE.and maskSE c)

/-- the whole table: for every box and every unit data vector both circuits over the salt are checked and agree on
the 12 unit salts. -/
theorem salt_table : (List.range 8).all (fun b => (List.range 32).all (fun i =>
    ok (2 ^ 12 - 1) (fsSE b (eval (2 ^ i) ttE)) && ok (2 ^ 12 - 1) (gsSE b (eval (2 ^ i) ecE)) &&
    (List.range 12).all (fun j => eval (2 ^ j) (fsSE b (eval (2 ^ i) ttE)) == eval (2 ^ j) (gsSE b (eval (2 ^ i) ecE))))) = true := by
  decide +kernel

theorem fsRE_ok (b E0 E1 : Nat) : ok (2 ^ 32 - 1) (fsRE b E0 E1) = true := by
  unfold fsRE fsCore
  split <;> rfl

theorem gsRE_ok (b m : Nat) : ok (2 ^ 32 - 1) (gsRE b m) = true := rfl

theorem fsCore_congr (b : Nat) {X Y : Nat} {q q' : LE} (h : eval X q = eval Y q') :
    eval X (fsCore b q) = eval Y (fsCore b q') := by
  unfold fsCore
  split <;> simp only [eval, h]

theorem fs_views (b R σ : Nat) :
    eval R (fsRE b (σ &&& 63) (shl (σ >>> 6) 4)) = eval σ (fsSE b (eval R ttE)) := by
  refine fsCore_congr b ?_
  split <;> exact Nat.and_comm _ _

theorem gs_views (b R σ : Nat) :
    eval R (gsRE b (Spec.saltMaskOf (σ &&& 63) (σ >>> 6))) = eval σ (gsSE b (eval R ecE)) := by
  have hm : Spec.saltMaskOf (σ &&& 63) (σ >>> 6) = eval σ maskSE := by
    show Spec.revBits 6 (σ &&& 63) * 2 ^ 18 + Spec.revBits 6 (σ >>> 6) * 2 ^ 12 = _
    rw [Nat.mul_comm _ (2 ^ 18), Nat.two_pow_add_eq_or_of_lt
      (Nat.lt_of_lt_of_le (Nat.mul_lt_mul_of_pos_right (revBits_lt 6 _) (by decide)) (by decide))]
    simp only [maskSE, eval, Nat.shiftLeft_eq, Nat.mul_comm]
  rw [hm]
  simp only [gsRE, gsSE, gsCore, chunkE, eval]
  rw [Nat.and_comm (eval R ecE)]

/-- for every S-box, every 32-bit half and every one of the 4096 salts: the salt-dependent part of the index
`dEncrypt` computes is (bit-reversed) the salt-dependent part of that block of `Spec.saltE`. -/
theorem fs_eq_gs (b R σ : Nat) (hb : b < 8) (hR : R < 2 ^ 32) (hσ : σ < 2 ^ 12) :
    eval R (fsRE b (σ &&& 63) (shl (σ >>> 6) 4)) = eval R (gsRE b (Spec.saltMaskOf (σ &&& 63) (σ >>> 6))) := by
  refine lin_ext 32 (fun R => eval R (fsRE b (σ &&& 63) (shl (σ >>> 6) 4)))
    (fun R => eval R (gsRE b (Spec.saltMaskOf (σ &&& 63) (σ >>> 6)))) ?_ ?_ ?_ R hR
  · exact le_lin 32 _ (fsRE_ok b _ _)
  · exact le_lin 32 _ (gsRE_ok b _)
  · intro i hi
    show eval (2 ^ i) (fsRE b _ _) = eval (2 ^ i) (gsRE b _)
    rw [fs_views, gs_views]
    exact le_ext_range 12 32 (fun i => fsSE b (eval (2 ^ i) ttE)) (fun i => gsSE b (eval (2 ^ i) ecE))
      (all_range.mp salt_table b hb) i hi σ hσ

end PttVerif.C02.Lin
