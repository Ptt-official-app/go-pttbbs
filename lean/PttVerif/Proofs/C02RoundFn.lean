import PttVerif.Proofs.C02Round
import PttVerif.Proofs.C02
/-
C02 — one call of `dEncrypt` is one textbook Feistel half-round: `L ^ rho (f(R, K))`.  The index fed to each
`SPtrans` table splits into a salt, a data and a key part, each matched with the same part of the textbook
`saltE(R) ⊕ K`; the table entry at that index is the S-box contribution (table exactness), and the eight contributions
recombine to `rho (P (S-boxes …))`.
-/
namespace PttVerif.C02.Lin
open PttVerif PttVerif.C02 PttVerif.Gen.CryptTables

/-! ### the index `dEncrypt` computes for box `b`, in three parts -/

/-- the S-box index `dEncrypt` uses for box `b`, from the words `u` and (rotated) `t`. -/
def mIdx (b u t : Nat) : Nat := if b % 2 = 0 then shr u (8 * (b / 2)) &&& 0x3f else shr t (8 * (b / 2)) &&& 0x3f

/-- `(t & E) ^ ((t & E) << 16)` with `t = r ^ (r >> 16)`: the salt-selected bits of `r`, swapped between the halves. -/
def sw (r E : Nat) : Nat :=
  let t := (r ^^^ shr r 16) &&& E
  t ^^^ shl t 16

/-- the two words of `dEncrypt`. -/
def uWord (r k0 E0 : Nat) : Nat := sw r E0 ^^^ r ^^^ k0
def tWord (r k1 E1 : Nat) : Nat := rotr4 (sw r E1 ^^^ r ^^^ k1)

theorem dEncrypt_eq_mIdx (L R S E0 E1 : Nat) (s : List Nat) :
    dEncrypt L R S E0 E1 s =
      L ^^^ (tbl SPtrans 1 (mIdx 1 (uWord R (s.getD S 0) E0) (tWord R (s.getD (S + 1) 0) E1)) |||
        tbl SPtrans 3 (mIdx 3 (uWord R (s.getD S 0) E0) (tWord R (s.getD (S + 1) 0) E1)) |||
        tbl SPtrans 5 (mIdx 5 (uWord R (s.getD S 0) E0) (tWord R (s.getD (S + 1) 0) E1)) |||
        tbl SPtrans 7 (mIdx 7 (uWord R (s.getD S 0) E0) (tWord R (s.getD (S + 1) 0) E1)) |||
        tbl SPtrans 0 (mIdx 0 (uWord R (s.getD S 0) E0) (tWord R (s.getD (S + 1) 0) E1)) |||
        tbl SPtrans 2 (mIdx 2 (uWord R (s.getD S 0) E0) (tWord R (s.getD (S + 1) 0) E1)) |||
        tbl SPtrans 4 (mIdx 4 (uWord R (s.getD S 0) E0) (tWord R (s.getD (S + 1) 0) E1)) |||
        tbl SPtrans 6 (mIdx 6 (uWord R (s.getD S 0) E0) (tWord R (s.getD (S + 1) 0) E1))) := by
  simp [dEncrypt, mIdx, uWord, tWord, sw, rotr4, rotr4E, eval, shr]

theorem shr_mask_xor3 (a b c n : Nat) :
    shr (a ^^^ b ^^^ c) n &&& 0x3f = (shr a n &&& 0x3f) ^^^ (shr b n &&& 0x3f) ^^^ (shr c n &&& 0x3f) := by
  simp [shr, Nat.shiftRight_xor_distrib, Nat.and_xor_distrib_right]

theorem idx_odd (n r k1 E1 : Nat) (hr : r < 2 ^ 32) (hk : k1 < 2 ^ 32) (hE : E1 < 2 ^ 32) :
    shr (tWord r k1 E1) n &&& 0x3f =
      (shr (shr (sw r E1) 4 ^^^ shl (sw r E1) 28) n &&& 0x3f) ^^^ (shr (rotr4 r) n &&& 0x3f) ^^^
        (shr (rotr4 k1) n &&& 0x3f) := by
  have hA : sw r E1 < 2 ^ 32 := Nat.xor_lt_two_pow (Nat.lt_of_le_of_lt Nat.and_le_right hE) (shl_lt _ _)
  unfold tWord
  rw [rotr4_xor _ _ (Nat.xor_lt_two_pow hA hr) hk, rotr4_xor _ _ hA hr, rotr4_eq_xor _ hA]
  exact shr_mask_xor3 _ _ _ _

theorem eval_tt (R : Nat) : eval R ttE = rho R ^^^ shr (rho R) 16 := rfl

/-- the index `dEncrypt` uses for box `b` splits into salt part, data part and key part (for an odd box because the
rotation of `t` is linear). -/
theorem mIdx_split (b R K E0 E1 : Nat) (hK : K < 2 ^ 48) (hE : E1 < 2 ^ 32) :
    mIdx b (uWord (rho R) (kw0 K) E0) (tWord (rho R) (kw1 K) E1) =
      eval R (fsRE b E0 E1) ^^^ dataIdx R b ^^^ keyIdx K b := by
  unfold mIdx fsRE fsCore dataIdx dataIdxE keyIdx keyIdxE
  by_cases h : b % 2 = 0
  · simp only [if_pos h]
    exact shr_mask_xor3 _ _ _ _
  · simp only [if_neg h]
    exact idx_odd _ _ _ _ (rho_lt R) (kw1_lt K hK) hE

/-- block `b+1` (bits 6b+1 … 6b+6) of a 48-bit value: what `chunkE` reverses. -/
def sch (b x : Nat) : Nat := (x >>> (6 * (7 - b))) &&& 63

theorem sch_xor (b x y : Nat) : sch b (x ^^^ y) = sch b x ^^^ sch b y := by
  simp [sch, Nat.shiftRight_xor_distrib, Nat.and_xor_distrib_right]

theorem sch_lt (b x : Nat) : sch b x < 64 := by
  unfold sch
  rw [show (63 : Nat) = 2 ^ 6 - 1 from rfl, Nat.and_two_pow_sub_one_eq_mod]; exact Nat.mod_lt _ (by decide)

theorem sch_eq_div (b x : Nat) : sch b x = x / 2 ^ (6 * (7 - b)) % 64 := by
  unfold sch
  rw [show (63 : Nat) = 2 ^ 6 - 1 from rfl, Nat.and_two_pow_sub_one_eq_mod, Nat.shiftRight_eq_div_pow]

theorem sch_split_aux (b e D K : Nat) :
    Spec.revBits 6 (sch b (e ^^^ D ^^^ (D <<< 24) ^^^ K)) =
      Spec.revBits 6 (sch b (D ^^^ (D <<< 24))) ^^^ Spec.revBits 6 (sch b e) ^^^ Spec.revBits 6 (sch b K) := by
  rw [Nat.xor_assoc e, sch_xor, sch_xor, revBits_xor, revBits_xor]
  generalize Spec.revBits 6 (sch b e) = x
  generalize Spec.revBits 6 (sch b (D ^^^ D <<< 24)) = y
  generalize Spec.revBits 6 (sch b K) = z
  rw [Nat.xor_comm x y]

/-- block `b` of the textbook pre-S-box value `saltE(R) ⊕ K`, bit-reversed, splits the same way. -/
theorem sch_split (b m R K : Nat) (hb : b < 8) (hR : R < 2 ^ 32) (hK : K < 2 ^ 48) :
    Spec.revBits 6 (sch b (Spec.saltE m R ^^^ K)) = eval R (gsRE b m) ^^^ dataIdx R b ^^^ keyIdx K b := by
  rw [dataIdx_eq_Eblock R b hR hb, keyIdx_eq_block K b hK hb]
  -- the two rewritten sides and `gsRE` write the block out; `sch` unfolds to that form
  exact sch_split_aux b (Spec.permF Spec.E 32 R)
    ((Spec.permF Spec.E 32 R ^^^ Spec.permF Spec.E 32 R >>> 24) &&& m) K

/-- the index `dEncrypt` feeds to `SPtrans[b]` is block `b+1` of the textbook `saltE(R) ⊕ K`, first bit least
significant — for every half, round key and salt. -/
theorem mIdx_eq (b R K σ : Nat) (hb : b < 8) (hR : R < 2 ^ 32) (hK : K < 2 ^ 48) (hσ : σ < 2 ^ 12) :
    mIdx b (uWord (rho R) (kw0 K) (σ &&& 63)) (tWord (rho R) (kw1 K) (shl (σ >>> 6) 4)) =
      Spec.revBits 6 (sch b (Spec.saltE (Spec.saltMaskOf (σ &&& 63) (σ >>> 6)) R ^^^ K)) := by
  rw [mIdx_split b R K _ _ hK (shl_lt _ _), sch_split b _ R K hb hR hK, fs_eq_gs b R σ hb hR hσ]

/-! ### table exactness and recombination -/

theorem rev6_rev6 : ∀ c : Fin 64, Spec.revBits 6 (Spec.revBits 6 c.val) = c.val := by decide +kernel

/-- the contribution of S-box `b+1` with input block `c` to `rho (P (…))`. -/
def spTerm (b c : Nat) : Nat := rho (Spec.permF Spec.P 32 (Spec.sbox b c * 2 ^ (4 * (7 - b))))

/-- table exactness, as `dEncrypt` uses it: the entry at the bit-reversed block is the S-box contribution. -/
theorem SPtrans_eq_spTerm (b c : Nat) (hb : b < 8) (hc : c < 64) : tbl SPtrans b (Spec.revBits 6 c) = spTerm b c := by
  rw [SPtrans_table, tbl_map_range _ b _ hb (revBits_lt 6 c)]
  unfold Spec.spEntry spTerm
  rw [rev6_rev6 ⟨c, hc⟩, rho_eq_rotl1]

theorem sboxes_eq (x : Nat) :
    Spec.sboxes x = (List.range 8).foldl (fun acc b => 16 * acc + Spec.sbox b (sch b x)) 0 := by
  simp only [sch_eq_div]; rfl

theorem sboxes_lt (x : Nat) : Spec.sboxes x < 2 ^ 32 := by
  rw [sboxes_eq]
  exact horner_lt 16 _ (fun b => sbox_lt b _) 8

/-- nibble `b` of `sboxes x` is the output of S-box `b+1` on block `b+1`. -/
theorem sboxes_nibble (b x : Nat) (hb : b < 8) :
    ((Spec.sboxes x >>> (4 * (7 - b))) &&& 15) <<< (4 * (7 - b)) = Spec.sbox b (sch b x) * 2 ^ (4 * (7 - b)) := by
  rw [Nat.shiftLeft_eq]
  congr 1
  rw [show (15 : Nat) = 2 ^ 4 - 1 from rfl, Nat.and_two_pow_sub_one_eq_mod, Nat.shiftRight_eq_div_pow, Nat.pow_mul,
    sboxes_eq]
  exact horner_digit 16 _ (fun b => sbox_lt b _) 8 b hb

theorem spOfE_sboxes (b x : Nat) (hb : b < 8) : eval (Spec.sboxes x) (spOfE b) = spTerm b (sch b x) := by
  show rho (Spec.permF Spec.P 32 (((Spec.sboxes x >>> (4 * (7 - b))) &&& 15) <<< (4 * (7 - b)))) = _
  rw [sboxes_nibble b x hb]; rfl

/-- the `SPtrans` entry `dEncrypt` reads for box `b` is the contribution of nibble `b` of the textbook S-box output. -/
theorem SPtrans_at_mIdx (b R K σ : Nat) (hb : b < 8) (hR : R < 2 ^ 32) (hK : K < 2 ^ 48) (hσ : σ < 2 ^ 12) :
    tbl SPtrans b (mIdx b (uWord (rho R) (kw0 K) (σ &&& 63)) (tWord (rho R) (kw1 K) (shl (σ >>> 6) 4))) =
      eval (Spec.sboxes (Spec.saltE (Spec.saltMaskOf (σ &&& 63) (σ >>> 6)) R ^^^ K)) (spOfE b) := by
  rw [mIdx_eq b R K σ hb hR hK hσ, SPtrans_eq_spTerm b _ hb (sch_lt b _), spOfE_sboxes b _ hb]

/-- one call of `dEncrypt` with the schedule words of round key `K` is one textbook half-round on the halves held in
the implementation's representation: `L ^ rho (f(R, K))`, for every half, round key and salt. -/
theorem dEncrypt_spec (L R K σ S : Nat) (s : List Nat) (hR : R < 2 ^ 32) (hK : K < 2 ^ 48) (hσ : σ < 2 ^ 12)
    (h0 : s.getD S 0 = kw0 K) (h1 : s.getD (S + 1) 0 = kw1 K) :
    dEncrypt L (rho R) S (σ &&& 63) (shl (σ >>> 6) 4) s =
      L ^^^ rho (Spec.f (Spec.saltMaskOf (σ &&& 63) (σ >>> 6)) R K) := by
  have he := fun b (hb : b < 8) => SPtrans_at_mIdx b R K σ hb hR hK hσ
  rw [dEncrypt_eq_mIdx, h0, h1]
  simp only [he, Nat.reduceLT]
  exact congrArg (L ^^^ ·) (recomb _ (sboxes_lt _))

end PttVerif.C02.Lin
