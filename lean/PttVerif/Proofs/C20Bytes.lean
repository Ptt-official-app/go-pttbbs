import PttVerif.Model.C20
/-
C20 — Go's int32 (`wrap32`) with its little-endian image, and the positioned write `writeAt` read back by index and
by slice, on arbitrary lists and offsets: nothing here knows of slots or of the record layout.
-/
namespace PttVerif.C20
open PttVerif

/-! ### int32 and its little-endian image -/

theorem wrap32_of_int32 (i : Int) (h : Int32 i) : wrap32 i = i := by
  unfold Int32 at h
  unfold wrap32
  simp only [Int.ofNat_eq_natCast, Int.negSucc_eq]
  split <;> omega

theorem wrap32_int32 (i : Int) : Int32 (wrap32 i) := by
  unfold Int32 wrap32
  simp only [Int.ofNat_eq_natCast, Int.negSucc_eq]
  split <;> omega

theorem wrap32_emod (i : Int) : wrap32 (i % 4294967296) = wrap32 i := by
  unfold wrap32
  rw [Int.emod_emod_of_dvd i (Int.dvd_refl _)]

theorem le32_length (v : Int) : (le32 v).length = 4 := rfl

theorem bytes_recompose (u : Nat) (h : u < 4294967296) :
    u % 256 + 256 * (u / 256 % 256) + 65536 * (u / 65536 % 256) + 16777216 * (u / 16777216 % 256) = u := by
  omega

theorem dec32_le32 (v : Int) (h : Int32 v) : dec32? (le32 v) = some v := by
  have hu : (v % 4294967296).toNat < 4294967296 := by omega
  unfold le32 dec32?
  simp only
  rw [bytes_recompose _ hu, Int.ofNat_eq_natCast, Int.toNat_of_nonneg (Int.emod_nonneg v (by decide)), wrap32_emod,
    wrap32_of_int32 v h]

theorem dec32_of_length4 (l : List Nat) (h : l.length = 4) : ∃ v, dec32? l = some v ∧ Int32 v := by
  match l, h with
  | [a, b, c, d], _ => exact ⟨_, rfl, wrap32_int32 _⟩

/-! ### a positioned write that stays inside the list -/

theorem writeAt_inside (f bs : List Nat) (off : Nat) (h : off + bs.length ≤ f.length) :
    writeAt f off bs = f.take off ++ (bs ++ f.drop (off + bs.length)) := by
  unfold writeAt
  rw [if_pos (Nat.le_trans (Nat.le_add_right _ _) h), List.append_assoc]

theorem writeAt_length (f bs : List Nat) (off : Nat) (h : off + bs.length ≤ f.length) :
    (writeAt f off bs).length = f.length := by
  rw [writeAt_inside f bs off h, List.length_append, List.length_append, List.length_drop,
    List.length_take_of_le (Nat.le_trans (Nat.le_add_right _ _) h), ← Nat.add_assoc, Nat.add_sub_cancel' h]

theorem getElem?_writeAt (f bs : List Nat) (off i : Nat) (h : off + bs.length ≤ f.length) :
    (writeAt f off bs)[i]? = if off ≤ i ∧ i < off + bs.length then bs[i - off]? else f[i]? := by
  have hl : (f.take off).length = off := List.length_take_of_le (Nat.le_trans (Nat.le_add_right _ _) h)
  rw [writeAt_inside f bs off h, List.getElem?_append, List.getElem?_append, hl, List.getElem?_take,
    List.getElem?_drop]
  by_cases h1 : i < off
  · rw [if_pos h1, if_pos h1, if_neg (fun c => Nat.not_le_of_lt h1 c.1)]
  · have h1' := Nat.le_of_not_lt h1
    rw [if_neg h1]
    by_cases h2 : i - off < bs.length
    · rw [if_pos h2, if_pos ⟨h1', (Nat.sub_lt_iff_lt_add' h1').1 h2⟩]
    · rw [if_neg h2, if_neg (fun c => h2 ((Nat.sub_lt_iff_lt_add' h1').2 c.2)), Nat.add_assoc,
        Nat.add_sub_cancel' (Nat.le_of_not_lt h2), Nat.add_sub_cancel' h1']

theorem writeAt_all (r bs : List Nat) (h : bs.length = r.length) : writeAt r 0 bs = bs := by
  rw [writeAt_inside r bs 0 (by omega), List.take_zero, List.nil_append, List.drop_eq_nil_of_le (by omega),
    List.append_nil]

theorem writeAt_cover (f b1 b2 : List Nat) (o1 o2 : Nat) (h1 : o1 + b1.length ≤ f.length)
    (h2 : o2 + b2.length ≤ f.length) (hc : o2 ≤ o1 ∧ o1 + b1.length ≤ o2 + b2.length) :
    writeAt (writeAt f o1 b1) o2 b2 = writeAt f o2 b2 := by
  apply List.ext_getElem?
  intro i
  rw [getElem?_writeAt _ _ _ _ (by rw [writeAt_length f b1 o1 h1]; exact h2), getElem?_writeAt _ _ _ _ h2]
  split
  · rfl
  · rw [getElem?_writeAt _ _ _ _ h1, if_neg (by omega)]

/-! ### the slice `(l.drop o).take n` of a list that was written to -/

theorem slice_getElem? (l : List Nat) (o n i : Nat) :
    ((l.drop o).take n)[i]? = if i < n then l[o + i]? else none := by
  rw [List.getElem?_take, List.getElem?_drop]

theorem slice_writeAt_same (f bs : List Nat) (off : Nat) (h : off + bs.length ≤ f.length) :
    ((writeAt f off bs).drop off).take bs.length = bs := by
  apply List.ext_getElem?
  intro i
  rw [slice_getElem?, getElem?_writeAt _ _ _ _ h]
  split
  · rename_i hi
    rw [if_pos ⟨Nat.le_add_right _ _, Nat.add_lt_add_left hi _⟩, Nat.add_sub_cancel_left]
  · rename_i hi
    exact (List.getElem?_eq_none (Nat.le_of_not_lt hi)).symm

theorem slice_writeAt_disjoint (f bs : List Nat) (off o n : Nat) (h : off + bs.length ≤ f.length)
    (hd : o + n ≤ off ∨ off + bs.length ≤ o) :
    ((writeAt f off bs).drop o).take n = (f.drop o).take n := by
  apply List.ext_getElem?
  intro i
  rw [slice_getElem?, slice_getElem?, getElem?_writeAt _ _ _ _ h]
  split
  · rw [if_neg (by omega)]
  · rfl

theorem slice_writeAt_within (f bs : List Nat) (off o n : Nat) (h : o + n ≤ f.length)
    (hin : off + bs.length ≤ n) :
    ((writeAt f (o + off) bs).drop o).take n = writeAt ((f.drop o).take n) off bs := by
  have hl : ((f.drop o).take n).length = n := by
    rw [List.length_take, List.length_drop, Nat.min_eq_left (Nat.le_sub_of_add_le (Nat.add_comm o n ▸ h))]
  have hw : o + off + bs.length ≤ f.length :=
    Nat.le_trans (Nat.add_assoc o off _ ▸ Nat.add_le_add_left hin o) h
  apply List.ext_getElem?
  intro i
  rw [slice_getElem?, getElem?_writeAt _ _ _ _ hw, getElem?_writeAt _ _ _ _ (by rw [hl]; exact hin),
    slice_getElem?]
  -- both sides test the same bounds, up to the common summand `o` and the order of the tests
  simp only [Nat.add_le_add_iff_left, Nat.add_assoc, Nat.add_lt_add_iff_left, Nat.add_sub_add_left]
  split
  · rfl
  · rename_i hi
    rw [if_neg (fun c => hi (Nat.lt_of_lt_of_le c.2 hin))]

end PttVerif.C20
