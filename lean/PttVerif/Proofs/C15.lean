import PttVerif.Model.C15
/-
Inductive invariant `Inv` of the registration protocol when the existence lookup is repeated under the lock.

Six of its clauses speak of one thread each; `Inv.Thread` collects what they say of `t` when it is at `c`, so that a
step of `t` is checked thread by thread: `t` at its new position, every other thread where it was.
-/
namespace PttVerif.C15

/-- the thread is between semWait and semPost. -/
def inLock : PC → Bool
  | .locked | .rechecked | .assigned _ | .written _ | .unlocking _ => true
  | _ => false

/-- the slot a registration has completely written (index and record). -/
def okAt : PC → Option Nat
  | .written k => some k
  | .unlocking (.ok k) => some k
  | .done (.ok k) => some k
  | _ => none

/-- the registration has decided that the id is already taken. -/
def saidExists : PC → Bool
  | .unlocking .exists_ | .done .exists_ => true
  | _ => false

theorem okAt_done (r : Res) : okAt (.done r) = okAt (.unlocking r) := by
  cases r <;> rfl

theorem saidExists_done (r : Res) : saidExists (.done r) = saidExists (.unlocking r) := by
  cases r <;> rfl

/-- assumptions on the slot search: it returns an empty slot below the capacity. -/
structure PickOK (P : Params) : Prop where
  sound : ∀ tbl k, P.pick tbl = some k → k < P.cap ∧ tbl k = none

theorem hasId_iff (tbl : Nat → Option Nat) (cap a : Nat) :
    hasId tbl cap a = true ↔ ∃ k, k < cap ∧ tbl k = some a := by
  simp only [hasId, List.any_eq_true, List.mem_range, beq_iff_eq]

structure Inv (P : Params) (tbl0 : Nat → Option Nat) (s : Sys) : Prop where
  sem_iff : ∀ t, s.sem = some t ↔ inLock (s.pc t) = true
  nodup : ∀ i j a, s.table i = some a → s.table j = some a → i = j
  bound : ∀ k, P.cap ≤ k → s.table k = none
  rechecked_absent : ∀ t, s.pc t = .rechecked → hasId s.table P.cap (P.idOf t) = false
  assigned_spec : ∀ t k, s.pc t = .assigned k → s.table k = some (P.idOf t) ∧ s.who k = some t
  disk_agree : ∀ k, s.disk k ≠ s.table k → ∃ t, s.pc t = .assigned k
  ok_slot : ∀ t k, okAt (s.pc t) = some k →
      s.table k = some (P.idOf t) ∧ s.disk k = some (P.idOf t) ∧ s.who k = some t
  who_spec : ∀ k t, s.who k = some t →
      tbl0 k = none ∧ s.table k = some (P.idOf t) ∧ (s.pc t = .assigned k ∨ okAt (s.pc t) = some k)
  old_kept : ∀ k a, tbl0 k = some a → s.table k = some a ∧ s.disk k = some a
  fresh_owned : ∀ k, tbl0 k = none → s.table k ≠ none → s.who k ≠ none
  exists_sound : ∀ t, saidExists (s.pc t) = true → hasId s.table P.cap (P.idOf t) = true

@[simp] theorem setPc_same (s : Sys) (t : Nat) (p : PC) : setPc s t p t = p := if_pos rfl
theorem setPc_other {s : Sys} {t u : Nat} {p : PC} (h : u ≠ t) : setPc s t p u = s.pc u := if_neg h
@[simp] theorem setSlot_same (f : Nat → Option Nat) (k : Nat) (v : Option Nat) : setSlot f k v k = v :=
  if_pos rfl
theorem setSlot_other {f : Nat → Option Nat} {k j : Nat} {v : Option Nat} (h : j ≠ k) :
    setSlot f k v j = f j := if_neg h

theorem step_checked_free {P : Params} {s : Sys} {t : Nat} (hpc : s.pc t = .checked) (hs : s.sem = none) :
    step P s t = some { s with pc := setPc s t .locked, sem := some t } := by
  unfold step
  rw [hpc, hs]

theorem step_checked_held {P : Params} {s : Sys} {t w : Nat} (hpc : s.pc t = .checked) (hs : s.sem = some w) :
    step P s t = none := by
  unfold step
  rw [hpc, hs]

theorem inLock_unique {P tbl0 s} (inv : Inv P tbl0 s) (t u : Nat)
    (ht : inLock (s.pc t) = true) (hu : inLock (s.pc u) = true) : t = u := by
  have a := (inv.sem_iff t).2 ht
  have b := (inv.sem_iff u).2 hu
  rw [a] at b; exact Option.some.inj b

namespace Inv

theorem ok_of_done {P tbl0 s} (inv : Inv P tbl0 s) {t k : Nat} (ht : s.pc t = .done (.ok k)) :
    s.table k = some (P.idOf t) ∧ s.disk k = some (P.idOf t) ∧ s.who k = some t :=
  inv.ok_slot t k (by rw [ht]; rfl)

theorem lt_cap {P tbl0 s} (inv : Inv P tbl0 s) {k a : Nat} (h : s.table k = some a) : k < P.cap :=
  Nat.lt_of_not_le fun hge => nomatch (inv.bound k hge).symm.trans h

structure Thread (P : Params) (tbl0 : Nat → Option Nat) (s : Sys) (t : Nat) (c : PC) : Prop where
  sem_iff : s.sem = some t ↔ inLock c = true
  rechecked_absent : c = .rechecked → hasId s.table P.cap (P.idOf t) = false
  assigned_spec : ∀ k, c = .assigned k → s.table k = some (P.idOf t) ∧ s.who k = some t
  ok_slot : ∀ k, okAt c = some k →
      s.table k = some (P.idOf t) ∧ s.disk k = some (P.idOf t) ∧ s.who k = some t
  who_spec : ∀ k, s.who k = some t →
      tbl0 k = none ∧ s.table k = some (P.idOf t) ∧ (c = .assigned k ∨ okAt c = some k)
  exists_sound : saidExists c = true → hasId s.table P.cap (P.idOf t) = true

theorem thread {P tbl0 s} (inv : Inv P tbl0 s) (t : Nat) : Thread P tbl0 s t (s.pc t) :=
  ⟨inv.sem_iff t, inv.rechecked_absent t, inv.assigned_spec t, inv.ok_slot t, fun k => inv.who_spec k t,
    inv.exists_sound t⟩

theorem of_threads {P tbl0 s} (h : ∀ t, Thread P tbl0 s t (s.pc t))
    (nodup : ∀ i j a, s.table i = some a → s.table j = some a → i = j)
    (bound : ∀ k, P.cap ≤ k → s.table k = none)
    (disk_agree : ∀ k, s.disk k ≠ s.table k → ∃ t, s.pc t = .assigned k)
    (old_kept : ∀ k a, tbl0 k = some a → s.table k = some a ∧ s.disk k = some a)
    (fresh_owned : ∀ k, tbl0 k = none → s.table k ≠ none → s.who k ≠ none) : Inv P tbl0 s :=
  ⟨fun t => (h t).sem_iff, nodup, bound, fun t => (h t).rechecked_absent, fun t => (h t).assigned_spec,
    disk_agree, fun t => (h t).ok_slot, fun k t => (h t).who_spec k, old_kept, fresh_owned,
    fun t => (h t).exists_sound⟩

theorem thread_setPc {P tbl0} {s s' : Sys} {t : Nat} {p : PC} (ht : Thread P tbl0 s' t p)
    (ho : ∀ u, u ≠ t → Thread P tbl0 s' u (s.pc u)) (u : Nat) : Thread P tbl0 s' u (setPc s t p u) := by
  by_cases hu : u = t
  · rw [hu, setPc_same]; exact ht
  · rw [setPc_other hu]; exact ho u hu

end Inv

theorem exists_setPc {s : Sys} {t : Nat} {p c : PC} (h : ∃ w, s.pc w = c) (ht : s.pc t ≠ c) :
    ∃ w, setPc s t p w = c :=
  let ⟨w, hw⟩ := h
  ⟨w, (setPc_other fun (e : w = t) => ht (e ▸ hw)).trans hw⟩

theorem inv_init (P : Params) (tbl0 : Nat → Option Nat)
    (h0 : ∀ i j a, tbl0 i = some a → tbl0 j = some a → i = j) (hb : ∀ k, P.cap ≤ k → tbl0 k = none) :
    Inv P tbl0 (init tbl0) where
  sem_iff := fun _ => iff_of_false nofun nofun
  nodup := h0
  bound := hb
  rechecked_absent := nofun
  assigned_spec := nofun
  disk_agree := fun _ h => absurd rfl h
  ok_slot := nofun
  who_spec := nofun
  old_kept := fun _ _ h => ⟨h, h⟩
  fresh_owned := fun _ h h' => absurd h h'
  exists_sound := nofun

/-- the branches of `step` that move `t` from `q` to `p` and at most the semaphore (to `m`): no index write is
pending at `q` or at `p` (`hq`, `hp`) and both name the same completed slot (`ho`). -/
theorem inv_pc_sem {P tbl0 s} (inv : Inv P tbl0 s) {t : Nat} {q : PC} (hpc : s.pc t = q) (p : PC)
    (m : Option Nat)
    (hm : m = some t ↔ inLock p = true)
    (hmo : ∀ u, u ≠ t → (m = some u ↔ s.sem = some u))
    (hq : ∀ k, q ≠ .assigned k)
    (hp : ∀ k, p ≠ .assigned k)
    (ho : okAt p = okAt q)
    (hr : p = .rechecked → hasId s.table P.cap (P.idOf t) = false)
    (he : saidExists p = true → hasId s.table P.cap (P.idOf t) = true) :
    Inv P tbl0 { s with pc := setPc s t p, sem := m } := by
  subst hpc
  refine .of_threads (Inv.thread_setPc ?_ fun u hu => ?_) inv.nodup inv.bound ?_ inv.old_kept inv.fresh_owned
  · have a := inv.thread t
    refine { sem_iff := hm, rechecked_absent := hr, assigned_spec := fun k e => absurd e (hp k),
             ok_slot := fun k e => a.ok_slot k (ho.symm.trans e), who_spec := ?_, exists_sound := he }
    intro k e
    obtain ⟨h1, h2, h3⟩ := a.who_spec k e
    exact ⟨h1, h2, .inr (ho.trans (h3.resolve_left (hq k)))⟩
  · exact { inv.thread u with sem_iff := (hmo u hu).trans (inv.sem_iff u) }
  · exact fun k hk => exists_setPc (inv.disk_agree k hk) (hq k)

theorem inv_pc_only {P tbl0 s} (inv : Inv P tbl0 s) {t : Nat} {q : PC} (hpc : s.pc t = q) (p : PC)
    (hl : inLock p = inLock q)
    (hq : ∀ k, q ≠ .assigned k)
    (hp : ∀ k, p ≠ .assigned k)
    (ho : okAt p = okAt q)
    (hr : p = .rechecked → hasId s.table P.cap (P.idOf t) = false)
    (he : saidExists p = true → hasId s.table P.cap (P.idOf t) = true) :
    Inv P tbl0 { s with pc := setPc s t p } :=
  inv_pc_sem inv hpc p s.sem (by rw [hl, ← hpc]; exact inv.sem_iff t) (fun _ _ => Iff.rfl) hq hp ho hr he

theorem nodup_setSlot {tbl : Nat → Option Nat} {k a : Nat}
    (nd : ∀ i j b, tbl i = some b → tbl j = some b → i = j) (absent : ∀ j, tbl j ≠ some a) :
    ∀ i j b, setSlot tbl k (some a) i = some b → setSlot tbl k (some a) j = some b → i = j := by
  intro i j b hi hj
  by_cases hik : i = k
  · by_cases hjk : j = k
    · rw [hik, hjk]
    · subst hik
      rw [setSlot_same] at hi
      rw [setSlot_other hjk, ← hi] at hj
      exact absurd hj (absent j)
  · rw [setSlot_other hik] at hi
    by_cases hjk : j = k
    · subst hjk
      rw [setSlot_same] at hj
      rw [← hj] at hi
      exact absurd hi (absent i)
    · rw [setSlot_other hjk] at hj
      exact nd i j b hi hj

theorem hasId_mono {tbl : Nat → Option Nat} {cap a k b : Nat} (hk : tbl k = none)
    (h : hasId tbl cap a = true) : hasId (setSlot tbl k (some b)) cap a = true := by
  rw [hasId_iff] at h ⊢
  obtain ⟨j, hj, hja⟩ := h
  have hjk : j ≠ k := ne_of_apply_ne tbl (by rw [hja, hk]; nofun)
  exact ⟨j, hj, (setSlot_other hjk).trans hja⟩

/-- the step of setUserID. -/
theorem inv_assign {P tbl0 s} (inv : Inv P tbl0 s) {t k : Nat} (hpc : s.pc t = .rechecked)
    (hkc : k < P.cap) (hke : s.table k = none) :
    Inv P tbl0 { s with pc := setPc s t (.assigned k), table := setSlot s.table k (some (P.idOf t)),
                        who := setSlot s.who k (some t) } := by
  have absent : ∀ j, s.table j ≠ some (P.idOf t) := fun j hj =>
    Bool.false_ne_true ((inv.rechecked_absent t hpc).symm.trans ((hasId_iff _ _ _).2 ⟨j, inv.lt_cap hj, hj⟩))
  have told : tbl0 k = none :=
    Option.eq_none_iff_forall_ne_some.2 fun a e => nomatch hke.symm.trans (inv.old_kept k a e).1
  refine .of_threads (Inv.thread_setPc ?_ fun u hu => ?_) (nodup_setSlot inv.nodup absent) ?_ ?_ ?_ ?_
  · have a := inv.thread t
    rw [hpc] at a
    refine { sem_iff := a.sem_iff, rechecked_absent := nofun, assigned_spec := ?_, ok_slot := nofun,
             who_spec := ?_, exists_sound := nofun }
    · rintro _ ⟨⟩
      exact ⟨setSlot_same _ _ _, setSlot_same _ _ _⟩
    · intro j hj
      by_cases hjk : j = k
      · subst hjk; exact ⟨told, setSlot_same _ _ _, .inl rfl⟩
      · simp only [setSlot_other hjk] at hj
        rcases (a.who_spec j hj).2.2 with h | h <;> exact nomatch h
  · have a := inv.thread u
    -- nobody else is between semWait and semPost
    have out : ∀ {c}, s.pc u = c → inLock c = true → False :=
      fun e h => hu (inLock_unique inv u t (e ▸ h) (by rw [hpc]; rfl))
    refine { sem_iff := a.sem_iff, rechecked_absent := fun e => (out e rfl).elim,
             assigned_spec := fun j e => (out e rfl).elim, ok_slot := ?_, who_spec := ?_,
             exists_sound := fun e => hasId_mono hke (a.exists_sound e) }
    · intro j e
      obtain ⟨h1, h2, h3⟩ := a.ok_slot j e
      have hjk : j ≠ k := ne_of_apply_ne s.table (by rw [h1, hke]; nofun)
      simp only [setSlot_other hjk]
      exact ⟨h1, h2, h3⟩
    · intro j hj
      have hjk : j ≠ k := by
        intro e; subst e
        simp only [setSlot_same] at hj; exact hu (Option.some.inj hj).symm
      simp only [setSlot_other hjk] at hj ⊢
      exact a.who_spec j hj
  · intro j hj
    have hjk : j ≠ k := Nat.ne_of_gt (Nat.lt_of_lt_of_le hkc hj)
    simp only [setSlot_other hjk]; exact inv.bound j hj
  · intro j hj
    by_cases hjk : j = k
    · exact ⟨t, by subst hjk; exact setPc_same _ _ _⟩
    · simp only [setSlot_other hjk] at hj
      exact exists_setPc (inv.disk_agree j hj) (by rw [hpc]; nofun)
  · intro j a hj
    have hjk : j ≠ k := ne_of_apply_ne tbl0 (by rw [hj, told]; nofun)
    simp only [setSlot_other hjk]; exact inv.old_kept j a hj
  · intro j hj hne
    by_cases hjk : j = k
    · subst hjk; simp only [setSlot_same]; exact nofun
    · simp only [setSlot_other hjk] at hne ⊢; exact inv.fresh_owned j hj hne

/-- the step of passwdSyncUpdate: index and .PASSWDS agree at `k` from here on. -/
theorem inv_write {P tbl0 s} (inv : Inv P tbl0 s) {t k : Nat} (hpc : s.pc t = .assigned k) :
    Inv P tbl0 { s with pc := setPc s t (.written k), disk := setSlot s.disk k (some (P.idOf t)) } := by
  obtain ⟨htab, hwho⟩ := inv.assigned_spec t k hpc
  refine .of_threads (Inv.thread_setPc ?_ fun u hu => ?_) inv.nodup inv.bound ?_ ?_ inv.fresh_owned
  · have a := inv.thread t
    rw [hpc] at a
    refine { sem_iff := a.sem_iff, rechecked_absent := nofun, assigned_spec := nofun, ok_slot := ?_,
             who_spec := ?_, exists_sound := nofun }
    · rintro _ ⟨⟩
      exact ⟨htab, setSlot_same _ _ _, hwho⟩
    · intro j hj
      obtain ⟨h1, h2, h3⟩ := a.who_spec j hj
      rcases h3 with h | h
      · cases h; exact ⟨h1, h2, .inr rfl⟩
      · exact nomatch h
  · refine { inv.thread u with ok_slot := fun j e => ?_ }
    obtain ⟨h1, h2, h3⟩ := inv.ok_slot u j e
    have hjk : j ≠ k := ne_of_apply_ne s.who (by rw [h3, hwho]; exact fun e => hu (Option.some.inj e))
    simp only [setSlot_other hjk]
    exact ⟨h1, h2, h3⟩
  · intro j hj
    by_cases hjk : j = k
    · subst hjk; simp only [setSlot_same] at hj; exact absurd htab.symm hj
    · simp only [setSlot_other hjk] at hj
      exact exists_setPc (inv.disk_agree j hj) (by rw [hpc]; exact fun e => hjk (PC.assigned.inj e).symm)
  · intro j a hj
    have hjk : j ≠ k := ne_of_apply_ne tbl0 (by rw [hj, (inv.who_spec k t hwho).1]; nofun)
    simp only [setSlot_other hjk]; exact inv.old_kept j a hj

/-- every atomic step preserves the invariant, provided the lookup is repeated under the lock. -/
theorem inv_step (P : Params) (tbl0 : Nat → Option Nat) (pk : PickOK P) (hcul : P.checkUnderLock = true)
    (s s' : Sys) (t : Nat) (inv : Inv P tbl0 s) (h : step P s t = some s') : Inv P tbl0 s' := by
  revert h
  -- one goal per branch of `step`, in the order of its definition
  fun_cases step P s t
  -- check1: id present
  next hpc hid =>
    rintro ⟨⟩
    exact inv_pc_only inv hpc _ rfl nofun nofun rfl nofun (fun _ => hid)
  -- check1: id absent
  next hpc _ =>
    rintro ⟨⟩
    exact inv_pc_only inv hpc _ rfl nofun nofun rfl nofun nofun
  -- semWait, semaphore free
  next hpc hsem =>
    rintro ⟨⟩
    refine inv_pc_sem inv hpc _ _ (iff_of_true rfl rfl) ?_ nofun nofun rfl nofun nofun
    intro u hu
    rw [hsem]
    exact iff_of_false (fun e => hu (Option.some.inj e).symm) nofun
  -- semWait, semaphore held: no step
  next => exact nofun
  -- check2: id present
  next hpc hid =>
    rw [hcul, Bool.true_and] at hid
    rintro ⟨⟩
    exact inv_pc_only inv hpc _ rfl nofun nofun rfl nofun (fun _ => hid)
  -- check2: id absent
  next hpc hid =>
    rw [hcul, Bool.true_and] at hid
    rintro ⟨⟩
    exact inv_pc_only inv hpc _ rfl nofun nofun rfl (fun _ => Bool.eq_false_iff.2 hid) nofun
  -- pick: no empty slot
  next hpc _ =>
    rintro ⟨⟩
    exact inv_pc_only inv hpc _ rfl nofun nofun rfl nofun nofun
  -- pick returns `k`, setUserID
  next hpc k hp =>
    rintro ⟨⟩
    obtain ⟨hkc, hke⟩ := pk.sound _ _ hp
    exact inv_assign inv hpc hkc hke
  -- the record write
  next k hpc =>
    rintro ⟨⟩
    exact inv_write inv hpc
  -- written, on to the unlock
  next k hpc =>
    rintro ⟨⟩
    exact inv_pc_only inv hpc _ rfl nofun nofun rfl nofun nofun
  -- semPost
  next r hpc =>
    rintro ⟨⟩
    have hst : s.sem = some t := (inv.sem_iff t).2 (by rw [hpc]; rfl)
    refine inv_pc_sem inv hpc _ _ (iff_of_false nofun nofun) ?_ nofun nofun (okAt_done r) nofun ?_
    · intro u hu
      rw [hst]
      exact iff_of_false nofun (fun e => hu (Option.some.inj e).symm)
    · intro e
      rw [saidExists_done, ← hpc] at e
      exact inv.exists_sound t e
  -- returned: no step
  next => exact nofun

theorem reachable_inv (P : Params) (tbl0 : Nat → Option Nat) (pk : PickOK P) (hcul : P.checkUnderLock = true)
    (h0 : ∀ i j a, tbl0 i = some a → tbl0 j = some a → i = j) (hb : ∀ k, P.cap ≤ k → tbl0 k = none)
    (s : Sys) (h : Reachable P tbl0 s) : Inv P tbl0 s := by
  induction h with
  | init => exact inv_init P tbl0 h0 hb
  | step t _ hs ih => exact inv_step P tbl0 pk hcul _ _ t ih hs

theorem done_ok_of_rest {c : PC} {k : Nat} (hc : c = .start ∨ ∃ r, c = .done r)
    (h : c = .assigned k ∨ okAt c = some k) : c = .done (.ok k) := by
  rcases hc with rfl | ⟨r, rfl⟩
  · simp [okAt] at h
  · cases r with
    | ok l => simpa [okAt] using h
    | exists_ => simp [okAt] at h
    | noSlot => simp [okAt] at h

/-- for the witness runs: `h` is closed once the parameters and the schedule are, and is then checked by
evaluation. -/
theorem exists_of_any_decide {α : Type} {o : Option α} {R φ : α → Prop} [DecidablePred φ]
    (hR : ∀ a, o = some a → R a) (h : o.any (fun a => decide (φ a)) = true) : ∃ a, R a ∧ φ a := by
  obtain ⟨a, e, ha⟩ := (Option.any_eq_true _ _).1 h
  exact ⟨a, hR a e, of_decide_eq_true ha⟩

end PttVerif.C15
