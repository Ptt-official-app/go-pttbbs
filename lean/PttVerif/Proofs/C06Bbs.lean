import PttVerif.Proofs.C06Page
/-
C06 — the `bbs` level, on real file names.  The cursor text of an index entry whose name is in the article-id domain
of C13 designates that entry; hence the client loop over cursor texts follows the abstract walk page by page.  Last,
the cached total: what `SetBTotal` leaves after a post and what `GetBTotalWithRetry` answers on a cold cache.
-/
namespace PttVerif.C06
open PttVerif

section Bbs
open PttVerif.C13

/-! ### the cursor text of an index entry designates that entry (names of the article-id domain) -/

theorem splitAt64_no64 : ∀ (l : List Nat), (∀ c ∈ l, c ≠ 64) → splitAt64 l = [l] := by
  intro l
  induction l with
  | nil => intro _; rfl
  | cons c cs ih =>
    intro h
    have hc : c ≠ 64 := h c (by simp)
    unfold splitAt64
    rw [ih (fun x hx => h x (by simp [hx]))]
    simp [hc]

theorem splitAt64_one : ∀ (a b : List Nat), (∀ c ∈ a, c ≠ 64) → (∀ c ∈ b, c ≠ 64) →
    splitAt64 (a ++ [64] ++ b) = [a, b] := by
  intro a
  induction a with
  | nil =>
    intro b _ hb
    simp only [List.nil_append, List.cons_append]
    unfold splitAt64
    rw [splitAt64_no64 b hb]; simp
  | cons c cs ih =>
    intro b ha hb
    have hc : c ≠ 64 := ha c (by simp)
    simp only [List.cons_append]
    unfold splitAt64
    rw [ih b (fun x hx => ha x (by simp [hx])) hb]; simp [hc]

theorem toArticleID_ne64 (f : List Nat) : ∀ c ∈ toArticleID f, c ≠ 64 := by
  intro c hc
  exact toAidcAux_forall (· ≠ 64) (fun i h => (table_facts' i h).2.1) 8 _ [] (fun _ h => nomatch h) c
    (mem_of_mem_cstr hc)

theorem markDeleted_cons (a b : Nat) (l : List Nat) : Props.markDeleted (a :: b :: l) = 46 :: 100 :: l := rfl

theorem key_cons (a b : Nat) (l : List Nat) : (absEntry (a :: b :: l)).key = cstr l := rfl

theorem fnCreateTime_render (isM : Bool) (t p : Nat) (h : InDomain t p) :
    fnCreateTime (render isM t p) = some (t : Int) := by
  rw [render_tail]
  exact fnCreateTime_tail _ 46 t p _ h.2.1

theorem fnCreateTime_deleted (isM : Bool) (t p : Nat) (h : InDomain t p) :
    fnCreateTime (Props.markDeleted (render isM t p)) = some (t : Int) := by
  rw [render_tail, markDeleted_cons]
  exact fnCreateTime_tail 46 100 t p _ h.2.1

theorem key_render (isM : Bool) (t p : Nat) :
    (absEntry (render isM t p)).key = (absEntry (render true t p)).key := by
  rw [render_tail, render_tail, key_cons, key_cons]

theorem key_deleted (isM : Bool) (t p : Nat) :
    (absEntry (Props.markDeleted (render isM t p))).key = (absEntry (render true t p)).key := by
  rw [render_tail, render_tail, markDeleted_cons, key_cons, key_cons]

theorem atoi64_of_digit (d : Nat) (ds : List Nat) (h : isDigit d = true) :
    atoi64 (d :: ds) = atoi64Digits false (d :: ds) := by
  unfold atoi64
  split
  · rename_i heq; cases heq; cases h
  · rename_i heq; cases heq; cases h
  · rfl

theorem atoi64_digitsFixed10 (t : Nat) (h1 : 10 ^ 9 ≤ t) (h2 : t < 2 ^ 31) :
    atoi64 (digitsFixed 10 t) = some (t : Int) := by
  have hdv : decVal (digitsFixed 10 t) 0 = some t := by
    rw [decVal_digitsFixed 10 t 0, Nat.zero_mul, Nat.zero_add, Nat.mod_eq_of_lt (by omega)]
  cases hd : digitsFixed 10 t with
  | nil => exact absurd (hd ▸ digitsFixed_length 10 t) (by decide)
  | cons d ds =>
    rw [atoi64_of_digit d ds (digitsFixed_isDigit 10 t d (by rw [hd]; exact List.mem_cons_self)), ← hd]
    unfold atoi64Digits
    rw [hdv, hd]
    simp only [List.isEmpty_cons, Bool.false_eq_true, if_false]
    rw [if_pos (by omega)]
    rfl

/-- core of the round trip: a name with creation time `t` whose article id is that of `render isM' t p`. -/
theorem cursor_core (t p : Nat) (nm : Name) (isM' : Bool) (hd : InDomain t p) (hct : fnCreateTime nm = some (t : Int))
    (haid : toArticleID nm = toArticleID (render isM' t p)) :
    deserializeIdx (serializeIdx nm) = .ok ((t : Int), render isM' t p) := by
  obtain ⟨h1, h2, _⟩ := id hd
  unfold serializeIdx
  rw [hct, haid]
  simp only [Option.getD_some]
  rw [intToDec_ofNat t h1 (Nat.lt_trans h2 (by decide))]
  unfold deserializeIdx
  rw [splitAt64_one _ _ (fun c hc => by
      have := digitsFixed_isDigit 10 t c hc
      intro e; subst e; simp [isDigit] at this) (toArticleID_ne64 _)]
  simp only
  rw [atoi64_digitsFixed10 t h1 h2]
  simp only
  rw [Props.articleId_roundtrip isM' t p hd]
  simp only [liftFault]
  rw [fnCreateTime_render isM' t p hd, toInt32_ofNat t h2]
  simp

theorem absEntry_time (nm : Name) : (absEntry nm).time? = fnCreateTime nm := rfl

/-- the next-page cursor text made from a live index entry of the article-id domain deserialises to that
entry's creation time and to a file name with that entry's key. -/
theorem cursor_roundtrip_live (isM : Bool) (t p : Nat) (hd : InDomain t p) :
    ∃ fnm, deserializeIdx (serializeIdx (render isM t p)) = .ok ((t : Int), fnm) ∧
      (absEntry (render isM t p)).time? = some (t : Int) ∧
      (absEntry fnm).key = (absEntry (render isM t p)).key := by
  refine ⟨render isM t p, cursor_core t p _ isM hd (fnCreateTime_render isM t p hd) (Eq.refl _), ?_, Eq.refl _⟩
  rw [absEntry_time]; exact fnCreateTime_render isM t p hd

/-- the same for a delete-marked entry (repair 7c79b33): the cursor designates the marked entry itself. -/
theorem cursor_roundtrip_deleted (isM : Bool) (t p : Nat) (hd : InDomain t p) :
    ∃ fnm, deserializeIdx (serializeIdx (Props.markDeleted (render isM t p))) = .ok ((t : Int), fnm) ∧
      (absEntry (Props.markDeleted (render isM t p))).time? = some (t : Int) ∧
      (absEntry fnm).key = (absEntry (Props.markDeleted (render isM t p))).key := by
  refine ⟨render true t p, cursor_core t p _ true hd (fnCreateTime_deleted isM t p hd)
    (Props.toArticleID_deleted isM t p), ?_, (key_deleted isM t p).symm⟩
  rw [absEntry_time]; exact fnCreateTime_deleted isM t p hd

/-! ### the `bbs.LoadGeneralArticles` loop follows the abstract walk -/

theorem pttLoad_next {idx : Index} {total start : Int} {n : Nat} {isDesc : Bool} {p : Page Entry}
    (h : pttLoad idx total start n isDesc = .ok p) {pos : Int} {e : Entry} (hn : p.next = some (pos, e)) :
    e = ent idx (pos - 1) := by
  unfold pttLoad pttLoadWith at h
  by_cases ht : total = 0
  · rw [if_pos ht] at h; cases h; cases hn
  · rw [if_neg ht] at h
    simp only at h
    generalize (if start = 0 ∧ isDesc = true then total else start) = s at h
    by_cases h1 : s < 1
    · unfold getRecords at h; rw [if_pos h1] at h; cases h
    · rw [getRecords_spec idx s _ isDesc (Int.not_lt.mp h1) (Int.le_add_one (Int.natCast_nonneg n))] at h
      simp only at h
      split at h
      · cases h
        rw [List.getElem?_map] at hn
        cases hx : (Spec.window idx.length s ((n : Int) + 1).toNat isDesc)[n]? with
        | none => rw [hx] at hn; cases hn
        | some x => rw [hx] at hn; cases hn; rfl
      · cases h; cases hn

/-- the page `bbs.LoadGeneralArticles` builds from a ptt page. -/
def toBbsPage (names : List Name) (p : Page Entry) : BbsPage :=
  ⟨p.start, p.isNewest, p.items.map (·.1),
    match p.next with
    | none => []
    | some (pos, _) => serializeIdx (names.getD (pos - 1).toNat [])⟩

theorem getBTotal_fresh (names : List Name) :
    getBTotalWithRetry names names.length = (.ok (names.length : Int), (names.length : Int)) := by
  unfold getBTotalWithRetry
  cases names with
  | nil => rfl
  | cons a l => exact if_pos (Int.ne_of_gt (Int.ofNat_lt.mpr (Nat.succ_pos _)))

/-- what links a cursor text to the position the abstract walk is at: the empty text of the first call and the first
position, or a text that positions on `start` (fresh total). -/
def Positions (names : List Name) (isDesc : Bool) (cursor : List Nat) (start : Int) : Prop :=
  (cursor = [] ∧ start = (if isDesc then 0 else 1)) ∨
    (cursor ≠ [] ∧ ∃ ct fnm, deserializeIdx cursor = .ok (ct, fnm) ∧
      pttFindStart (names.map absEntry) names.length ct (some (absEntry fnm).key) isDesc = .ok start)

theorem bbsLoad_page (names : List Name) (n : Nat) (hn : 1 ≤ n) (isDesc : Bool) {cursor : List Nat} {start : Int}
    (hcur : Positions names isDesc cursor start) {p : Page Entry}
    (hp : pttLoad (names.map absEntry) names.length start n isDesc = .ok p) :
    bbsLoad names names.length cursor n isDesc = (.ok (toBbsPage names p), (names.length : Int)) := by
  unfold bbsLoad
  rw [if_neg (by omega)]
  rcases hcur with ⟨rfl, rfl⟩ | ⟨hne, ct, fnm, hd, hfs⟩
  · simp only [List.isEmpty_nil, if_true, getBTotal_fresh, Int.toNat_natCast, hp]
    rfl
  · have he : cursor.isEmpty = false := by cases cursor <;> simp_all
    simp only [he, Bool.false_eq_true, if_false, hd, getBTotal_fresh, hfs, Int.toNat_natCast, hp]
    rfl

/-- every name of the board file is a name of the article-id domain (live or delete-marked) or has no
parsable creation time. -/
def NamesOK (names : List Name) : Prop :=
  ∀ nm ∈ names, fnCreateTime nm = none ∨
    ∃ isM t p, InDomain t p ∧ (nm = render isM t p ∨ nm = Props.markDeleted (render isM t p))

theorem serializeIdx_ne_nil (nm : Name) : serializeIdx nm ≠ [] := by
  unfold serializeIdx; simp

theorem cursor_of_name {nm : Name}
    (h : ∃ isM t p, InDomain t p ∧ (nm = render isM t p ∨ nm = Props.markDeleted (render isM t p))) :
    ∃ (t : Int) (fnm : Name), deserializeIdx (serializeIdx nm) = .ok (t, fnm) ∧
      (absEntry nm).time? = some t ∧ (absEntry fnm).key = (absEntry nm).key := by
  obtain ⟨isM, t, p, hd, h | h⟩ := h
  · subst h
    obtain ⟨fnm, h1, h2, h3⟩ := cursor_roundtrip_live isM t p hd
    exact ⟨t, fnm, h1, h2, h3⟩
  · subst h
    obtain ⟨fnm, h1, h2, h3⟩ := cursor_roundtrip_deleted isM t p hd
    exact ⟨t, fnm, h1, h2, h3⟩

theorem ent_map_absEntry (names : List Name) (i : Int) (h0 : 0 ≤ i) (h1 : i < names.length) :
    ent (names.map absEntry) i = absEntry (names.getD i.toNat []) ∧ names.getD i.toNat [] ∈ names := by
  have hlt : i.toNat < names.length := by omega
  refine ⟨?_, ?_⟩
  · rw [ent_eq_getElem h0 (by simpa using hlt)]
    simp [List.getD, List.getElem?_eq_getElem hlt]
  · simp [List.getD, List.getElem?_eq_getElem hlt]

/-- the `bbs` client loop follows the abstract walk page by page: whenever the abstract walk over the
entries `(time?, key)` of the names succeeds, the `bbs.LoadGeneralArticles` loop over the cursor texts ends
normally with the same pages (fresh cached total, any page budget `fuel`). -/
theorem bbsWalk_sim (names : List Name) (hok : NamesOK names) (n : Nat) (hn : 1 ≤ n) (isDesc : Bool) :
    ∀ (fuel : Nat) (cursor : List Nat) (start : Int) (pages : List (List Int)),
      Positions names isDesc cursor start →
      walkFrom (names.map absEntry) names.length n isDesc fuel start = .ok pages →
      ∃ bp, bbsWalk names n isDesc fuel names.length cursor = (bp, "end") ∧ bp.map (·.items) = pages := by
  intro fuel
  induction fuel with
  | zero => intro cursor start pages _ hw; simp [walkFrom] at hw
  | succ f ih =>
    intro cursor start pages hcur hw
    unfold walkFrom at hw
    cases hp : pttLoad (names.map absEntry) names.length start n isDesc with
    | error e => rw [hp] at hw; cases hw
    | ok p =>
      rw [hp] at hw
      simp only at hw
      unfold bbsWalk
      rw [bbsLoad_page names n hn isDesc hcur hp]
      simp only
      cases hnext : p.next with
      | none =>
        rw [hnext] at hw
        simp only at hw
        have hpages : pages = [p.items.map (·.1)] := by cases hw; rfl
        refine ⟨[toBbsPage names p], ?_, by rw [hpages]; rfl⟩
        rw [show (toBbsPage names p).nextIdx = [] by unfold toBbsPage; rw [hnext]]
        rfl
      | some x =>
        obtain ⟨pos, e⟩ := x
        rw [hnext] at hw
        simp only at hw
        have he := pttLoad_next hp hnext
        cases ht : e.time? with
        | none => rw [ht] at hw; cases hw
        | some t =>
          rw [ht] at hw
          simp only at hw
          cases hfs : pttFindStart (names.map absEntry) (names.length : Int) t (some e.key) isDesc with
          | error err => rw [hfs] at hw; cases hw
          | ok s =>
            rw [hfs] at hw
            simp only at hw
            cases hrest : walkFrom (names.map absEntry) (names.length : Int) n isDesc f s with
            | error err => rw [hrest] at hw; cases hw
            | ok rest =>
              rw [hrest] at hw
              have hpages : pages = p.items.map (·.1) :: rest := by cases hw; rfl
              -- the look-ahead element is parsable, so it is a record of the file; its name is in the domain,
              -- so its cursor text round-trips
              obtain ⟨hp1, hp2⟩ := tm_some_range (t := t) (by unfold tm; rw [← he]; exact ht)
              obtain ⟨hent, hmem⟩ := ent_map_absEntry names (pos - 1) hp1 (by rwa [List.length_map] at hp2)
              rw [hent] at he
              have htime : (absEntry (names.getD (pos - 1).toNat [])).time? = some t := he ▸ ht
              rcases hok _ hmem with hbad | hdom
              · rw [absEntry_time, hbad] at htime; cases htime
              · obtain ⟨t', fnm, hd1, hd2, hd3⟩ := cursor_of_name hdom
                have htt : t' = t := Option.some.inj (hd2.symm.trans htime)
                subst htt
                have hkey : (absEntry fnm).key = e.key := by rw [hd3, he]
                obtain ⟨bp, hb1, hb2⟩ := ih (serializeIdx (names.getD (pos - 1).toNat [])) s rest
                  (Or.inr ⟨serializeIdx_ne_nil _, t', fnm, hd1, by rw [hkey]; exact hfs⟩) hrest
                refine ⟨toBbsPage names p :: bp, ?_, ?_⟩
                · have hne : (toBbsPage names p).nextIdx = serializeIdx (names.getD (pos - 1).toNat []) := by
                    unfold toBbsPage; rw [hnext]
                  rw [hne, List.isEmpty_eq_false_iff.mpr (serializeIdx_ne_nil _), hb1]
                  rfl
                · rw [hpages, List.map_cons, hb2]; rfl

/-! ### the cached total after a post and on a cold cache -/

theorem setBTotal_count (names : List Name) : (setBTotal names).2 = names.length := by
  unfold setBTotal
  cases h : names.getLast? with
  | none =>
    have : names = [] := by simpa using h
    subst this; rfl
  | some last =>
    simp only
    split
    · rfl
    · split <;> rfl

theorem setBTotal_ok (names : List Name) (nm : Name) (t : Int) (ht : fnCreateTime nm = some t) :
    (setBTotal (names ++ [nm])).1 = .ok () := by
  unfold setBTotal
  simp only [List.getLast?_append, List.getLast?_singleton, Option.some_or, ht]
  split <;> rfl

/-- looking the newest article up by its own name with a cached total equal to the record count finds it at
the last position, both directions. -/
theorem findNewest_synced (names : List Name) (nm : Name) (hlast : names.getLast? = some nm) (t : Int)
    (ht : fnCreateTime nm = some t) (S : SortedT (names.map absEntry) (names.map absEntry).length)
    (U : UniqueKeysT (names.map absEntry) (names.map absEntry).length) (isDesc : Bool) :
    findNewest names names.length isDesc = (.ok (names.length : Int), (names.length : Int)) := by
  have hL : (1 : Int) ≤ names.length := by
    cases names with
    | nil => cases hlast
    | cons a l => exact Int.ofNat_le.mpr (Nat.succ_pos _)
  have hnm : names.getD ((names.length : Int) - 1).toNat [] = nm := by
    rw [List.getLast?_eq_getElem?] at hlast
    rw [show ((names.length : Int) - 1).toNat = names.length - 1 from
      (Int.toNat_sub' names.length 1).trans (congrArg (· - 1) (Int.toNat_natCast _)),
      List.getD_eq_getElem?_getD, hlast]
    rfl
  obtain ⟨hent, _⟩ := ent_map_absEntry names ((names.length : Int) - 1) (Int.sub_nonneg_of_le hL)
    (Int.sub_one_lt_of_le (Int.le_refl _))
  rw [hnm] at hent
  have hfind := pttFindStart_present S U ((names.length : Int) - 1) t (by unfold tm; rw [hent]; exact ht) isDesc
  rw [hent, List.length_map, Int.sub_add_cancel] at hfind
  unfold findNewest
  rw [hlast]
  simp only [ht]
  rw [getBTotal_fresh]
  simp only
  rw [hfind]

theorem getBTotal_cold (names : List Name) (hne : names ≠ [])
    (hlast : ∀ last, names.getLast? = some last → cstr last = [46, 100] ∨ ∃ t, fnCreateTime last = some t) :
    getBTotalWithRetry names 0 = (.ok (names.length : Int), (names.length : Int)) := by
  unfold getBTotalWithRetry
  simp only [ne_eq, not_true_eq_false, if_false]
  cases h : names.getLast? with
  | none => exact absurd (by simpa using h) hne
  | some last =>
    simp only
    rcases hlast last h with hd | ⟨t, ht⟩
    · rw [if_pos hd]
    · split
      · rfl
      · rw [ht]

end Bbs

end PttVerif.C06
