import PttVerif.Model.C05
/-
C05 — lemmas about the model of the record-file operations (Model/C05.lean).

Apart from the unlink in `setBottomTotalG`, an operation of the model leaves the file alone or performs `writeAt`s,
each inside the byte range of one record.  So the frame facts are stated once for `writeAt` — pointwise, per record
and for the record list — and each operation gets a closed form or a case rule that exposes its `writeAt`.  In `…_nat`
the Go index (an `Int`) is the cast of a natural, in `…_succ` it is `k + 1` (the 1-based indices).
-/
namespace PttVerif.C05
open PttVerif

/-! ### `writeAt` -/

theorem writeAt_nil (f : File) (off : Nat) : writeAt f off [] = f := rfl

theorem writeAt_ne_nil (f : File) (off : Nat) (bs : List Nat) (h : bs ≠ []) :
    writeAt f off bs = f.take off ++ List.replicate (off - f.length) 0 ++ bs ++ f.drop (off + bs.length) := by
  cases bs with
  | nil => exact absurd rfl h
  | cons b bs => rfl

theorem length_front (f : File) (off : Nat) :
    (f.take off ++ List.replicate (off - f.length) 0).length = off := by
  rw [List.length_append, List.length_take, List.length_replicate, Nat.add_comm, Nat.sub_add_min_cancel]

theorem length_writeAt (f : File) (off : Nat) (bs : List Nat) (h : bs ≠ []) :
    (writeAt f off bs).length = max f.length (off + bs.length) := by
  rw [writeAt_ne_nil f off bs h, List.length_append, List.length_append, length_front, List.length_drop,
    Nat.add_comm, Nat.sub_add_eq_max]

theorem length_writeAt_ge (f : File) (off : Nat) (bs : List Nat) :
    f.length ≤ (writeAt f off bs).length := by
  by_cases h : bs = []
  · subst h; exact Nat.le_refl _
  · rw [length_writeAt f off bs h]; exact Nat.le_max_left _ _

theorem length_writeAt_inside (f : File) (off : Nat) (bs : List Nat) (h : off + bs.length ≤ f.length) :
    (writeAt f off bs).length = f.length := by
  by_cases hb : bs = []
  · subst hb; rfl
  · rw [length_writeAt f off bs hb]; exact Nat.max_eq_left h

theorem getElem?_writeAt_before (f : File) (off : Nat) (bs : List Nat) (p : Nat)
    (hp : p < off) (hf : p < f.length) : (writeAt f off bs)[p]? = f[p]? := by
  by_cases hb : bs = []
  · subst hb; rfl
  · have h1 : p < (f.take off).length := by rw [List.length_take]; exact Nat.lt_min.2 ⟨hp, hf⟩
    rw [writeAt_ne_nil f off bs hb, List.append_assoc, List.append_assoc, List.getElem?_append_left h1,
      List.getElem?_take_of_lt hp]

theorem getElem?_writeAt_after (f : File) (off : Nat) (bs : List Nat) (p : Nat)
    (hp : off + bs.length ≤ p) : (writeAt f off bs)[p]? = f[p]? := by
  by_cases hb : bs = []
  · subst hb; rfl
  · have hl : (f.take off ++ List.replicate (off - f.length) 0 ++ bs).length = off + bs.length := by
      rw [List.length_append, length_front]
    rw [writeAt_ne_nil f off bs hb, List.getElem?_append_right (by rw [hl]; exact hp), hl, List.getElem?_drop,
      Nat.add_sub_cancel' hp]

theorem getElem?_writeAt_in (f : File) (off : Nat) (bs : List Nat) (p : Nat)
    (h1 : off ≤ p) (h2 : p < off + bs.length) : (writeAt f off bs)[p]? = bs[p - off]? := by
  have hb : bs ≠ [] := by intro h; subst h; exact absurd h2 (Nat.not_lt.2 h1)
  have hl := length_front f off
  rw [writeAt_ne_nil f off bs hb, List.append_assoc (f.take off ++ List.replicate (off - f.length) 0),
    List.getElem?_append_right (by rw [hl]; exact h1), hl,
    List.getElem?_append_left (Nat.sub_lt_left_of_lt_add h1 h2)]

theorem getElem?_writeAt_gap (f : File) (off : Nat) (bs : List Nat) (p : Nat) (hb : bs ≠ [])
    (h1 : f.length ≤ p) (h2 : p < off) : (writeAt f off bs)[p]? = some 0 := by
  have hlt : p - f.length < off - f.length := Nat.sub_lt_sub_right h1 h2
  have hl : (f.take off).length = f.length := by
    rw [List.length_take]; exact Nat.min_eq_right (Nat.le_of_lt (Nat.lt_of_le_of_lt h1 h2))
  rw [writeAt_ne_nil f off bs hb, List.append_assoc, List.append_assoc,
    List.getElem?_append_right (by rw [hl]; exact h1), hl,
    List.getElem?_append_left (by rw [List.length_replicate]; exact hlt), List.getElem?_replicate, if_pos hlt]

theorem getElem?_writeAt_outside (f : File) (off : Nat) (bs : List Nat) (p : Nat) (hf : p < f.length)
    (h : p < off ∨ off + bs.length ≤ p) : (writeAt f off bs)[p]? = f[p]? := by
  rcases h with h | h
  · exact getElem?_writeAt_before f off bs p h hf
  · exact getElem?_writeAt_after f off bs p h

/-- `writeAt`, `setField` and `copyField` all splice: `x` replaces what stood at `[off, off + n)`. -/
theorem length_splice (r x : List Nat) (off n : Nat) (h : off + n ≤ r.length) (hx : x.length = n) :
    (r.take off ++ x ++ r.drop (off + n)).length = r.length := by
  rw [List.length_append, List.length_append, List.length_take, List.length_drop, hx,
    Nat.min_eq_left (Nat.le_trans (Nat.le_add_right off n) h), Nat.add_sub_cancel' h]

theorem take_splice (r x y : List Nat) (off k : Nat) (hk : k ≤ off) (h : k ≤ r.length) :
    (r.take off ++ x ++ y).take k = r.take k := by
  rw [List.append_assoc, List.take_append_of_le_length (by rw [List.length_take]; exact Nat.le_min.2 ⟨hk, h⟩),
    List.take_take, Nat.min_eq_left hk]

theorem take_writeAt (f : File) (off : Nat) (bs : List Nat) (k : Nat) (hk : k ≤ off) (hf : k ≤ f.length) :
    (writeAt f off bs).take k = f.take k := by
  by_cases hb : bs = []
  · subst hb; rfl
  · rw [writeAt_ne_nil f off bs hb, List.append_assoc (_ ++ _), take_splice f _ _ off k hk hf]

/-! ### byte positions and record indices -/

theorem mul_succ_le_of_lt_div {n sz k : Nat} (h : k < n / sz) : (k + 1) * sz ≤ n :=
  Nat.mul_le_of_le_div sz (k + 1) n h

theorem div_mul_le' (n sz : Nat) : n / sz * sz ≤ n := Nat.div_mul_le_self n sz

theorem outside_of_div_ne {p sz n : Nat} (h : p / sz ≠ n) : p < n * sz ∨ (n + 1) * sz ≤ p := by
  rcases Nat.lt_or_ge p (n * sz) with h1 | h1
  · left; exact h1
  · rcases Nat.lt_or_ge p ((n + 1) * sz) with h2 | h2
    · exact absurd (Nat.div_eq_of_lt_le h1 h2) h
    · right; exact h2

theorem add_le_succ_mul (i sz n : Nat) (h : n ≤ sz) : i * sz + n ≤ (i + 1) * sz := by
  rw [Nat.succ_mul]; exact Nat.add_le_add_left h _

theorem exists_natCast_succ {i : Int} (h : 1 ≤ i) : ∃ k : Nat, i = (k : Int) + 1 :=
  ⟨(i - 1).toNat, by omega⟩

/-! ### `record`: one record under `writeAt` -/

theorem getElem?_record (f : File) (sz i j : Nat) :
    (record f sz i)[j]? = if j < sz then f[i * sz + j]? else none := by
  unfold record
  rw [List.getElem?_take]
  split
  · rw [List.getElem?_drop]
  · rfl

theorem length_record (f : File) (sz i : Nat) : (record f sz i).length = min sz (f.length - i * sz) := by
  unfold record
  rw [List.length_take, List.length_drop]

theorem length_record_of_le (f : File) (sz i : Nat) (h : (i + 1) * sz ≤ f.length) :
    (record f sz i).length = sz := by
  rw [Nat.succ_mul] at h
  rw [length_record, Nat.min_eq_left (Nat.le_sub_of_add_le' h)]

theorem length_writeAt_record {f : File} {sz i : Nat} {bs : List Nat} (hbs : bs.length ≤ sz)
    (hi : i < f.length / sz) : (writeAt f (i * sz) bs).length = f.length :=
  length_writeAt_inside _ _ _ (Nat.le_trans (add_le_succ_mul i sz _ hbs) (mul_succ_le_of_lt_div hi))

theorem getElem?_writeAt_of_div_ne (f : File) (off : Nat) (bs : List Nat) (sz k p : Nat) (h1 : k * sz ≤ off)
    (h2 : off + bs.length ≤ (k + 1) * sz) (hp : p < f.length) (hne : p / sz ≠ k) :
    (writeAt f off bs)[p]? = f[p]? := by
  apply getElem?_writeAt_outside f off bs p hp
  rcases outside_of_div_ne hne with h | h
  · left; exact Nat.lt_of_lt_of_le h h1
  · right; exact Nat.le_trans h2 h

theorem record_congr {f g : File} {sz k : Nat} (h : ∀ p, k * sz ≤ p → p < (k + 1) * sz → g[p]? = f[p]?) :
    record g sz k = record f sz k := by
  apply List.ext_getElem?
  intro j
  rw [getElem?_record, getElem?_record]
  by_cases hj : j < sz
  · rw [if_pos hj, if_pos hj]
    exact h _ (Nat.le_add_right _ _) (by rw [Nat.succ_mul]; exact Nat.add_lt_add_left hj _)
  · rw [if_neg hj, if_neg hj]

theorem record_writeAt_other {f : File} {off : Nat} {bs : List Nat} {sz k : Nat}
    (hk : (k + 1) * sz ≤ f.length) (h : off + bs.length ≤ k * sz ∨ (k + 1) * sz ≤ off) :
    record (writeAt f off bs) sz k = record f sz k := by
  apply record_congr
  intro p h1 h2
  apply getElem?_writeAt_outside f off bs p (Nat.lt_of_lt_of_le h2 hk)
  rcases h with h | h
  · exact Or.inr (Nat.le_trans h h1)
  · exact Or.inl (Nat.lt_of_lt_of_le h2 h)

theorem record_eq_of_frame {f g : File} {sz k : Nat} {i : Int} (hk : k < f.length / sz) (hne : (k : Int) ≠ i)
    (h : ∀ p, p < f.length → ((p / sz : Nat) : Int) ≠ i → g[p]? = f[p]?) : record g sz k = record f sz k := by
  apply record_congr
  intro p h1 h2
  apply h p (Nat.lt_of_lt_of_le h2 (mul_succ_le_of_lt_div hk))
  rw [Nat.div_eq_of_lt_le h1 h2]
  exact hne

theorem record_writeAt_ne {f : File} {sz i k : Nat} {bs : List Nat} (hbs : bs.length ≤ sz)
    (hk : k < f.length / sz) (h : i ≠ k) : record (writeAt f (i * sz) bs) sz k = record f sz k := by
  apply record_writeAt_other (mul_succ_le_of_lt_div hk)
  rcases Nat.lt_or_gt_of_ne h with h | h
  · exact Or.inl (Nat.le_trans (add_le_succ_mul i sz _ hbs) (Nat.mul_le_mul_right sz h))
  · exact Or.inr (Nat.mul_le_mul_right sz h)

/-- the short writes at the start of a record: a delete mark, a whole image. -/
theorem record_writeAt_prefix {f : File} {sz i : Nat} {m : List Nat} (hm : m.length ≤ sz) :
    record (writeAt f (i * sz) m) sz i = m ++ (record f sz i).drop m.length := by
  by_cases hm0 : m = []
  · subst hm0; rfl
  · unfold record
    rw [writeAt_ne_nil _ _ _ hm0, List.append_assoc, List.drop_left' (length_front f (i * sz)), List.take_append,
      List.take_of_length_le hm, List.drop_take, List.drop_drop]

theorem record_writeAt_same {f : File} {sz i : Nat} {img : List Nat} (h : img.length = sz) :
    record (writeAt f (i * sz) img) sz i = img := by
  rw [record_writeAt_prefix (Nat.le_of_eq h), List.drop_eq_nil_of_le, List.append_nil]
  rw [length_record, h]; exact Nat.min_le_left _ _

/-! ### `recs`: the list of complete records under `writeAt` -/

theorem length_recs (f : File) (sz : Nat) : (recs f sz).length = f.length / sz := by
  unfold recs
  rw [List.length_map, List.length_range]

theorem getElem?_recs (f : File) (sz k : Nat) :
    (recs f sz)[k]? = if k < f.length / sz then some (record f sz k) else none := by
  unfold recs
  rw [List.getElem?_map]
  by_cases h : k < f.length / sz
  · rw [if_pos h, List.getElem?_range h]; rfl
  · rw [if_neg h, List.getElem?_eq_none (by rw [List.length_range]; exact Nat.le_of_not_lt h)]; rfl

theorem getD_recs {f : File} {sz k : Nat} (hk : k < f.length / sz) : (recs f sz).getD k [] = record f sz k := by
  rw [List.getD_eq_getElem?_getD, getElem?_recs, if_pos hk]; rfl

theorem recs_writeAt {f : File} {sz i : Nat} {bs : List Nat} (hbs : bs.length ≤ sz) (hi : i < f.length / sz) :
    recs (writeAt f (i * sz) bs) sz = (recs f sz).set i (bs ++ (record f sz i).drop bs.length) := by
  apply List.ext_getElem?
  intro k
  rw [getElem?_recs, length_writeAt_record hbs hi, List.getElem?_set, length_recs]
  by_cases hik : i = k
  · subst hik
    rw [if_pos rfl, if_pos hi, if_pos hi, record_writeAt_prefix hbs]
  · rw [if_neg hik, getElem?_recs]
    by_cases hk : k < f.length / sz
    · rw [if_pos hk, if_pos hk, record_writeAt_ne hbs hk hik]
    · rw [if_neg hk, if_neg hk]

theorem recs_writeAt_full {f : File} {sz i : Nat} {img : List Nat} (himg : img.length = sz) (hi : i < f.length / sz) :
    recs (writeAt f (i * sz) img) sz = (recs f sz).set i img := by
  rw [recs_writeAt (Nat.le_of_eq himg) hi, List.drop_eq_nil_of_le, List.append_nil]
  rw [length_record, himg]; exact Nat.min_le_left _ _

/-! ### AppendRecord -/

theorem length_append_div {g t : List Nat} {sz n : Nat} (hg : g.length = n * sz) (ht : t.length < sz) :
    (g ++ t).length / sz = n := by
  rw [List.length_append, hg]
  exact Nat.div_eq_of_lt_le (Nat.le_add_right _ _) (by rw [Nat.succ_mul]; exact Nat.add_lt_add_left ht _)

theorem appendBytes_eq {f : File} {sz : Nat} {img : List Nat} (hsz : 0 < sz) (himg : img.length = sz) :
    appendBytes f sz img = (f.take (f.length / sz * sz) ++ img, f.length / sz + 1) := by
  have hne : img ≠ [] := List.ne_nil_of_length_pos (by rw [himg]; exact hsz)
  have h1 := div_mul_le' f.length sz
  have h2 := Nat.lt_div_mul_add (a := f.length) hsz
  simp only [appendBytes]
  rw [writeAt_ne_nil _ _ _ hne, Nat.sub_eq_zero_of_le h1, List.drop_eq_nil_of_le (by rw [himg]; exact Nat.le_of_lt h2),
    List.append_nil, List.replicate_zero, List.append_nil]

/-- appending one full image adds exactly one record at the end (whatever the torn tail was). -/
theorem recs_append {f : File} {sz : Nat} {img : List Nat} (hsz : 0 < sz) (himg : img.length = sz) :
    recs (appendBytes f sz img).1 sz = recs f sz ++ [img] := by
  have hne : img ≠ [] := List.ne_nil_of_length_pos (by rw [himg]; exact hsz)
  have hlen : (writeAt f (f.length / sz * sz) img).length / sz = f.length / sz + 1 := by
    rw [length_writeAt _ _ _ hne, himg, Nat.max_eq_right (Nat.le_of_lt (Nat.lt_div_mul_add hsz)), ← Nat.succ_mul,
      Nat.mul_div_cancel _ hsz]
  simp only [appendBytes]
  unfold recs
  rw [hlen, List.range_succ, List.map_append, List.map_singleton, record_writeAt_same himg]
  congr 1
  apply List.map_congr_left
  intro k hk
  have hk := List.mem_range.1 hk
  exact record_writeAt_other (mul_succ_le_of_lt_div hk) (Or.inr (Nat.mul_le_mul_right sz hk))

/-! ### SubstituteRecord / DeleteRecord -/

theorem writeRecordAt_nat (s : FS) (sz n : Nat) (bs : List Nat) :
    writeRecordAt s sz (n : Int) bs = (⟨true, writeAt s.bytes (n * sz) bs⟩, .unit .ok) := by
  have h : ¬ ((n : Int) * (sz : Int) < 0) :=
    Int.not_lt.2 (Int.mul_nonneg (Int.natCast_nonneg n) (Int.natCast_nonneg sz))
  unfold writeRecordAt
  simp only [h, if_false]
  rw [← Int.natCast_mul, Int.toNat_natCast]

theorem writeRecordAt_neg (s : FS) (sz : Nat) (i : Int) (bs : List Nat) (hsz : 0 < sz) (hi : i < 0) :
    writeRecordAt s sz i bs = (⟨true, s.bytes⟩, .unit .err) := by
  have h : i * (sz : Int) < 0 := Int.mul_neg_of_neg_of_pos hi (Int.natCast_pos.2 hsz)
  unfold writeRecordAt
  simp only [h, if_true]

theorem writeRecordAt_frame (s : FS) (sz : Nat) (i : Int) (bs : List Nat) (hsz : 0 < sz) (hbs : bs.length ≤ sz) :
    s.bytes.length ≤ (writeRecordAt s sz i bs).1.bytes.length ∧
    ∀ p, p < s.bytes.length → ((p / sz : Nat) : Int) ≠ i →
      (writeRecordAt s sz i bs).1.bytes[p]? = s.bytes[p]? := by
  rcases Int.lt_or_le i 0 with hi | hi
  · rw [writeRecordAt_neg s sz i bs hsz hi]
    exact ⟨Nat.le_refl _, fun _ _ _ => rfl⟩
  · obtain ⟨n, rfl⟩ := Int.eq_ofNat_of_zero_le hi
    rw [writeRecordAt_nat]
    refine ⟨length_writeAt_ge _ _ _, fun p hp hne => ?_⟩
    exact getElem?_writeAt_of_div_ne _ _ _ sz n p (Nat.le_refl _) (add_le_succ_mul n sz _ hbs) hp
      (fun h => hne (congrArg _ h))

/-! ### the strides of .DIR and .BRD -/

theorem dirSz_pos : 0 < dirSz := by decide

theorem dirSz_eq : dirSz = 128 := rfl

theorem brdSz_pos : 0 < brdSz := by decide

theorem mark_le_dirSz : safeDelMark.length ≤ dirSz := by decide

/-! ### GetRecords -/

theorem getLoop_out (f : File) (maxIdx : Nat) (desc : Bool) (fuel idx : Nat) (h : idx = 0 ∨ idx > maxIdx) :
    getLoop f maxIdx desc fuel idx = [] := by
  cases fuel with
  | zero => rfl
  | succ fuel => rw [getLoop, if_pos h]

theorem getLoop_in (f : File) (maxIdx : Nat) (desc : Bool) (fuel idx : Nat) (hm : maxIdx ≤ f.length / dirSz)
    (h1 : 1 ≤ idx) (h2 : idx ≤ maxIdx) :
    getLoop f maxIdx desc (fuel + 1) idx =
      (idx, record f dirSz (idx - 1)) :: getLoop f maxIdx desc fuel (if desc then idx - 1 else idx + 1) := by
  have hfull : (record f dirSz (idx - 1)).length = dirSz :=
    length_record_of_le f dirSz _ (mul_succ_le_of_lt_div
      (Nat.lt_of_lt_of_le (Nat.sub_one_lt (Nat.ne_of_gt h1)) (Nat.le_trans h2 hm)))
  rw [getLoop, if_neg (by omega)]
  show (if (record f dirSz (idx - 1)).length < dirSz then [] else _) = _
  rw [hfull, if_neg (Nat.lt_irrefl _)]

/- In the two inductions below the window length `min fuel …` is stepped by rewriting (`Nat.succ_min_succ`):
`omega` is slow on equations between `min`s of truncated differences. -/

theorem getLoop_asc (f : File) (maxIdx fuel idx : Nat) (hm : maxIdx ≤ f.length / dirSz) (h1 : 1 ≤ idx) :
    getLoop f maxIdx false fuel idx =
      (List.range' idx (min fuel (maxIdx + 1 - idx))).map (fun i => (i, record f dirSz (i - 1))) := by
  induction fuel generalizing idx with
  | zero => rw [Nat.zero_min]; rfl
  | succ fuel ih =>
    by_cases hc : idx ≤ maxIdx
    · rw [getLoop_in f maxIdx false fuel idx hm h1 hc, if_neg Bool.false_ne_true, ih (idx + 1) (Nat.le_add_left 1 idx),
        Nat.add_sub_add_right, Nat.succ_sub hc, Nat.succ_min_succ, List.range'_succ, List.map_cons]
    · rw [getLoop_out f maxIdx false _ idx (Or.inr (Nat.lt_of_not_le hc)), Nat.sub_eq_zero_of_le (Nat.lt_of_not_le hc),
        Nat.min_zero]
      rfl

theorem getLoop_desc (f : File) (maxIdx fuel idx : Nat) (hm : maxIdx ≤ f.length / dirSz) (h2 : idx ≤ maxIdx) :
    getLoop f maxIdx true fuel idx =
      (List.range (min fuel idx)).map (fun j => (idx - j, record f dirSz (idx - j - 1))) := by
  induction fuel generalizing idx with
  | zero => rw [Nat.zero_min]; rfl
  | succ fuel ih =>
    cases idx with
    | zero => rw [getLoop_out f maxIdx true _ 0 (Or.inl rfl)]; rfl
    | succ i =>
      rw [getLoop_in f maxIdx true fuel (i + 1) hm (Nat.le_add_left 1 i) h2, if_pos rfl, Nat.add_sub_cancel,
        ih i (Nat.le_of_succ_le h2), Nat.succ_min_succ, List.range_succ_eq_map, List.map_cons, List.map_map]
      simp only [Function.comp_def, Nat.succ_eq_add_one, Nat.add_sub_add_right, Nat.sub_zero, Nat.add_sub_cancel]

/-! ### Cstrcmp -/

theorem cstrcmpEq_iff (a b : List Nat) : cstrcmpEq a b = true ↔ cstr a = cstr b := by
  unfold cstr
  fun_induction cstrcmpEq a b with
  | case1 => simp
  | case2 y ys => by_cases hy : y = 0 <;> simp [List.takeWhile, hy]
  | case3 x xs => by_cases hx : x = 0 <;> simp [List.takeWhile, hx]
  | case4 x xs y ys hx =>
    simp at hx
    by_cases hy : y = 0 <;> simp [List.takeWhile, hx, hy]
  | case5 x xs y ys hx hxy =>
    simp at hx hxy
    by_cases hy : y = 0 <;> simp [List.takeWhile, hx, hy, hxy]
  | case6 x xs y ys hx hxy ih =>
    simp at hx hxy
    subst hxy
    simp [List.takeWhile, hx, ih]

/-! ### ModifyDirLite: the update of the image -/

theorem length_setField (r : List Nat) (off len : Nat) (bs : List Nat) (h : off + len ≤ r.length) :
    (setField r off len bs).length = r.length :=
  length_splice r _ off len h (copyInto_length len bs)

theorem length_copyField (r : List Nat) (off len : Nat) (src : List Nat) (h : off + len ≤ r.length) :
    (copyField r off len src).length = r.length :=
  length_splice r _ off _ (Nat.le_trans (Nat.add_le_add_left (Nat.min_le_left len src.length) off) h)
    (by rw [List.length_take]; exact Nat.min_eq_left (Nat.min_le_right len src.length))

theorem take_setField (r : List Nat) (off len : Nat) (bs : List Nat) (k : Nat) (hk : k ≤ off) (h : off ≤ r.length) :
    (setField r off len bs).take k = r.take k :=
  take_splice r _ _ off k hk (Nat.le_trans hk h)

theorem take_copyField (r : List Nat) (off len : Nat) (bs : List Nat) (k : Nat) (hk : k ≤ off) (h : off ≤ r.length) :
    (copyField r off len bs).take k = r.take k :=
  take_splice r _ _ off k hk (Nat.le_trans hk h)

open Gen.RecFile in
/-- ModifyDirLite's updates are a chain of writes into fields that lie inside the 128-byte image, behind the
file name (it stands at offset 0, so "behind" is `lenFilename ≤ off`): whatever such writes preserve,
`modifyRecord` preserves. -/
theorem modifyRecord_preserves (P : List Nat → Prop) (a : ModArgs) (r : List Nat)
    (hset : ∀ r off len bs, lenFilename ≤ off → off + len ≤ dirSz → P r → P (setField r off len bs))
    (hcopy : ∀ r off len src, lenFilename ≤ off → off + len ≤ dirSz → P r → P (copyField r off len src))
    (h : P r) : P (modifyRecord r a) := by
  have hopt : ∀ (r : List Nat) (o : Option (List Nat)) (off len : Nat), lenFilename ≤ off → off + len ≤ dirSz → P r →
      P (match o with
        | some t => if nonEmptyC t then setField r off len t else r
        | none => r) := by
    intro r o off len h1 h2 hr
    cases o with
    | none => exact hr
    | some t =>
      show P (if _ then _ else _)
      split
      · exact hset _ _ _ _ h1 h2 hr
      · exact hr
  unfold modifyRecord
  extract_lets r1 fm1 fm2 fm3 r2 r3 r4 r5 r6
  have e1 : P r1 := by
    simp only [r1]
    split
    · exact hset _ _ _ _ (by decide) (by decide) h
    · exact h
  have e2 : P r2 := hset _ _ _ _ (by decide) (by decide) e1
  have e3 : P r3 := hopt r2 a.title _ _ (by decide) (by decide) e2
  have e4 : P r4 := hopt r3 a.owner _ _ (by decide) (by decide) e3
  have e5 : P r5 := hopt r4 a.date _ _ (by decide) (by decide) e4
  have e6 : P r6 := by
    simp only [r6]
    split
    · exact hcopy _ _ _ _ (by decide) (by decide) e5
    · exact e5
  exact hset _ _ _ _ (by decide) (by decide) e6

theorem modifyRecord_keeps (r : List Nat) (a : ModArgs) (h : r.length = dirSz) :
    (modifyRecord r a).length = dirSz ∧
    (modifyRecord r a).take Gen.RecFile.lenFilename = r.take Gen.RecFile.lenFilename := by
  apply modifyRecord_preserves
    (fun r' => r'.length = dirSz ∧ r'.take Gen.RecFile.lenFilename = r.take Gen.RecFile.lenFilename)
  · intro r' off len bs h1 h2 ⟨hl, ht⟩
    rw [← hl] at h2
    exact ⟨(length_setField r' off len bs h2).trans hl,
      (take_setField r' off len bs _ h1 (Nat.le_trans (Nat.le_add_right _ _) h2)).trans ht⟩
  · intro r' off len src h1 h2 ⟨hl, ht⟩
    rw [← hl] at h2
    exact ⟨(length_copyField r' off len src h2).trans hl,
      (take_copyField r' off len src _ h1 (Nat.le_trans (Nat.le_add_right _ _) h2)).trans ht⟩
  · exact ⟨h, rfl⟩

theorem modifyRecord_length (r : List Nat) (a : ModArgs) (h : r.length = dirSz) :
    (modifyRecord r a).length = dirSz :=
  (modifyRecord_keeps r a h).1

theorem toInt8_int8Byte (v : Int) (h1 : -128 ≤ v) (h2 : v ≤ 127) : toInt8 (int8Byte v) = v := by
  unfold toInt8 int8Byte
  split <;> omega

/-! ### ModifyDirLite: bounds check, name check, one write -/

/-- ModifyDirLite's size test `fsize < SZ * idx`, at index `k+1`, in terms of complete records. -/
theorem succ_mul_dirSz_le_iff {k n : Nat} : (k + 1) * dirSz ≤ n ↔ ¬ (n : Int) < (dirSz : Int) * ((k : Int) + 1) := by
  rw [dirSz_eq]; omega

theorem modifyDirLite_succ (s : FS) (k : Nat) (a : ModArgs) (hp : s.present = true) :
    modifyDirLite s ((k : Int) + 1) a =
      if (k + 1) * dirSz ≤ s.bytes.length then
        if cstrcmpEq (field (record s.bytes dirSz k) Gen.RecFile.offFilename Gen.RecFile.lenFilename) a.name = true then
          (⟨true, writeAt s.bytes (k * dirSz) (modifyRecord (record s.bytes dirSz k) a)⟩, .unit .ok)
        else (s, .unit .invalidIdx)
      else (s, .unit .invalidIdx) := by
  have h3 : ¬ ((k : Int) * (dirSz : Int) < 0) :=
    Int.not_lt.2 (Int.mul_nonneg (Int.natCast_nonneg k) (Int.natCast_nonneg dirSz))
  unfold modifyDirLite
  simp only [hp, if_true, Bool.not_true, Bool.false_eq_true, if_false]
  rw [Int.add_sub_cancel, if_neg h3, ← Int.natCast_mul, Int.toNat_natCast]
  by_cases hlt : (s.bytes.length : Int) < (dirSz : Int) * ((k : Int) + 1)
  · rw [if_pos hlt, if_neg (fun hle => succ_mul_dirSz_le_iff.1 hle hlt)]
  · have hle := succ_mul_dirSz_le_iff.2 hlt
    rw [if_neg hlt, if_pos hle]
    show (if (record s.bytes dirSz k).length < dirSz then _ else
      if (!cstrcmpEq (field (record s.bytes dirSz k) _ _) a.name) = true then _ else _) = _
    rw [length_record_of_le _ _ _ hle, if_neg (Nat.lt_irrefl _)]
    cases cstrcmpEq (field (record s.bytes dirSz k) Gen.RecFile.offFilename Gen.RecFile.lenFilename) a.name with
    | true => rfl
    | false => rfl

theorem modifyDirLite_ok (s : FS) (k : Nat) (a : ModArgs) (hp : s.present = true)
    (hle : (k + 1) * dirSz ≤ s.bytes.length)
    (hn : cstrcmpEq (field (record s.bytes dirSz k) Gen.RecFile.offFilename Gen.RecFile.lenFilename) a.name = true) :
    modifyDirLite s ((k : Int) + 1) a =
      (⟨true, writeAt s.bytes (k * dirSz) (modifyRecord (record s.bytes dirSz k) a)⟩, .unit .ok) := by
  rw [modifyDirLite_succ s k a hp, if_pos hle, if_pos hn]

theorem modifyDirLite_cases (s : FS) (idx : Int) (a : ModArgs) :
    modifyDirLite s idx a = (s, .unit .invalidIdx) ∨ modifyDirLite s idx a = (s, .unit .err) ∨
    ∃ k : Nat, idx = (k : Int) + 1 ∧ s.present = true ∧ (k + 1) * dirSz ≤ s.bytes.length ∧
      cstrcmpEq (field (record s.bytes dirSz k) Gen.RecFile.offFilename Gen.RecFile.lenFilename) a.name = true ∧
      modifyDirLite s idx a =
        (⟨true, writeAt s.bytes (k * dirSz) (modifyRecord (record s.bytes dirSz k) a)⟩, .unit .ok) := by
  cases hp : s.present with
  | false =>
    -- `fsize` is -1: ErrInvalidIdx for a positive index, else the open fails
    unfold modifyDirLite
    simp only [hp, Bool.false_eq_true, if_false, Bool.not_false, if_true]
    by_cases h1 : (-1 : Int) < (dirSz : Int) * idx
    · left; rw [if_pos h1]
    · right; left; rw [if_neg h1]
  | true =>
    by_cases hi : 1 ≤ idx
    · obtain ⟨k, rfl⟩ := exists_natCast_succ hi
      rw [modifyDirLite_succ s k a hp]
      by_cases hle : (k + 1) * dirSz ≤ s.bytes.length
      · rw [if_pos hle]
        by_cases hn : cstrcmpEq (field (record s.bytes dirSz k) Gen.RecFile.offFilename Gen.RecFile.lenFilename) a.name = true
        · rw [if_pos hn]; exact Or.inr (Or.inr ⟨k, rfl, rfl, hle, hn, rfl⟩)
        · rw [if_neg hn]; exact Or.inl rfl
      · rw [if_neg hle]; exact Or.inl rfl
    · -- the size test passes for an index below 1; the seek to a negative offset fails
      have h1 : ¬ ((s.bytes.length : Int) < (dirSz : Int) * idx) := by rw [dirSz_eq]; omega
      have h3 : (idx - 1) * (dirSz : Int) < 0 := by rw [dirSz_eq]; omega
      right; left
      unfold modifyDirLite
      simp only [hp, if_true, Bool.not_true, Bool.false_eq_true, if_false]
      rw [if_neg h1, if_pos h3]

/-! ### the .DIR.bottom guard -/

/-- the guard as the source has it (`n > limit`) lets a count up to the limit pass. -/
theorem overLimit_strict_of_le {limit n : Nat} (h : n ≤ limit) : overLimit true limit n = false :=
  decide_eq_false (Nat.not_lt.2 h)

/-! ### ptt.Recommend -/

/-- ptt.Recommend reaches the file only through ModifyDirLite at the index the lookup returned; on every
other path (no hit, a link or a marked and solved article, a delete-marked one, no new mtime) the state is
returned as it was. -/
theorem recommendReq_cases (s : FS) (name : List Nat) (ctype : Nat) (mtime : Int) :
    (recommendReq s name ctype mtime).1 = s ∨
    ∃ i r a, getRecordReq s name = .hit i r ∧ recommendReq s name ctype mtime = modifyDirLite s (i : Int) a := by
  unfold recommendReq
  cases getRecordReq s name with
  | fault => exact Or.inl rfl
  | miss => exact Or.inl rfl
  | hit i r =>
    simp only []
    -- the conditions are named because `split` is slow to elaborate on them
    by_cases hperm : (recName r).head? = some 76 ∨
        (r.getD Gen.RecFile.offFilemode 0 &&& Gen.RecFile.FILE_MARKED ≠ 0 ∧
          r.getD Gen.RecFile.offFilemode 0 &&& Gen.RecFile.FILE_SOLVED ≠ 0)
    · rw [if_pos hperm]; exact Or.inl rfl
    · rw [if_neg hperm]
      by_cases hdel : C13.isDeleted (recName r) = true
      · rw [if_pos hdel]; exact Or.inl rfl
      · rw [if_neg hdel]
        by_cases hm : mtime > 0
        · rw [if_pos hm]; exact Or.inr ⟨i, r, _, rfl, rfl⟩
        · rw [if_neg hm]; exact Or.inl rfl

/-! ### the .PASSWDS accessors -/

/-- the state comes back as it was when the guard refuses, there is no file, or the offset is negative. -/
theorem passwdUpdateG_cases (accept : Int → Bool) (s : FS) (uid : Int) (off : Nat) (bs : List Nat) :
    (passwdUpdateG accept s uid off bs).1 = s ∨
    (accept uid = true ∧ s.present = true ∧ 0 ≤ (pwSz : Int) * (uid - 1) + (off : Int) ∧
      passwdUpdateG accept s uid off bs =
        (⟨true, writeAt s.bytes ((pwSz : Int) * (uid - 1) + (off : Int)).toNat bs⟩, .unit .ok)) := by
  unfold passwdUpdateG
  cases ha : accept uid with
  | false => exact Or.inl rfl
  | true =>
    cases s.present with
    | false => exact Or.inl rfl
    | true =>
      by_cases ho : (pwSz : Int) * (uid - 1) + (off : Int) < 0
      · exact Or.inl (congrArg Prod.fst (if_pos ho))
      · exact Or.inr ⟨rfl, rfl, Int.not_lt.1 ho, if_neg ho⟩

theorem passwdUpdateG_succ (accept : Int → Bool) (s : FS) (k off : Nat) (bs : List Nat)
    (ha : accept ((k : Int) + 1) = true) (hp : s.present = true) :
    passwdUpdateG accept s ((k : Int) + 1) off bs = (⟨true, writeAt s.bytes (k * pwSz + off) bs⟩, .unit .ok) := by
  have ho : (pwSz : Int) * ((k : Int) + 1 - 1) + (off : Int) = ((k * pwSz + off : Nat) : Int) := by
    rw [Int.add_sub_cancel, Int.mul_comm, Int.natCast_add, Int.natCast_mul]
  unfold passwdUpdateG
  simp only [ha, hp, Bool.not_true, Bool.false_eq_true, if_false]
  rw [ho, if_neg (Int.not_lt.2 (Int.natCast_nonneg _)), Int.toNat_natCast]

theorem passwdQuery_cases (s : FS) (uid : Int) (off len : Nat) :
    passwdQuery s uid off len = .recs .invalidIdx [] ∨ passwdQuery s uid off len = .recs .err [] ∨
    (uidValid uid = true ∧ s.present = true ∧
      ∃ r, passwdQuery s uid off len = .recs .ok [(uid.toNat, r)]) := by
  unfold passwdQuery
  cases uidValid uid with
  | false => exact Or.inl rfl
  | true =>
    cases s.present with
    | false => exact Or.inr (Or.inl rfl)
    | true =>
      simp only [Bool.not_true, Bool.false_eq_true, if_false]
      by_cases ho : (pwSz : Int) * (uid - 1) + (off : Int) < 0
      · exact Or.inr (Or.inl (if_pos ho))
      · rw [if_neg ho]
        by_cases hr : ((s.bytes.drop ((pwSz : Int) * (uid - 1) + (off : Int)).toNat).take len).length < len
        · exact Or.inr (Or.inl (if_pos hr))
        · exact Or.inr (Or.inr ⟨trivial, trivial, _, if_neg hr⟩)

end PttVerif.C05
