import PttVerif.Proofs.C02Lin
/-
C02 — the key schedule: `desSetKey` (bit-swap PC-1, rotations, `skb` lookups) against the textbook
`Spec.keySchedule` (PC-1, left rotations, PC-2), for ALL 64-bit keys.  PC-1 is one circuit over the packed key; a step
of the loop is taken in two stages, the rotation of each half and the `skb` gather over the packed rotated halves, so
that the gather is compared with PC-2 once, whatever the rotation was.
-/
namespace PttVerif.C02.Lin
open PttVerif PttVerif.C02 PttVerif.Gen.CryptTables

/-- `HPermOp a (-2) m` as a circuit: both call sites pass `n = -2`, so the shift count `16 - n` is 18. -/
def HPermOpE (a : LE) (m : Nat) : LE :=
  let t := LE.and (LE.xor (LE.shl a 18) a) m
  LE.xor (LE.xor a t) (LE.shr t 18)

def byteE (sh : Nat) : LE := LE.and (LE.shr LE.inp sh) 0xff

def c2lE (a b c d : LE) : LE := LE.or (LE.or (LE.or a (LE.shlN b 8)) (LE.shlN c 16)) (LE.shlN d 24)

/-- `pc1` as a circuit over the packed key. -/
def pc1E : LE × LE :=
  let c := c2lE (byteE 56) (byteE 48) (byteE 40) (byteE 32)
  let d := c2lE (byteE 24) (byteE 16) (byteE 8) (byteE 0)
  let (d, c) := PermOpE d c 4 0x0f0f0f0f
  let c := HPermOpE c 0xcccc0000
  let d := HPermOpE d 0xcccc0000
  let (d, c) := PermOpE d c 1 0x55555555
  let (c, d) := PermOpE c d 8 0x00ff00ff
  let (d, c) := PermOpE d c 1 0x55555555
  let d := LE.or (LE.or (LE.or (LE.shl (LE.and d 0x000000ff) 16) (LE.and d 0x0000ff00))
    (LE.shr (LE.and d 0x00ff0000) 16)) (LE.shr (LE.and c 0xf0000000) 4)
  let c := LE.and c 0x0fffffff
  (c, d)

theorem pc1_eval (K : Nat) : pc1 (bytesBE K) = (eval K pc1E.1, eval K pc1E.2) := rfl

/-- the textbook side: C resp. D of PC-1, in libdes bit order (FIPS bit j at word bit j-1). -/
def specC : LE := LE.rev 28 (LE.shr (LE.perm Spec.PC1 64 LE.inp) 28)
def specD : LE := LE.rev 28 (LE.and (LE.perm Spec.PC1 64 LE.inp) 0x0fffffff)

theorem pc1_eq_PC1 (K : Nat) (hK : K < 2 ^ 64) :
    pc1 (bytesBE K) =
      (Spec.revBits 28 (Spec.permF Spec.PC1 64 K >>> 28), Spec.revBits 28 (Spec.permF Spec.PC1 64 K &&& 0x0fffffff)) := by
  obtain ⟨e1, e2⟩ := le_ext_pair 64 pc1E.1 specC pc1E.2 specD (by decide +kernel) (by decide +kernel)
    (by decide +kernel) (by decide +kernel) (by decide +kernel) K hK
  rw [pc1_eval, e1, e2]; rfl

/-! ### one step of the schedule loop -/

def tblE (T : List (List Nat)) (b : Nat) (i : LE) : LE := LE.look (T.getD b []) i

def rotE (two : Bool) (x : LE) : LE :=
  LE.and (if two then LE.or (LE.shr x 2) (LE.shl x 26) else LE.or (LE.shr x 1) (LE.shl x 27)) 0x0fffffff

def gatherE (c d : LE) : LE × LE :=
  let s := LE.or (LE.or (LE.or (tblE skb 0 (LE.and c 0x3f))
    (tblE skb 1 (LE.or (LE.and (LE.shr c 6) 0x03) (LE.and (LE.shr c 7) 0x3c))))
    (tblE skb 2 (LE.or (LE.and (LE.shr c 13) 0x0f) (LE.and (LE.shr c 14) 0x30))))
    (tblE skb 3 (LE.or (LE.or (LE.and (LE.shr c 20) 0x01) (LE.and (LE.shr c 21) 0x06)) (LE.and (LE.shr c 22) 0x38)))
  let t := LE.or (LE.or (LE.or (tblE skb 4 (LE.and d 0x3f))
    (tblE skb 5 (LE.or (LE.and (LE.shr d 7) 0x03) (LE.and (LE.shr d 8) 0x3c))))
    (tblE skb 6 (LE.and (LE.shr d 15) 0x3f)))
    (tblE skb 7 (LE.or (LE.and (LE.shr d 21) 0x0f) (LE.and (LE.shr d 22) 0x30)))
  let k0 := LE.and (LE.or (LE.shl t 16) (LE.and s 0x0000ffff)) 0xffffffff
  let s := LE.or (LE.shr s 16) (LE.and t 0xffff0000)
  let s := LE.or (LE.shl s 4) (LE.shr s 28)
  let k1 := LE.and s 0xffffffff
  (k0, k1)

theorem ksStep_eval (X : Nat) (c d : LE) (i : Nat) (two : Bool) (h : two = decide (shifts2.getD i 0 ≠ 0)) :
    ksStep (eval X c) (eval X d) i =
      (eval X (rotE two c), eval X (rotE two d), eval X (gatherE (rotE two c) (rotE two d)).1,
        eval X (gatherE (rotE two c) (rotE two d)).2) := by
  unfold ksStep
  cases two
  · rw [if_neg (of_decide_eq_false h.symm)]; rfl
  · rw [if_pos (of_decide_eq_true h.symm)]; rfl

theorem eval_rotE (X : Nat) (two : Bool) (x : LE) : eval X (rotE two x) = eval (eval X x) (rotE two LE.inp) := by
  cases two <;> rfl

theorem gatherE_congr {X Y : Nat} {c d c' d' : LE} (hc : eval X c = eval Y c') (hd : eval X d = eval Y d') :
    eval X (gatherE c d).1 = eval Y (gatherE c' d').1 ∧ eval X (gatherE c d).2 = eval Y (gatherE c' d').2 := by
  simp only [gatherE, tblE, eval, hc, hd, and_self]

/-! #### the rotation -/

def rotlE (n : Nat) (x : LE) : LE := LE.and (LE.or (LE.shlN x n) (LE.shr x (28 - n))) 0x0fffffff

theorem eval_rotlE (X n : Nat) (x : LE) : eval X (rotlE n x) = Spec.rotl28 (eval X x) n := by
  show ((eval X x <<< n) ||| (eval X x >>> (28 - n))) &&& 0x0fffffff = _
  rw [show (0x0fffffff : Nat) = 2 ^ 28 - 1 from rfl, Nat.and_two_pow_sub_one_eq_mod]; rfl

/-- on a half held in libdes bit order, the right rotation of `ksStep` is the textbook left rotation. -/
theorem rot_spec (two : Bool) (x : Nat) (hx : x < 2 ^ 28) :
    eval (Spec.revBits 28 x) (rotE two LE.inp) = Spec.revBits 28 (Spec.rotl28 x (if two then 2 else 1)) := by
  rw [show eval (Spec.revBits 28 x) (rotE two LE.inp) = eval x (rotE two (LE.rev 28 LE.inp)) from
    (eval_rotE x two (LE.rev 28 LE.inp)).symm]
  cases two
  · rw [le_ext 28 _ (LE.rev 28 (rotlE 1 LE.inp)) (by decide +kernel) (by decide +kernel) (by decide +kernel) x hx]
    exact congrArg (Spec.revBits 28) (eval_rotlE x 1 LE.inp)
  · rw [le_ext 28 _ (LE.rev 28 (rotlE 2 LE.inp)) (by decide +kernel) (by decide +kernel) (by decide +kernel) x hx]
    exact congrArg (Spec.revBits 28) (eval_rotlE x 2 LE.inp)

/-! #### the gather -/

/-- the two halves, in libdes bit order, of the packed state `X = C‖D` (56 bits, FIPS order). -/
def mC : LE := LE.rev 28 (LE.shr LE.inp 28)
def mD : LE := LE.rev 28 (LE.and LE.inp 0x0fffffff)

theorem eval_mC (C : Nat) {D : Nat} (hD : D < 2 ^ 28) : eval (C * 268435456 + D) mC = Spec.revBits 28 C :=
  congrArg (Spec.revBits 28) (pack_hi 28 C hD)

theorem eval_mD (C : Nat) {D : Nat} (hD : D < 2 ^ 28) : eval (C * 268435456 + D) mD = Spec.revBits 28 D :=
  congrArg (Spec.revBits 28) (pack_lo 28 C hD)

theorem skb_lin : ∀ b, b < 8 → tblLin (skb.getD b []) = true := by
  have h : ∀ T ∈ skb, T.length = 64 ∧ T.getD 0 0 = 0 ∧ ∀ k, k < 6 →
      (T.drop (2 ^ k)).take (2 ^ k) = (T.take (2 ^ k)).map (T.getD (2 ^ k) 0 ^^^ ·) := by decide +kernel
  intro b hb
  have hm : skb.getD b [] ∈ skb := by
    rw [List.getD_eq_getElem?_getD, List.getElem?_eq_getElem (show b < skb.length from hb)]
    exact List.getElem_mem _
  exact tblLin_of_blocks _ (h _ hm).1 (h _ hm).2.1 (h _ hm).2.2

/-- `ok` is unfolded by its equations down to the eight lookups, whose tables are linear by `skb_lin`; what is left
(disjoint supports, indices below 64) is evaluated. -/
theorem gather_ok : ok (2 ^ 56 - 1) (gatherE mC mD).1 = true ∧ ok (2 ^ 56 - 1) (gatherE mC mD).2 = true := by
  simp only [gatherE, tblE, ok, skb_lin, Nat.reduceLT, Bool.and_true]
  decide +kernel

theorem gather_spec (C D : Nat) (hC : C < 2 ^ 28) (hD : D < 2 ^ 28) :
    eval (C * 268435456 + D) (gatherE mC mD).1 = kw0 (Spec.permF Spec.PC2 56 (C * 268435456 + D)) ∧
      eval (C * 268435456 + D) (gatherE mC mD).2 = kw1 (Spec.permF Spec.PC2 56 (C * 268435456 + D)) := by
  obtain ⟨e0, e1⟩ := le_ext_pair 56 (gatherE mC mD).1 (kw0E (LE.perm Spec.PC2 56 LE.inp)) (gatherE mC mD).2
    (kw1E (LE.perm Spec.PC2 56 LE.inp)) gather_ok.1 (by decide +kernel) gather_ok.2 (by decide +kernel)
    (by decide +kernel) _ (pack_lt hC hD)
  exact ⟨e0.trans (eval_kw0E _ _), e1.trans (eval_kw1E _ _)⟩

/-! #### the step and the loop -/

theorem rotl28_lt (x n : Nat) : Spec.rotl28 x n < 2 ^ 28 := Nat.mod_lt _ (by decide)

theorem shifts_eq : ∀ i : Fin 16,
    Spec.shifts.getD i.val 0 = if decide (shifts2.getD i.val 0 ≠ 0) then 2 else 1 := by decide +kernel

/-- one iteration of the key-schedule loop is the textbook step: rotate C and D left, apply PC-2. -/
theorem ksStep_spec (C D i : Nat) (hC : C < 2 ^ 28) (hD : D < 2 ^ 28) (hi : i < 16) :
    ksStep (Spec.revBits 28 C) (Spec.revBits 28 D) i =
      (Spec.revBits 28 (Spec.rotl28 C (Spec.shifts.getD i 0)), Spec.revBits 28 (Spec.rotl28 D (Spec.shifts.getD i 0)),
        kw0 (Spec.permF Spec.PC2 56
          (Spec.rotl28 C (Spec.shifts.getD i 0) * 268435456 + Spec.rotl28 D (Spec.shifts.getD i 0))),
        kw1 (Spec.permF Spec.PC2 56
          (Spec.rotl28 C (Spec.shifts.getD i 0) * 268435456 + Spec.rotl28 D (Spec.shifts.getD i 0)))) := by
  have hs := ksStep_eval (C * 268435456 + D) mC mD i _ rfl
  rw [eval_mC C hD, eval_mD C hD] at hs
  rw [hs, shifts_eq ⟨i, hi⟩]
  generalize decide (shifts2.getD i 0 ≠ 0) = two
  have rC : eval (C * 268435456 + D) (rotE two mC) = Spec.revBits 28 (Spec.rotl28 C (if two then 2 else 1)) := by
    rw [eval_rotE, eval_mC C hD, rot_spec two C hC]
  have rD : eval (C * 268435456 + D) (rotE two mD) = Spec.revBits 28 (Spec.rotl28 D (if two then 2 else 1)) := by
    rw [eval_rotE, eval_mD C hD, rot_spec two D hD]
  generalize (if two then 2 else 1) = n at rC rD ⊢
  have hD' := rotl28_lt D n
  obtain ⟨g0, g1⟩ := gatherE_congr (rC.trans (eval_mC _ hD').symm) (rD.trans (eval_mD _ hD').symm)
  obtain ⟨k0, k1⟩ := gather_spec _ _ (rotl28_lt C n) hD'
  rw [rC, rD, g0, g1, k0, k1]

/-- the 32 schedule words of a list of 48-bit round keys. -/
def ksWords : List Nat → List Nat
  | [] => []
  | K :: Ks => kw0 K :: kw1 K :: ksWords Ks

theorem ksLoop_spec (is : List Nat) (his : ∀ i ∈ is, i < 16) (C D : Nat) (hC : C < 2 ^ 28) (hD : D < 2 ^ 28) :
    ksLoop is (Spec.revBits 28 C) (Spec.revBits 28 D) =
      ksWords (Spec.keyScheduleAux (is.map (Spec.shifts.getD · 0)) C D) := by
  induction is generalizing C D with
  | nil => rfl
  | cons i is ih =>
    have hi := his i (by simp)
    simp only [ksLoop, List.map_cons, Spec.keyScheduleAux, ksWords]
    rw [ksStep_spec C D i hC hD hi]
    simp only []
    rw [ih (fun j hj => his j (by simp [hj])) _ _ (rotl28_lt _ _) (rotl28_lt _ _)]

theorem shifts_range : (List.range ITERATIONS).map (Spec.shifts.getD · 0) = Spec.shifts := by decide +kernel

/-- the key schedule of the implementation is the textbook one, for every 64-bit key: word `2i` / `2i+1` of the
schedule hold round key `K_{i+1}` in the layout `kw0` / `kw1`. -/
theorem desSetKey_eq_keySchedule (K : Nat) (hK : K < 2 ^ 64) :
    desSetKey (bytesBE K) = ksWords (Spec.keySchedule K) := by
  unfold desSetKey
  rw [pc1_eq_PC1 K hK]
  simp only []
  have hcd : Spec.permF Spec.PC1 64 K < 2 ^ 56 := permF_lt Spec.PC1 64 K
  rw [show (0x0fffffff : Nat) = 2 ^ 28 - 1 from rfl, Nat.and_two_pow_sub_one_eq_mod, Nat.shiftRight_eq_div_pow]
  rw [ksLoop_spec (List.range ITERATIONS) (fun i hi => List.mem_range.mp hi) _ _ (by omega) (Nat.mod_lt _ (by decide)), shifts_range]
  rfl

end PttVerif.C02.Lin
