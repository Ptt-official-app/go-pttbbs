import PttVerif.Model.C19
/-
C19 — a save as a sequence of system calls: one saver over a name→content map, then overlapping savers over names,
inodes and descriptors, whose every scheduled system call keeps the invariant `CInv`.
-/
namespace PttVerif.C19
open PttVerif

/-- a step that only creates or writes the file `n`. -/
def onlyFile (n : String) : Step → Prop
  | .create m => m = n
  | .write m _ => m = n
  | .rename _ _ => False

theorem run_cons (fs : FS) (s : Step) (r : List Step) : run fs (s :: r) = run (applyStep fs s) r := rfl

theorem run_append (fs : FS) (a b : List Step) : run fs (a ++ b) = run (run fs a) b := by
  simp [run, List.foldl_append]

theorem run_other (n other : String) (hne : other ≠ n) : ∀ (steps : List Step) (fs : FS),
    (∀ s ∈ steps, onlyFile n s) → run fs steps other = fs other := by
  intro steps
  induction steps with
  | nil => intro fs _; rfl
  | cons s r ih =>
    intro fs h
    rw [run_cons, ih _ fun x hx => h x (List.mem_cons_of_mem _ hx)]
    have hs := h s List.mem_cons_self
    cases s with
    | create m => subst hs; simp [applyStep, FS.set, hne]
    | write m d =>
      subst hs
      simp only [applyStep]
      cases fs m <;> simp [FS.set, hne]
    | rename a b => exact hs.elim

theorem run_writes (tmp : String) : ∀ (chunks : List (List Nat)) (fs : FS) (acc : List Nat), fs tmp = some acc →
    run fs (chunks.map (Step.write tmp)) tmp = some (acc ++ chunks.flatten) := by
  intro chunks
  induction chunks with
  | nil => intro fs acc h; simp [run, h]
  | cons c r ih =>
    intro fs acc h
    rw [List.map_cons, run_cons, ih _ (acc ++ c) (by simp [applyStep, h, FS.set])]
    simp

def tmpSteps (tmp : String) (chunks : List (List Nat)) : List Step := .create tmp :: chunks.map (Step.write tmp)

theorem atomicSteps_eq (tmp : String) (chunks : List (List Nat)) :
    atomicSteps tmp chunks = tmpSteps tmp chunks ++ [.rename tmp FAVFILE] := rfl

theorem faultedSteps_eq (tmp : String) (chunks : List (List Nat)) (i p : Nat) :
    faultedSteps tmp chunks i p = tmpSteps tmp (chunks.take i ++ [(chunks.getD i []).take p]) := by
  simp [faultedSteps, tmpSteps]

theorem onlyFile_tmpSteps (tmp : String) (chunks : List (List Nat)) : ∀ s ∈ tmpSteps tmp chunks, onlyFile tmp s := by
  intro s hs
  simp only [tmpSteps, List.mem_cons, List.mem_map] at hs
  rcases hs with rfl | ⟨c, _, rfl⟩
  · rfl
  · rfl

theorem run_tmpSteps_take (fs : FS) (tmp : String) (hne : tmp ≠ FAVFILE) (chunks : List (List Nat)) (k : Nat) :
    run fs ((tmpSteps tmp chunks).take k) FAVFILE = fs FAVFILE :=
  run_other tmp FAVFILE (Ne.symm hne) _ fs fun s hs => onlyFile_tmpSteps tmp chunks s (List.mem_of_mem_take hs)

theorem run_tmpSteps (fs : FS) (tmp : String) (chunks : List (List Nat)) :
    run fs (tmpSteps tmp chunks) tmp = some chunks.flatten := by
  simpa [tmpSteps, run_cons] using
    run_writes tmp chunks (applyStep fs (.create tmp)) [] (by simp [applyStep, FS.set])

theorem run_atomic (fs : FS) (tmp : String) (hne : tmp ≠ FAVFILE) (chunks : List (List Nat)) :
    run fs (atomicSteps tmp chunks) FAVFILE = some chunks.flatten := by
  have hc := run_tmpSteps fs tmp chunks
  rw [atomicSteps_eq, run_append]
  generalize run fs (tmpSteps tmp chunks) = fs1 at hc
  simp [run, applyStep, hc, FS.set, Ne.symm hne]

/-- after any prefix of `create tmp; write tmp …; rename tmp .fav` the file `.fav` is the old or the whole new
content: every step but the last touches only `tmp`. -/
theorem atomic_prefix (fs : FS) (tmp : String) (hne : tmp ≠ FAVFILE) (chunks : List (List Nat)) (k : Nat) :
    run fs ((atomicSteps tmp chunks).take k) FAVFILE = fs FAVFILE
      ∨ run fs ((atomicSteps tmp chunks).take k) FAVFILE = some chunks.flatten := by
  by_cases hk : k ≤ (tmpSteps tmp chunks).length
  · left
    rw [atomicSteps_eq, List.take_append_of_le_length hk]
    exact run_tmpSteps_take fs tmp hne chunks k
  · right
    rw [List.take_of_length_le (by rw [atomicSteps_eq, List.length_append]; exact Nat.lt_of_not_le hk)]
    exact run_atomic fs tmp hne chunks

/-! ### overlapping savers -/

theorem writeAt_end (d c : List Nat) : writeAt d d.length c = d ++ c := by
  simp [writeAt]

theorem setName_some (f : String → Option Nat) (n a : String) (y x : Nat) :
    setName f n (some y) a = some x ↔ (a = n ∧ x = y) ∨ (a ≠ n ∧ f a = some x) := by
  by_cases e : a = n <;> simp [setName, e, eq_comm]

theorem renamed_name (f : String → Option Nat) (F t a : String) (ino x : Nat) :
    setName (setName f F (some ino)) t none a = some x ↔
      a ≠ t ∧ ((a = F ∧ x = ino) ∨ (a ≠ F ∧ f a = some x)) := by
  by_cases e1 : a = t <;> by_cases e2 : a = F <;> simp [setName, e1, e2, eq_comm]

/-- the names the savers and the readers care about: `.fav` and the temporary names. -/
def InS (tmp : Nat → String) (a : String) : Prop := a = FAVFILE ∨ ∃ i, a = tmp i

def SameAt (w w' : World) (a : String) : Prop :=
  w'.names a = w.names a ∧ ∀ x, w.names a = some x → w'.data x = w.data x

theorem SameAt.read {w w' : World} {a : String} (h : SameAt w w' a) : w'.read a = w.read a := by
  simp only [World.read, h.1]
  cases hx : w.names a with
  | none => rfl
  | some x => simp [h.2 x hx]

/-- a saver in the middle of its writes owns the inode under its temporary name; it holds what was written. -/
def SaverOK (tmp : Nat → String) (chunks : Nat → List (List Nat)) (w : World) (j : Nat) : SState → Prop
  | .writing ino off rest =>
    w.names (tmp j) = some ino ∧ ∃ dn, chunks j = dn ++ rest ∧ w.data ino = dn.flatten ∧ off = dn.flatten.length
  | _ => True

theorem SaverOK.of_sameAt {tmp : Nat → String} {chunks : Nat → List (List Nat)} {w w' : World} {j : Nat} {s : SState}
    (h : SaverOK tmp chunks w j s) (hs : SameAt w w' (tmp j)) : SaverOK tmp chunks w' j s := by
  cases s with
  | writing ino off rest =>
    obtain ⟨hn, dn, h1, h2, h3⟩ := h
    exact ⟨hs.1.trans hn, dn, h1, (hs.2 ino hn).trans h2, h3⟩
  | idle => trivial
  | done => trivial

/-- `inj` and `fresh` of `CInv` (`Props.WorldOK`) for the directories of the examples, where one name exists. -/
theorem single_name (tmp : Nat → String) (w : World) (n : String) (ino : Nat)
    (h : ∀ m, w.names m = if m = n then some ino else none) (hlt : ino < w.next) :
    (∀ a b x, InS tmp a → InS tmp b → w.names a = some x → w.names b = some x → a = b)
      ∧ ∀ a x, InS tmp a → w.names a = some x → x < w.next := by
  constructor
  · intro a b x _ _ hxa hxb
    rw [h] at hxa hxb
    by_cases ea : a = n <;> by_cases eb : b = n <;> simp [ea, eb] at hxa hxb
    rw [ea, eb]
  · intro a x _ hxa
    rw [h] at hxa
    by_cases ea : a = n <;> simp [ea] at hxa
    omega

/-- `old` is what `.fav` read before the first system call. `inj` and `fresh` are `Props.WorldOK` of the present
directory, `fav` and `fin` the two claims of `concurrent_saves_atomic`. -/
structure CInv (tmp : Nat → String) (chunks : Nat → List (List Nat)) (old : Option (List Nat)) (c : Conc) :
    Prop where
  /-- `.fav` and the temporary names are not hard links of one another -/
  inj : ∀ a b x, InS tmp a → InS tmp b → c.w.names a = some x → c.w.names b = some x → a = b
  /-- their inodes are below `next`: a file created by `open` shares its inode with none of them -/
  fresh : ∀ a x, InS tmp a → c.w.names a = some x → x < c.w.next
  wr : ∀ j, SaverOK tmp chunks c.w j (c.st j)
  fav : c.w.read FAVFILE = old ∨ ∃ i, c.w.read FAVFILE = some (chunks i).flatten
  fin : (∃ i, c.st i = .done) → ∃ j, c.w.read FAVFILE = some (chunks j).flatten

section step
variable {tmp : Nat → String} {chunks : Nat → List (List Nat)} {old : Option (List Nat)} {c : Conc} {i : Nat}

theorem CInv.sameAt_setData (h : CInv tmp chunks old c) {ino : Nat} (hn : c.w.names (tmp i) = some ino)
    (v : List Nat) (a : String) (ha : InS tmp a) (hai : a ≠ tmp i) :
    SameAt c.w { c.w with data := setData c.w.data ino v } a := by
  refine ⟨rfl, fun x hx => ?_⟩
  have : x ≠ ino := fun e => hai (h.inj _ _ _ ha (Or.inr ⟨i, rfl⟩) (e ▸ hx) hn)
  simp [setData, this]

theorem CInv.wr_step (h : CInv tmp chunks old c) {w' : World} {s : SState}
    (hsame : ∀ j, j ≠ i → SameAt c.w w' (tmp j)) (hi : SaverOK tmp chunks w' i s) :
    ∀ j, SaverOK tmp chunks w' j (setSt c.st i s j) := by
  intro j
  by_cases e : j = i
  · subst e; simpa [setSt] using hi
  · simpa [setSt, e] using (h.wr j).of_sameAt (hsame j e)

/-- every step of saver `i` but its rename: only `tmp i` shows anything else than before. -/
theorem CInv.writing (h : CInv tmp chunks old c) (htmp : ∀ i j, tmp i = tmp j → i = j) (hne : ∀ i, tmp i ≠ FAVFILE)
    {w' : World} {ino off : Nat} {rest : List (List Nat)}
    (hsame : ∀ a, InS tmp a → a ≠ tmp i → SameAt c.w w' a)
    (hinj : ∀ a b x, InS tmp a → InS tmp b → w'.names a = some x → w'.names b = some x → a = b)
    (hfresh : ∀ a x, InS tmp a → w'.names a = some x → x < w'.next)
    (hi : SaverOK tmp chunks w' i (.writing ino off rest)) :
    CInv tmp chunks old ⟨w', setSt c.st i (.writing ino off rest)⟩ := by
  have hread := (hsame FAVFILE (Or.inl rfl) fun e => hne i e.symm).read
  refine ⟨hinj, hfresh, h.wr_step (fun j e => hsame _ (Or.inr ⟨j, rfl⟩) fun e' => e (htmp _ _ e')) hi,
    by rw [hread]; exact h.fav, fun ⟨j, hj⟩ => ?_⟩
  rw [hread]
  by_cases e : j = i
  · subst e; simp [setSt] at hj
  · exact h.fin ⟨j, by simpa [setSt, e] using hj⟩

end step

theorem concStep_inv (tmp : Nat → String) (chunks : Nat → List (List Nat)) (old : Option (List Nat))
    (htmp : ∀ i j, tmp i = tmp j → i = j) (hne : ∀ i, tmp i ≠ FAVFILE)
    (c : Conc) (i : Nat) (h : CInv tmp chunks old c) : CInv tmp chunks old (concStep tmp chunks c i) := by
  unfold concStep
  cases hst : c.st i with
  | idle =>
    simp only []
    cases hn : c.w.names (tmp i) with
    | some ino =>
      -- truncation of an existing temporary file
      simp only []
      exact h.writing htmp hne (h.sameAt_setData hn []) h.inj h.fresh ⟨hn, [], by simp, by simp [setData], by simp⟩
    | none =>
      simp only []
      refine h.writing htmp hne (fun a ha hai => ⟨by simp [setName, hai], fun x hx => ?_⟩) ?_ ?_
        ⟨by simp [setName], [], by simp, by simp [setData], by simp⟩
      · simp [setData, Nat.ne_of_lt (h.fresh a x ha hx)]
      · intro a b x ha hb hxa hxb
        rcases (setName_some _ _ _ _ _).mp hxa with ⟨ea, xa⟩ | ⟨ea, na⟩ <;>
          rcases (setName_some _ _ _ _ _).mp hxb with ⟨eb, xb⟩ | ⟨eb, nb⟩
        · rw [ea, eb]
        · subst xa; exact absurd (h.fresh _ _ hb nb) (Nat.lt_irrefl _)
        · subst xb; exact absurd (h.fresh _ _ ha na) (Nat.lt_irrefl _)
        · exact h.inj _ _ _ ha hb na nb
      · intro a x ha hxa
        rcases (setName_some _ _ _ _ _).mp hxa with ⟨_, xa⟩ | ⟨_, na⟩
        · subst xa; exact Nat.lt_succ_self _
        · exact Nat.lt_succ_of_lt (h.fresh _ _ ha na)
  | writing ino off rest =>
    have hi := h.wr i
    rw [hst] at hi
    obtain ⟨hn, dn, hch, hdata, hoff⟩ := hi
    cases rest with
    | cons ch rest' =>
      simp only []
      exact h.writing htmp hne (h.sameAt_setData hn _) h.inj h.fresh
        ⟨hn, dn ++ [ch], by simp [hch], by simp [setData, hdata, hoff, writeAt_end, -List.length_flatten],
          by simp [hoff]⟩
    | nil =>
      -- the rename: `hn` rules out ENOENT; the inode moved under `.fav` holds all of `chunks i` (`hdata`, `hch`);
      -- the other savers' names are neither `tmp i` nor `.fav`, so they see what they saw
      simp only [hn]
      have hnew : World.read { c.w with names := setName (setName c.w.names FAVFILE (some ino)) (tmp i) none } FAVFILE
          = some (chunks i).flatten := by
        simp [World.read, setName, Ne.symm (hne i), hdata, hch]
      refine ⟨?_, ?_, h.wr_step (fun j e => ⟨?_, fun _ _ => rfl⟩) trivial, Or.inr ⟨i, hnew⟩, fun _ => ⟨i, hnew⟩⟩
      · intro a b x ha hb hxa hxb
        rcases (renamed_name _ _ _ _ _ _).mp hxa with ⟨ea, ⟨fa, xa⟩ | ⟨fa, na⟩⟩ <;>
          rcases (renamed_name _ _ _ _ _ _).mp hxb with ⟨eb, ⟨fb, xb⟩ | ⟨fb, nb⟩⟩
        · rw [fa, fb]
        · subst xa; exact absurd (h.inj _ _ _ hb (Or.inr ⟨i, rfl⟩) nb hn) eb
        · subst xb; exact absurd (h.inj _ _ _ ha (Or.inr ⟨i, rfl⟩) na hn) ea
        · exact h.inj _ _ _ ha hb na nb
      · intro a x ha hxa
        rcases (renamed_name _ _ _ _ _ _).mp hxa with ⟨ea, ⟨fa, xa⟩ | ⟨fa, na⟩⟩
        · subst xa; exact h.fresh _ _ (Or.inr ⟨i, rfl⟩) hn
        · exact h.fresh _ _ ha na
      · have hji : tmp j ≠ tmp i := fun e' => e (htmp _ _ e')
        simp [setName, hji, hne j]
  | done => exact h

theorem concRun_inv (tmp : Nat → String) (chunks : Nat → List (List Nat)) (old : Option (List Nat))
    (htmp : ∀ i j, tmp i = tmp j → i = j) (hne : ∀ i, tmp i ≠ FAVFILE) :
    ∀ (sched : List Nat) (c : Conc), CInv tmp chunks old c → CInv tmp chunks old (concRun tmp chunks c sched) := by
  intro sched
  induction sched with
  | nil => intro c h; exact h
  | cons i r ih =>
    intro c h
    simp only [concRun, List.foldl_cons]
    exact ih _ (concStep_inv tmp chunks old htmp hne c i h)

end PttVerif.C19
