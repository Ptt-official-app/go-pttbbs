import PttVerif.Proofs.C02Bits
/-
C02 — GF(2)-linear word circuits by reflection.

Every step of DES except the S-box lookup is a GF(2)-linear map on bit vectors.  `LE` is a small expression language
for such maps on one packed input word (xor, or of disjoint supports, and with a constant, shifts, FIPS selection
tables, bit reversal, lookup in a linear 64-entry table).  `ok s e` checks, by computation, that every `or` joins
disjoint supports and every lookup stays inside its table; `sound` proves that a checked expression is an
xor-homomorphism on inputs within the support `s`; `le_ext` concludes that two checked expressions that agree on the
`n` unit vectors agree on every input below `2^n`.  All uses are then `decide +kernel` on closed terms; only the
linearity of a looked-up table, 4096 instances as `ok` asks for it, is derived from 64 of them (`tblLin_of_basis`).
-/
namespace PttVerif.C02.Lin
open PttVerif.C02

/-! ### the expression language -/

inductive LE where
  | inp : LE
  | xor : LE → LE → LE
  | or : LE → LE → LE
  | and : LE → Nat → LE
  | shl : LE → Nat → LE      -- Go `uint32 <<`: `C02.shl`
  | shlN : LE → Nat → LE     -- untruncated `<<<`
  | shr : LE → Nat → LE
  | perm : List Nat → Nat → LE → LE   -- `Spec.permF tbl n`
  | rev : Nat → LE → LE               -- `Spec.revBits n`
  | look : List Nat → LE → LE         -- `T.getD · 0` for a linear table of 64 entries

def eval (x : Nat) : LE → Nat
  | .inp => x
  | .xor a b => eval x a ^^^ eval x b
  | .or a b => eval x a ||| eval x b
  | .and a m => eval x a &&& m
  | .shl a n => shl (eval x a) n
  | .shlN a n => eval x a <<< n
  | .shr a n => eval x a >>> n
  | .perm tbl n a => Spec.permF tbl n (eval x a)
  | .rev n a => Spec.revBits n (eval x a)
  | .look T a => T.getD (eval x a) 0

/-- an upper bound on the set bits of the value, for inputs within `s`. -/
def supp (s : Nat) : LE → Nat
  | .inp => s
  | .xor a b => supp s a ||| supp s b
  | .or a b => supp s a ||| supp s b
  | .and a m => supp s a &&& m
  | .shl a n => shl (supp s a) n
  | .shlN a n => supp s a <<< n
  | .shr a n => supp s a >>> n
  | .perm tbl n a => Spec.permF tbl n (supp s a)
  | .rev n a => Spec.revBits n (supp s a)
  | .look T _ => T.foldl (· ||| ·) 0

/-- a 64-entry table that is an xor-homomorphism in its index. -/
def tblLin (T : List Nat) : Bool :=
  (List.range 64).all fun i => (List.range 64).all fun j => T.getD (i ^^^ j) 0 == (T.getD i 0 ^^^ T.getD j 0)

def ok (s : Nat) : LE → Bool
  | .inp => true
  | .xor a b => ok s a && ok s b
  | .or a b => ok s a && ok s b && (supp s a &&& supp s b == 0)
  | .and a _ => ok s a
  | .shl a _ => ok s a
  | .shlN a _ => ok s a
  | .shr a _ => ok s a
  | .perm _ _ a => ok s a
  | .rev _ a => ok s a
  | .look T a => ok s a && decide (supp s a < 64) && tblLin T

theorem all_range {n : Nat} {p : Nat → Bool} : (List.range n).all p = true ↔ ∀ i, i < n → p i = true := by
  simp only [List.all_eq_true, List.mem_range]

theorem tblLin_spec {T : List Nat} (h : tblLin T = true) (i j : Nat) (hi : i < 64) (hj : j < 64) :
    T.getD (i ^^^ j) 0 = T.getD i 0 ^^^ T.getD j 0 :=
  beq_iff_eq.mp (all_range.mp (all_range.mp h i hi) j hj)

theorem tblLin_of_basis (T : List Nat) (h0 : T.getD 0 0 = 0)
    (h : ∀ k, k < 6 → ∀ y, y < 2 ^ k → T.getD (2 ^ k ^^^ y) 0 = T.getD (2 ^ k) 0 ^^^ T.getD y 0) : tblLin T = true :=
  all_range.mpr fun i hi => all_range.mpr fun j hj =>
    beq_iff_eq.mpr (additive_of_basis (T.getD · 0) 6 h0 h 6 (Nat.le_refl 6) i j hi hj)

/-- `tblLin_of_basis` read block-wise: block `[2^k, 2^(k+1))` of the table is block `[0, 2^k)` with entry `2^k` xored in. -/
theorem tblLin_of_blocks (T : List Nat) (hl : T.length = 64) (h0 : T.getD 0 0 = 0)
    (h : ∀ k, k < 6 → (T.drop (2 ^ k)).take (2 ^ k) = (T.take (2 ^ k)).map (T.getD (2 ^ k) 0 ^^^ ·)) :
    tblLin T = true := by
  apply tblLin_of_basis T h0
  intro k hk y hy
  have hy64 : y < T.length := by
    have : 2 ^ k ≤ 2 ^ 5 := Nat.pow_le_pow_right (by decide) (by omega)
    omega
  have := congrArg (·.getD y 0) (h k hk)
  simp only [List.getD_eq_getElem?_getD, List.getElem?_take, List.getElem?_drop, List.getElem?_map, hy, if_true,
    List.getElem?_eq_getElem hy64, Option.map_some, Option.getD_some] at this
  rw [two_pow_xor k y hy, List.getD_eq_getElem?_getD, this, List.getD_eq_getElem?_getD, List.getD_eq_getElem?_getD,
    List.getElem?_eq_getElem hy64, Option.getD_some]

theorem sub_foldl_or (T : List Nat) (k : Nat) : Sub (T.getD k 0) (T.foldl (· ||| ·) 0) := by
  have gen : ∀ (T : List Nat) (acc k : Nat), Sub acc (T.foldl (· ||| ·) acc) ∧ Sub (T.getD k 0) (T.foldl (· ||| ·) acc) := by
    intro T
    induction T with
    | nil => intro acc k; exact ⟨fun _ h => h, by simp [sub_zero]⟩
    | cons t ts ih =>
      intro acc k
      simp only [List.foldl_cons]
      have h1 := (ih (acc ||| t) 0).1
      constructor
      · intro i hi; apply h1; rw [Nat.testBit_or, hi]; rfl
      · cases k with
        | zero => intro i hi; apply h1; rw [Nat.testBit_or]; simp at hi; simp [hi]
        | succ k => simpa using (ih (acc ||| t) k).2
  exact (gen T 0 k).2

theorem sound_map {f : Nat → Nat} {c : Nat → Bool} {π : Nat → Nat}
    (hf : ∀ a j, (f a).testBit j = (c j && a.testBit (π j))) {s : Nat} {a : LE}
    (ih : (∀ x, Sub x s → Sub (eval x a) (supp s a)) ∧
      (∀ x y, Sub x s → Sub y s → eval (x ^^^ y) a = eval x a ^^^ eval y a)) :
    (∀ x, Sub x s → Sub (f (eval x a)) (f (supp s a))) ∧
      (∀ x y, Sub x s → Sub y s → f (eval (x ^^^ y) a) = f (eval x a) ^^^ f (eval y a)) :=
  ⟨fun x hx => moves_sub hf (ih.1 x hx), fun x y hx hy => by rw [ih.2 x y hx hy, moves_xor hf]⟩

theorem sound (s : Nat) (e : LE) (h : ok s e = true) :
    (∀ x, Sub x s → Sub (eval x e) (supp s e)) ∧
      (∀ x y, Sub x s → Sub y s → eval (x ^^^ y) e = eval x e ^^^ eval y e) := by
  have subxy : ∀ {x y : Nat}, Sub x s → Sub y s → Sub (x ^^^ y) s := by
    intro x y hx hy
    have := sub_xor hx hy
    rwa [Nat.or_self] at this
  induction e with
  | inp => exact ⟨fun x hx => hx, fun x y _ _ => rfl⟩
  | xor a b iha ihb =>
    simp only [ok, Bool.and_eq_true] at h
    obtain ⟨⟨sa, la⟩, ⟨sb, lb⟩⟩ := iha h.1, ihb h.2
    refine ⟨fun x hx => sub_xor (sa x hx) (sb x hx), fun x y hx hy => ?_⟩
    simp only [eval, la x y hx hy, lb x y hx hy]
    ac_rfl
  | or a b iha ihb =>
    simp only [ok, Bool.and_eq_true, beq_iff_eq] at h
    obtain ⟨⟨sa, la⟩, ⟨sb, lb⟩⟩ := iha h.1.1, ihb h.1.2
    refine ⟨fun x hx => sub_or (sa x hx) (sb x hx), fun x y hx hy => ?_⟩
    simp only [eval]
    rw [or_eq_xor (sa _ (subxy hx hy)) (sb _ (subxy hx hy)) h.2, or_eq_xor (sa x hx) (sb x hx) h.2,
      or_eq_xor (sa y hy) (sb y hy) h.2, la x y hx hy, lb x y hx hy]
    ac_rfl
  | and a m iha => exact sound_map (f := (· &&& m)) (fun a j => by rw [Nat.testBit_and, Bool.and_comm]) (iha h)
  | shl a n iha => exact sound_map (shl_testBit n) (iha h)
  | shlN a n iha => exact sound_map (fun a j => Nat.testBit_shiftLeft (i := n) a) (iha h)
  | shr a n iha => exact sound_map (f := (· >>> n)) (c := fun _ => true) (fun a j => by
      rw [Nat.testBit_shiftRight, Bool.true_and]) (iha h)
  | perm tbl n a iha => exact sound_map (permF_testBit tbl n) (iha h)
  | rev n a iha => exact sound_map (revBits_testBit n) (iha h)
  | look T a iha =>
    simp only [ok, Bool.and_eq_true, decide_eq_true_eq] at h
    obtain ⟨sa, la⟩ := iha h.1.1
    refine ⟨fun x _ => sub_foldl_or T _, fun x y hx hy => ?_⟩
    simp only [eval, la x y hx hy]
    exact tblLin_spec h.2 _ _ (Nat.lt_of_le_of_lt (sub_le (sa x hx)) h.1.2) (Nat.lt_of_le_of_lt (sub_le (sa y hy)) h.1.2)

/-! ### extension from the unit vectors -/
/-- two checked expressions that agree on the unit vectors agree on every `n`-bit input. -/
theorem le_ext (n : Nat) (e1 e2 : LE) (h1 : ok (2 ^ n - 1) e1 = true) (h2 : ok (2 ^ n - 1) e2 = true)
    (hb : (List.range n).all (fun i => eval (2 ^ i) e1 == eval (2 ^ i) e2) = true) :
    ∀ x, x < 2 ^ n → eval x e1 = eval x e2 := by
  apply lin_ext n
  · intro x y hx hy; exact (sound _ e1 h1).2 x y (sub_of_lt hx) (sub_of_lt hy)
  · intro x y hx hy; exact (sound _ e2 h2).2 x y (sub_of_lt hx) (sub_of_lt hy)
  · intro i hi
    exact beq_iff_eq.mp (all_range.mp hb i hi)

/-- two pairs compared in one evaluation, for circuits that share sub-circuits. -/
theorem le_ext_pair (n : Nat) (a1 a2 b1 b2 : LE) (ha1 : ok (2 ^ n - 1) a1 = true) (ha2 : ok (2 ^ n - 1) a2 = true)
    (hb1 : ok (2 ^ n - 1) b1 = true) (hb2 : ok (2 ^ n - 1) b2 = true)
    (h : (List.range n).all (fun i => eval (2 ^ i) a1 == eval (2 ^ i) a2 && eval (2 ^ i) b1 == eval (2 ^ i) b2) = true)
    (x : Nat) (hx : x < 2 ^ n) : eval x a1 = eval x a2 ∧ eval x b1 = eval x b2 := by
  simp only [all_range, Bool.and_eq_true] at h
  exact ⟨le_ext n a1 a2 ha1 ha2 (all_range.mpr fun i hi => (h i hi).1) x hx,
    le_ext n b1 b2 hb1 hb2 (all_range.mpr fun i hi => (h i hi).2) x hx⟩

/-- the same for a family of `m` pairs, checked and compared in one table. -/
theorem le_ext_range (n m : Nat) (e1 e2 : Nat → LE)
    (h : (List.range m).all (fun b => ok (2 ^ n - 1) (e1 b) && ok (2 ^ n - 1) (e2 b) &&
      (List.range n).all (fun i => eval (2 ^ i) (e1 b) == eval (2 ^ i) (e2 b))) = true)
    (b : Nat) (hb : b < m) (x : Nat) (hx : x < 2 ^ n) : eval x (e1 b) = eval x (e2 b) := by
  have := all_range.mp h b hb
  simp only [Bool.and_eq_true] at this
  exact le_ext n _ _ this.1.1 this.1.2 this.2 x hx

theorem le_lin (n : Nat) (e : LE) (h : ok (2 ^ n - 1) e = true) (x y : Nat) (hx : x < 2 ^ n) (hy : y < 2 ^ n) :
    eval (x ^^^ y) e = eval x e ^^^ eval y e := (sound _ e h).2 x y (sub_of_lt hx) (sub_of_lt hy)

theorem le_bound (n : Nat) (e : LE) (h : ok (2 ^ n - 1) e = true) (x : Nat) (hx : x < 2 ^ n) :
    eval x e ≤ supp (2 ^ n - 1) e := sub_le ((sound _ e h).1 x (sub_of_lt hx))

/-! ### circuits that the key schedule and the data path share -/

def PermOpE (a b : LE) (n m : Nat) : LE × LE :=
  let t := LE.and (LE.xor (LE.shr a n) b) m
  (LE.xor a (LE.shl t n), LE.xor b t)

/-- block `B_{b+1}` (bits 6b+1 … 6b+6) of the 48-bit value of `k`, first bit of the block least significant. -/
def chunkE (k : LE) (b : Nat) : LE := LE.rev 6 (LE.and (LE.shr k (6 * (7 - b))) 63)

/-- the word layout of a 48-bit round key `K` (eight 6-bit blocks B1…B8): `kw0` holds B1, B3, B5, B7 in its four
bytes, `kw1` holds B2, B4, B6, B8 and is rotated left by 4; inside a byte the first bit of the block is least
significant. -/
def kw0E (k : LE) : LE :=
  LE.or (LE.or (LE.or (chunkE k 0) (LE.shlN (chunkE k 2) 8)) (LE.shlN (chunkE k 4) 16)) (LE.shlN (chunkE k 6) 24)

def kw1E (k : LE) : LE :=
  let w := LE.or (LE.or (LE.or (chunkE k 1) (LE.shlN (chunkE k 3) 8)) (LE.shlN (chunkE k 5) 16)) (LE.shlN (chunkE k 7) 24)
  LE.or (LE.shl w 4) (LE.shr w 28)

def kw0 (K : Nat) : Nat := eval K (kw0E LE.inp)
def kw1 (K : Nat) : Nat := eval K (kw1E LE.inp)

theorem eval_kw0E (X : Nat) (k : LE) : eval X (kw0E k) = kw0 (eval X k) := rfl
theorem eval_kw1E (X : Nat) (k : LE) : eval X (kw1E k) = kw1 (eval X k) := rfl

theorem kw1_lt (K : Nat) (hK : K < 2 ^ 48) : kw1 K < 2 ^ 32 :=
  Nat.lt_of_le_of_lt (le_bound 48 (kw1E LE.inp) (by decide +kernel) K hK) (by decide +kernel)

end PttVerif.C02.Lin
