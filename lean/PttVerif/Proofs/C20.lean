import PttVerif.Proofs.C20Bytes
/-
C20 — the operations of the model on a well-formed state (SHM of `MAX_USERS` entries, `.PASSWDS` of `MAX_USERS`
records), the invariant `Agree` carried along a history, and locality (`slotView`).

Every writer of `.PASSWDS` puts bytes at an offset inside ONE record, and an operation on a valid slot is such a write
together with a store into the slot's SHM entry (`putSlot`); `effect` says which value and which bytes.  What is
written leaves the stored value in the Money field of the record (`Stamps`).  Invariant, frame and locality are all
read off this one description (`step_valid`).

Constants.  The model's `RSZ`, `MOFF`, `LOFF`, `MAX` are definitions `:= Gen.Money.*`, which the statements use; where a
model function brings `RSZ * …`, `exact`/`show` with a `Gen.Money.*` fact works and `rw` does not see the match.  `SZ`
and `OFF` are the stride and the offset the CODE of `passwdUpdateMoney` uses; that they are the record size and the
Money offset is a fact about the source (`gen_layout`), used once in `seekOffset_valid`.
-/
namespace PttVerif.C20
open PttVerif

/-! ### what the regenerated data says (re-checked by the kernel whenever `Gen/Money.lean` changes) -/

theorem gen_layout :
    Gen.Money.writtenField = "Money" ∧ Gen.Money.writtenOffset = Gen.Money.moneyOffset ∧
    Gen.Money.stride = Gen.Money.recSize ∧ Gen.Money.moneyOffset + 4 ≤ Gen.Money.recSize ∧
    Gen.Money.moneySize = 4 ∧ Gen.Money.littleEndian = true ∧ Gen.Money.valueBits = 32 := by decide

/-- a slot index is an int32, every offset into `.PASSWDS` fits int64. -/
theorem gen_bounds :
    MAX ≤ 2147483647 ∧ Gen.Money.recSize * MAX + Gen.Money.recSize < 9223372036854775808 := by decide

/-- UserLevel is the field `ptt.SetUserPerm` sets. -/
theorem gen_level :
    Gen.Money.userLevelOffset + 4 ≤ Gen.Money.recSize ∧ Gen.Money.userLevelSize = 4 ∧
    (Gen.Money.userLevelOffset + 4 ≤ Gen.Money.moneyOffset ∨ Gen.Money.moneyOffset + 4 ≤ Gen.Money.userLevelOffset) := by
  decide

theorem money_in_record : Gen.Money.moneyOffset + 4 ≤ Gen.Money.recSize := gen_layout.2.2.2.1

theorem uidIsValid_iff (u : Int) : uidIsValid u = true ↔ Valid u := by
  simp [uidIsValid, Valid]

theorem uidIsValid_invalid {u : Int} (hu : ¬ Valid u) : uidIsValid u = false :=
  Bool.eq_false_iff.2 fun h => hu ((uidIsValid_iff u).1 h)

theorem rejects_pair (a b : Nat × Int) (u : Int) :
    rejects [a, b] u = (cmpOp a.1 u a.2 || cmpOp b.1 u b.2) := by
  simp only [rejects, List.any_cons, List.any_nil, Bool.or_false]

theorem setGuard_iff (u : Int) : rejects Gen.Money.setGuard u = false ↔ Valid u := by
  -- the guards read from the source compare with the literal value of `MAX_USERS`
  have hmax : (MAX : Int) = 50 := rfl
  unfold Gen.Money.setGuard Valid
  rw [rejects_pair, hmax]
  simp only [cmpOp, Bool.or_eq_false_iff, decide_eq_false_iff_not, Int.not_lt, gt_iff_lt]

theorem deGuard_iff (u : Int) : rejects Gen.Money.deGuard u = false ↔ Valid u := by
  have hmax : (MAX : Int) = 50 := rfl
  unfold Gen.Money.deGuard Valid
  rw [rejects_pair, hmax]
  simp only [cmpOp, Bool.or_eq_false_iff, decide_eq_false_iff_not, Int.not_lt, Int.not_le, gt_iff_lt]
  omega

/-- `passwdUpdateMoney` repeats the guard of `SetUMoney`. -/
theorem passwdGuard_iff (u : Int) : rejects Gen.Money.passwdGuard u = false ↔ Valid u := setGuard_iff u

theorem rejects_of_invalid {g : List (Nat × Int)} {u : Int} (h : rejects g u = false ↔ Valid u)
    (hu : ¬ Valid u) : rejects g u = true := by
  cases hr : rejects g u
  · exact absurd (h.1 hr) hu
  · rfl

/-! ### valid slots and their records in a file of `MAX` records -/

theorem valid_bounds (u : Int) (h : Valid u) : 0 ≤ u - 1 ∧ (u - 1).toNat < MAX ∧ Int32 (u - 1) := by
  have := gen_bounds.1
  unfold Valid at h; unfold Int32; omega

theorem toIdx_valid (u : Int) (h : Valid u) : toIdx u = u - 1 :=
  wrap32_of_int32 _ (valid_bounds u h).2.2

theorem slot_ne (u v : Int) (hu : Valid u) (hv : Valid v) (h : v ≠ u) : (v - 1).toNat ≠ (u - 1).toNat := by
  unfold Valid at hu hv; omega

theorem shmAt_isSome (s : State) (u : Int) (hs : s.shm.length = MAX) (hu : Valid u) : ∃ v, shmAt s u = some v :=
  ⟨_, List.getElem?_eq_getElem (by rw [hs]; exact (valid_bounds u hu).2.1)⟩

theorem block_inside (R k n o len : Nat) (hk : k < n) (ho : o + len ≤ R) : R * k + o + len ≤ R * n := by
  have h1 : R * (k + 1) ≤ R * n := Nat.mul_le_mul_left _ hk
  rw [Nat.mul_succ] at h1
  exact Nat.le_trans (Nat.add_assoc _ o len ▸ Nat.add_le_add_left ho _) h1

theorem blocks_apart (R a b : Nat) (h : a ≠ b) : R * a + R ≤ R * b ∨ R * b + R ≤ R * a := by
  rcases Nat.lt_or_gt_of_ne h with h1 | h1
  · exact Or.inl (block_inside R a b 0 R h1 (Nat.le_of_eq (Nat.zero_add R)))
  · exact Or.inr (block_inside R b a 0 R h1 (Nat.le_of_eq (Nat.zero_add R)))

theorem inRecord_inside (f : List Nat) (u : Int) (o len : Nat) (hf : f.length = Gen.Money.recSize * MAX)
    (hu : Valid u) (ho : o + len ≤ Gen.Money.recSize) :
    Gen.Money.recSize * (u - 1).toNat + o + len ≤ f.length := by
  rw [hf]; exact block_inside _ _ _ o len (valid_bounds u hu).2.1 ho

theorem record_length (f : List Nat) (u : Int) (hf : f.length = Gen.Money.recSize * MAX) (hu : Valid u) :
    (record f u).length = Gen.Money.recSize := by
  have h : Gen.Money.recSize * (u - 1).toNat + Gen.Money.recSize ≤ f.length :=
    inRecord_inside f u 0 _ hf hu (Nat.le_of_eq (Nat.zero_add _))
  unfold record
  rw [List.length_take, List.length_drop, Nat.min_eq_left (Nat.le_sub_of_add_le (Nat.add_comm _ _ ▸ h))]

theorem moneyBytes_eq_record (f : List Nat) (u : Int) :
    moneyBytes f u = ((record f u).drop Gen.Money.moneyOffset).take 4 := by
  unfold moneyBytes record
  rw [List.drop_take, List.take_take, List.drop_drop, Nat.min_eq_left]
  have := money_in_record
  omega

theorem record_write (f bs : List Nat) (u v : Int) (o : Nat) (hf : f.length = Gen.Money.recSize * MAX)
    (hu : Valid u) (hv : Valid v) (ho : o + bs.length ≤ Gen.Money.recSize) :
    record (writeAt f (Gen.Money.recSize * (u - 1).toNat + o) bs) v =
      if v = u then writeAt (record f u) o bs else record f v := by
  unfold record
  by_cases h : v = u
  · subst h
    rw [if_pos rfl]
    exact slice_writeAt_within f bs o _ _ (inRecord_inside f v 0 _ hf hv (Nat.le_of_eq (Nat.zero_add _))) ho
  · rw [if_neg h]
    apply slice_writeAt_disjoint _ _ _ _ _ (inRecord_inside f u o _ hf hu ho)
    rcases blocks_apart Gen.Money.recSize _ _ (slot_ne u v hu hv h) with h1 | h1
    · exact Or.inl (Nat.le_trans h1 (Nat.le_add_right _ o))
    · exact Or.inr (Nat.le_trans (Nat.add_assoc _ o _ ▸ Nat.add_le_add_left ho _) h1)

theorem record_write_length (f bs : List Nat) (u : Int) (o : Nat) (hf : f.length = Gen.Money.recSize * MAX)
    (hu : Valid u) (ho : o + bs.length ≤ Gen.Money.recSize) :
    (writeAt f (Gen.Money.recSize * (u - 1).toNat + o) bs).length = Gen.Money.recSize * MAX := by
  rw [writeAt_length _ _ _ (inRecord_inside f u o _ hf hu ho), hf]

theorem record_write_whole (f : List Nat) (u v : Int) (r : List Nat) (hf : f.length = Gen.Money.recSize * MAX)
    (hr : r.length = Gen.Money.recSize) (hu : Valid u) (hv : Valid v) :
    record (writeAt f (Gen.Money.recSize * (u - 1).toNat) r) v = if v = u then r else record f v := by
  have h := record_write f r u v 0 hf hu hv (by omega)
  rwa [writeAt_all _ _ (hr.trans (record_length f u hf hu).symm)] at h

theorem moneyBytes_write (f bs : List Nat) (u v : Int) (o : Nat) (hf : f.length = Gen.Money.recSize * MAX)
    (hu : Valid u) (hv : Valid v) (ho : o + bs.length ≤ Gen.Money.recSize) :
    moneyBytes (writeAt f (Gen.Money.recSize * (u - 1).toNat + o) bs) v =
      if v = u then ((writeAt (record f u) o bs).drop Gen.Money.moneyOffset).take 4 else moneyBytes f v := by
  rw [moneyBytes_eq_record, moneyBytes_eq_record, record_write f bs u v o hf hu hv ho]
  split <;> rfl

theorem moneyBytes_write_apart (f bs : List Nat) (u v : Int) (o : Nat) (hf : f.length = Gen.Money.recSize * MAX)
    (hu : Valid u) (hv : Valid v) (ho : o + bs.length ≤ Gen.Money.recSize)
    (hapart : o + bs.length ≤ Gen.Money.moneyOffset ∨ Gen.Money.moneyOffset + 4 ≤ o) :
    moneyBytes (writeAt f (Gen.Money.recSize * (u - 1).toNat + o) bs) v = moneyBytes f v := by
  rw [moneyBytes_write f bs u v o hf hu hv ho]
  split
  · rename_i h
    rw [h, moneyBytes_eq_record]
    exact slice_writeAt_disjoint _ _ _ _ _ (by rw [record_length f u hf hu]; exact ho) hapart.symm
  · rfl

/-! ### the money functions on a valid / an invalid slot -/

theorem moneyOf_valid (s : State) (u v : Int) (hu : Valid u) (h : shmAt s u = some v) :
    moneyOf s u = .ok v := by
  unfold moneyOf
  simp only [toIdx_valid u hu]
  rw [if_neg (Int.not_lt.2 (valid_bounds u hu).1)]
  unfold shmAt at h
  unfold idx
  rw [h]

/-- no wrap in the `uintptr` product, no sign in the conversion to int64. -/
theorem seekOffset_nonneg (i : Int) (h0 : 0 ≤ i) (hi : i < 18446744073709551616)
    (hb : SZ * i.toNat + OFF < 9223372036854775808) : seekOffset i = some (SZ * i.toNat + OFF) := by
  unfold seekOffset
  simp only
  rw [Int.emod_eq_of_lt h0 hi, Nat.mod_eq_of_lt (Nat.lt_trans hb (by decide)), if_pos hb]

theorem seekOffset_valid (u : Int) (h : Valid u) :
    seekOffset (u - 1) = some (Gen.Money.recSize * (u - 1).toNat + Gen.Money.moneyOffset) := by
  obtain ⟨h0, hk, hI⟩ := valid_bounds u h
  have ho : OFF = Gen.Money.moneyOffset := gen_layout.2.1
  have hs : SZ = Gen.Money.recSize := gen_layout.2.2.1
  have hbig := gen_bounds.2
  have hin := block_inside Gen.Money.recSize _ MAX _ 4 hk money_in_record
  rw [← ho, ← hs]
  exact seekOffset_nonneg _ h0 (by unfold Int32 at hI; omega) (by rw [ho, hs]; omega)

/-- slot `u` gets the SHM value `x` and the bytes `bs` at offset `off` of its record. -/
def putSlot (s : State) (f : List Nat) (u x : Int) (off : Nat) (bs : List Nat) : State :=
  { shm := s.shm.set (u - 1).toNat x,
    file := some (writeAt f (Gen.Money.recSize * (u - 1).toNat + off) bs) }

theorem setUMoney_stores (s : State) (u m : Int) (hs : s.shm.length = MAX) (hu : Valid u) :
    setUMoney s u m = match s.file with
      | none => ({ s with shm := s.shm.set (u - 1).toNat m }, .ok (m, .io))
      | some f => (putSlot s f u m Gen.Money.moneyOffset (le32 m), .ok (m, .none)) := by
  obtain ⟨h0, hk, _⟩ := valid_bounds u hu
  unfold setUMoney passwdUpdateMoney putSlot
  rw [(setGuard_iff u).2 hu, (passwdGuard_iff u).2 hu]
  simp only [Bool.false_eq_true, if_false, toIdx_valid u hu, seekOffset_valid u hu]
  rw [if_neg (by omega)]
  cases s.file with
  | none => rfl
  | some f =>
      simp only
      rw [moneyOf_valid _ u m hu (by unfold shmAt; exact List.getElem?_set_self (by omega))]
      rfl

theorem setUMoney_valid (s : State) (f : List Nat) (u m : Int) (hs : s.shm.length = MAX)
    (hf : s.file = some f) (hu : Valid u) :
    setUMoney s u m = (putSlot s f u m Gen.Money.moneyOffset (le32 m), .ok (m, .none)) := by
  rw [setUMoney_stores s u m hs hu, hf]

theorem setUMoney_invalid (s : State) (u m : Int) (hu : ¬ Valid u) :
    setUMoney s u m = (s, .ok (-1, .invalidUID)) := by
  unfold setUMoney
  rw [rejects_of_invalid (setGuard_iff u) hu]
  rfl

theorem setUMoney_ok (s : State) (u m : Int) (hs : s.shm.length = MAX) : ∃ r, (setUMoney s u m).2 = .ok r := by
  by_cases hu : Valid u
  · rw [setUMoney_stores s u m hs hu]
    cases s.file with
    | none => exact ⟨_, rfl⟩
    | some f => exact ⟨_, rfl⟩
  · rw [setUMoney_invalid s u m hu]; exact ⟨_, rfl⟩

theorem deUMoney_invalid (s : State) (u m : Int) (hu : ¬ Valid u) :
    deUMoney s u m = (s, .ok (-1, .invalidUID)) := by
  unfold deUMoney
  rw [rejects_of_invalid (deGuard_iff u) hu]
  rfl

/-- the value `DeUMoney(_, m)` stores into a slot that holds `v`, in Go's int32 arithmetic. -/
def deVal (v m : Int) : Int := if m < 0 ∧ v < wrap32 (-m) then 0 else wrap32 (v + m)

theorem deUMoney_valid (s : State) (u m v : Int) (hu : Valid u) (hc : shmAt s u = some v) :
    deUMoney s u m = setUMoney s u (deVal v m) := by
  unfold deUMoney deVal
  rw [(deGuard_iff u).2 hu]
  simp only [Bool.false_eq_true, if_false, moneyOf_valid s u v hu hc]
  split <;> rfl

theorem deVal_eq_deNew (cur m : Int) (hm : Int32 m) (hmin : m ≠ -2147483648) (hnew : Int32 (deNew cur m)) :
    deVal cur m = deNew cur m := by
  have hneg : wrap32 (-m) = -m := wrap32_of_int32 _ (by unfold Int32 at *; omega)
  unfold deVal
  rw [hneg]
  unfold deNew at hnew ⊢
  split
  · rfl
  · rename_i hb
    rw [if_neg hb] at hnew
    exact wrap32_of_int32 _ hnew

/-! ### reading the state after a write to a slot -/

theorem shmAt_putSlot (s : State) (f : List Nat) (u x v : Int) (off : Nat) (bs : List Nat)
    (hs : s.shm.length = MAX) (hu : Valid u) (hv : Valid v) :
    shmAt (putSlot s f u x off bs) v = if v = u then some x else shmAt s v := by
  unfold shmAt putSlot
  by_cases h : v = u
  · subst h; rw [if_pos rfl]; exact List.getElem?_set_self (by rw [hs]; exact (valid_bounds v hv).2.1)
  · rw [if_neg h]; exact List.getElem?_set_ne (Ne.symm (slot_ne u v hu hv h))

theorem diskAt_putSlot (s : State) (f : List Nat) (u x v : Int) (off : Nat) (bs : List Nat) (hf : s.file = some f)
    (hlen : f.length = Gen.Money.recSize * MAX) (hu : Valid u) (hv : Valid v)
    (ho : off + bs.length ≤ Gen.Money.recSize) :
    diskAt (putSlot s f u x off bs) v =
      if v = u then dec32? (((writeAt (record f u) off bs).drop Gen.Money.moneyOffset).take 4) else diskAt s v := by
  unfold diskAt
  rw [hf]
  simp only [putSlot, Option.bind_some]
  rw [moneyBytes_write f bs u v off hlen hu hv ho]
  split <;> rfl

theorem wf_putSlot (s : State) (f : List Nat) (u x : Int) (off : Nat) (bs : List Nat) (hs : s.shm.length = MAX)
    (hlen : f.length = Gen.Money.recSize * MAX) (hu : Valid u) (ho : off + bs.length ≤ Gen.Money.recSize) :
    WF (putSlot s f u x off bs) :=
  ⟨(List.length_set ..).trans hs, _, rfl, record_write_length f bs u off hlen hu ho⟩

/-! ### the whole-record write (`ptt.SetUserPerm`, `ptt.killUser`, registration → `passwdSyncUpdate` → `cmbbs.PasswdUpdate`) -/

/-- the state after a successful whole-record write of `rec'` to slot `u`. -/
def afterSync (s : State) (f : List Nat) (u : Int) (rec' : List Nat) : State :=
  { s with file := some (writeAt f (Gen.Money.recSize * (u - 1).toNat) rec') }

/-- SHM already holds `v`, so storing it again changes nothing. -/
theorem afterSync_eq_putSlot (s : State) (f : List Nat) (u v : Int) (r : List Nat) (hc : shmAt s u = some v) :
    afterSync s f u r = putSlot s f u v 0 r := by
  obtain ⟨hk, e⟩ := List.getElem?_eq_some_iff.1 hc
  unfold afterSync putSlot
  rw [← e, List.set_getElem_self hk]
  rfl

theorem recSetLevel_length (rec : List Nat) (perm : Nat) (h : rec.length = Gen.Money.recSize) :
    (recSetLevel rec perm).length = Gen.Money.recSize := by
  unfold recSetLevel LOFF
  rw [writeAt_length _ _ _ (by rw [h]; exact gen_level.1), h]

theorem recSetMoney_length (rec : List Nat) (v : Int) (h : rec.length = Gen.Money.recSize) :
    (recSetMoney rec v).length = Gen.Money.recSize := by
  unfold recSetMoney MOFF
  rw [writeAt_length _ _ _ (by rw [h]; exact money_in_record), h]

theorem recSetMoney_money (rec : List Nat) (v : Int) (h : rec.length = Gen.Money.recSize) :
    ((recSetMoney rec v).drop Gen.Money.moneyOffset).take 4 = le32 v :=
  slice_writeAt_same rec (le32 v) Gen.Money.moneyOffset (by rw [h]; exact money_in_record)

theorem recSetMoney_other (rec : List Nat) (v : Int) (h : rec.length = Gen.Money.recSize) (j : Nat)
    (hj : ¬ (Gen.Money.moneyOffset ≤ j ∧ j < Gen.Money.moneyOffset + 4)) :
    (recSetMoney rec v)[j]? = rec[j]? := by
  unfold recSetMoney MOFF
  rw [getElem?_writeAt _ _ _ _ (by rw [h]; exact money_in_record), le32_length, if_neg hj]

theorem passwdSyncUpdate_valid (s : State) (f : List Nat) (u v : Int) (rec : List Nat)
    (hf : s.file = some f) (hu : Valid u) (hc : shmAt s u = some v) :
    passwdSyncUpdate s u rec = (afterSync s f u (recSetMoney rec v), .ok .none) := by
  unfold passwdSyncUpdate passwdUpdate afterSync
  simp only [(uidIsValid_iff u).2 hu, Bool.not_true, Bool.false_eq_true, if_false, moneyOf_valid s u v hu hc, hf,
    toIdx_valid u hu]
  rw [if_neg (Int.not_lt.2 (valid_bounds u hu).1)]
  rfl

theorem passwdSyncUpdate_invalid (s : State) (u : Int) (rec : List Nat) (hu : ¬ Valid u) :
    passwdSyncUpdate s u rec = (s, .ok .invalidUID) := by
  unfold passwdSyncUpdate
  simp [uidIsValid_invalid hu]

theorem setUserPerm_valid (s : State) (f : List Nat) (u v : Int) (rec : List Nat) (perm : Nat)
    (hf : s.file = some f) (hu : Valid u) (hc : shmAt s u = some v) :
    setUserPerm s u rec perm =
      (afterSync s f u (recSetMoney (recSetLevel rec perm) v), .ok (Int.ofNat perm, .none)) := by
  unfold setUserPerm
  rw [passwdSyncUpdate_valid s f u v (recSetLevel rec perm) hf hu hc]

theorem setUserPerm_invalid (s : State) (u : Int) (rec : List Nat) (perm : Nat) (hu : ¬ Valid u) :
    setUserPerm s u rec perm = (s, .ok (0, .invalidUID)) := by
  unfold setUserPerm
  rw [passwdSyncUpdate_invalid s u _ hu]

theorem passwdQuery_valid (s : State) (f : List Nat) (u : Int) (hf : s.file = some f)
    (hlen : f.length = Gen.Money.recSize * MAX) (hu : Valid u) :
    passwdQuery s u = .ok (normRec (record f u)) := by
  have hin : RSZ * (u - 1).toNat + RSZ ≤ f.length := inRecord_inside f u 0 _ hlen hu (Nat.le_of_eq (Nat.zero_add _))
  unfold passwdQuery
  simp only [(uidIsValid_iff u).2 hu, Bool.not_true, Bool.false_eq_true, if_false, hf, toIdx_valid u hu]
  rw [if_neg (Int.not_lt.2 (valid_bounds u hu).1), if_pos hin]
  rfl

theorem passwdQuery_invalid (s : State) (u : Int) (hu : ¬ Valid u) : passwdQuery s u = .error .invalidUserID := by
  unfold passwdQuery
  simp [uidIsValid_invalid hu]

theorem fieldWrite_valid (s : State) (f : List Nat) (u : Int) (off : Nat) (bs : List Nat) (hf : s.file = some f)
    (hu : Valid u) :
    fieldWrite s u off bs =
      ({ s with file := some (writeAt f (Gen.Money.recSize * (u - 1).toNat + off) bs) }, .none) := by
  unfold fieldWrite
  simp only [(uidIsValid_iff u).2 hu, Bool.not_true, Bool.false_eq_true, if_false, hf, toIdx_valid u hu]
  rw [if_neg (Int.not_lt.2 (valid_bounds u hu).1)]
  rfl

theorem shmAt_afterSync (s : State) (f : List Nat) (u : Int) (r : List Nat) (v : Int) :
    shmAt (afterSync s f u r) v = shmAt s v := rfl

theorem record_synced (f : List Nat) (u x : Int) (rec : List Nat) (hlen : f.length = Gen.Money.recSize * MAX)
    (hr : rec.length = Gen.Money.recSize) (hu : Valid u) :
    (∀ j, ¬ (Gen.Money.moneyOffset ≤ j ∧ j < Gen.Money.moneyOffset + 4) →
      (record (writeAt f (Gen.Money.recSize * (u - 1).toNat) (recSetMoney rec x)) u)[j]? = rec[j]?) ∧
    ∀ v, Valid v → v ≠ u →
      record (writeAt f (Gen.Money.recSize * (u - 1).toNat) (recSetMoney rec x)) v = record f v := by
  have hl := recSetMoney_length rec x hr
  refine ⟨fun j hj => ?_, fun v hv hne => ?_⟩
  · rw [record_write_whole f u u _ hlen hl hu hu, if_pos rfl, recSetMoney_other rec x hr j hj]
  · rw [record_write_whole f u v _ hlen hl hu hv, if_neg hne]

/-! ### registration -/

/-- the order read from the source: the balance is set before the record is written. -/
theorem regOrder_eq : regOrder = ["setMoney", "writeRecord"] := by decide +kernel

/-- so the tail of `SetupNewUser` is `SetUMoney` (answer dropped) followed by `passwdSyncUpdate`. -/
theorem regTail_regOrder (s : State) (u m : Int) (rec : List Nat) (x : Int × Err)
    (hx : (setUMoney s u m).2 = .ok x) :
    regTail regOrder s u rec m = passwdSyncUpdate (setUMoney s u m).1 u rec := by
  rw [regOrder_eq]
  unfold regTail
  rw [if_pos rfl]
  simp only [hx]
  unfold regTail
  rw [if_neg (by decide), if_pos rfl]
  -- `regTail` carries its own copy of the body of `passwdSyncUpdate`: compare the two branch by branch
  unfold passwdSyncUpdate regTail
  split
  · rfl
  · split
    · rfl
    · simp only
      split
      · rfl
      · rename_i h
        rw [Decidable.not_not.1 h]

theorem newuser_valid (s : State) (f : List Nat) (u m : Int) (rec : List Nat) (hs : s.shm.length = MAX)
    (hf : s.file = some f) (hlen : f.length = Gen.Money.recSize * MAX) (hr : rec.length = Gen.Money.recSize)
    (hu : Valid u) :
    regTail regOrder s u rec m = (putSlot s f u m 0 (recSetMoney rec m), .ok .none) := by
  have hset := setUMoney_valid s f u m hs hf hu
  rw [regTail_regOrder s u m rec (m, .none) (by rw [hset]), hset]
  have hc : shmAt (putSlot s f u m Gen.Money.moneyOffset (le32 m)) u = some m := by
    rw [shmAt_putSlot s f u m u _ _ hs hu hu, if_pos rfl]
  rw [passwdSyncUpdate_valid (putSlot s f u m Gen.Money.moneyOffset (le32 m)) _ u m rec rfl hu hc]
  unfold afterSync putSlot
  simp only
  -- the record just written covers the four Money bytes written by `SetUMoney`
  have hl := recSetMoney_length rec m hr
  rw [writeAt_cover f (le32 m) (recSetMoney rec m) _ (Gen.Money.recSize * (u - 1).toNat)
    (inRecord_inside f u _ 4 hlen hu money_in_record) (inRecord_inside f u 0 _ hlen hu (by omega))
    (by rw [hl, le32_length]; have := money_in_record; omega)]
  rfl

theorem newuser_invalid (s : State) (u m : Int) (rec : List Nat) (hu : ¬ Valid u) :
    regTail regOrder s u rec m = (s, .ok .invalidUID) := by
  have hset := setUMoney_invalid s u m hu
  rw [regTail_regOrder s u m rec (-1, .invalidUID) (by rw [hset]), hset]
  exact passwdSyncUpdate_invalid s u rec hu

/-! ### the shape of a step -/

/-- slots addressed by a writing operation. -/
def writes : Op → Int → Prop
  | .set u _, w => w = u
  | .de u _, w => w = u
  | .get _, _ => False
  | .sync u _ _, w => w = u
  | .load _, _ => False
  | .newuser u _ _, w => w = u

def slotOf : Op → Int
  | .set u _ => u
  | .de u _ => u
  | .get u => u
  | .sync u _ _ => u
  | .load u => u
  | .newuser u _ _ => u

/-- what an operation does to the valid slot it is addressed to when the slot's SHM entry is `v`: the value it stores
there, and the offset in the slot's record and the bytes it writes (`none`: a read). -/
def effect : Op → Int → Option (Int × Nat × List Nat)
  | .set _ m, _ => some (m, Gen.Money.moneyOffset, le32 m)
  | .de _ m, v => some (deVal v m, Gen.Money.moneyOffset, le32 (deVal v m))
  | .get _, _ => none
  | .load _, _ => none
  | .sync _ rec perm, v => some (v, 0, recSetMoney (recSetLevel rec perm) v)
  | .newuser _ rec m, _ => some (m, 0, recSetMoney rec m)

/-- what it answers there (with the error `nil`). -/
def answer : Op → Int → Int
  | .set _ m, _ => m
  | .de _ m, v => deVal v m
  | .get _, v => v
  | .load _, v => v
  | .sync _ _ perm, _ => Int.ofNat perm
  | .newuser _ _ _, _ => 0

theorem step_valid (s : State) (f : List Nat) (o : Op) (v : Int) (hs : s.shm.length = MAX) (hf : s.file = some f)
    (hlen : f.length = Gen.Money.recSize * MAX) (hrec : RecOK o) (hu : Valid (slotOf o))
    (hc : shmAt s (slotOf o) = some v) :
    step s o = (match effect o v with
      | none => s
      | some (x, off, bs) => putSlot s f (slotOf o) x off bs, .ok (answer o v, .none)) := by
  cases o with
  | set u m => exact setUMoney_valid s f u m hs hf hu
  | de u m => exact (deUMoney_valid s u m v hu hc).trans (setUMoney_valid s f u _ hs hf hu)
  | get u => simp only [step]; rw [moneyOf_valid s u v hu hc]; rfl
  | load u => simp only [step]; rw [passwdQuery_valid s f u hf hlen hu, moneyOf_valid s u v hu hc]; rfl
  | sync u rec perm =>
      exact (setUserPerm_valid s f u v rec perm hf hu hc).trans (by rw [afterSync_eq_putSlot s f u v _ hc]; rfl)
  | newuser u rec m => simp only [step]; rw [newuser_valid s f u m rec hs hf hlen hrec hu]; rfl

theorem step_invalid (s : State) (o : Op) (hu : ¬ Valid (slotOf o)) : (step s o).1 = s := by
  unfold step
  cases o with
  | set u m => simp only; rw [setUMoney_invalid s u m hu]
  | de u m => simp only; rw [deUMoney_invalid s u m hu]
  | get u => rfl
  | load u => rfl
  | sync u rec perm => simp only; rw [setUserPerm_invalid s u rec perm hu]
  | newuser u rec m => simp only; rw [newuser_invalid s u m rec hu]

theorem step_cases (s : State) (f : List Nat) (o : Op) (hs : s.shm.length = MAX) (hf : s.file = some f)
    (hlen : f.length = Gen.Money.recSize * MAX) (hrec : RecOK o) :
    (step s o).1 = s ∨ ∃ v x off bs, Valid (slotOf o) ∧ effect o v = some (x, off, bs) ∧
      (step s o).1 = putSlot s f (slotOf o) x off bs := by
  by_cases hu : Valid (slotOf o)
  · obtain ⟨v, hc⟩ := shmAt_isSome s _ hs hu
    have h := congrArg Prod.fst (step_valid s f o v hs hf hlen hrec hu hc)
    cases he : effect o v with
    | none => rw [he] at h; exact Or.inl h
    | some e => rw [he] at h; exact Or.inr ⟨v, e.1, e.2.1, e.2.2, hu, he, h⟩
  · exact Or.inl (step_invalid s o hu)

theorem recOK_of_noOverflow {b : Bal} {o : Op} (h : NoOverflow b o) : RecOK o := by
  cases o with
  | sync _ _ _ => exact h.1
  | newuser _ _ _ => exact h.2
  | set _ _ | de _ _ | get _ | load _ => trivial

/-! ### what a step writes -/

/-- bytes `bs` written at offset `off` of a record stay inside it and leave `x` in its Money field. -/
def Stamps (x : Int) (off : Nat) (bs : List Nat) : Prop :=
  off + bs.length ≤ Gen.Money.recSize ∧
  ∀ r : List Nat, r.length = Gen.Money.recSize → ((writeAt r off bs).drop Gen.Money.moneyOffset).take 4 = le32 x

theorem stamps_money (x : Int) : Stamps x Gen.Money.moneyOffset (le32 x) :=
  ⟨money_in_record, fun r hr => slice_writeAt_same r (le32 x) _ (hr ▸ money_in_record)⟩

theorem stamps_record (rec : List Nat) (x : Int) (h : rec.length = Gen.Money.recSize) :
    Stamps x 0 (recSetMoney rec x) := by
  have hl := recSetMoney_length rec x h
  refine ⟨by rw [hl]; exact Nat.le_of_eq (Nat.zero_add _), fun r hr => ?_⟩
  rw [writeAt_all _ _ (hl.trans hr.symm)]
  exact recSetMoney_money rec x h

theorem effect_stamps {o : Op} {v x : Int} {off : Nat} {bs : List Nat} (hrec : RecOK o)
    (he : effect o v = some (x, off, bs)) : Stamps x off bs := by
  cases o with
  | set _ m | de _ m => cases he; exact stamps_money _
  | get _ | load _ => cases he
  | sync _ rec perm => cases he; exact stamps_record _ _ (recSetLevel_length rec perm hrec)
  | newuser _ rec m => cases he; exact stamps_record rec _ hrec

theorem writes_slotOf (o : Op) (w : Int) (h : writes o w) : w = slotOf o := by
  cases o <;> first | exact h | exact h.elim

theorem effect_writes {o : Op} {v : Int} {e : Int × Nat × List Nat} (he : effect o v = some e) :
    writes o (slotOf o) := by
  cases o <;> first | rfl | cases he

theorem wf_step (s : State) (o : Op) (h : WF s) (hrec : RecOK o) : WF (step s o).1 := by
  obtain ⟨hs, f, hf, hlen⟩ := h
  rcases step_cases s f o hs hf hlen hrec with e | ⟨v, x, off, bs, hu, he, e⟩
  · rw [e]; exact ⟨hs, f, hf, hlen⟩
  · rw [e]; exact wf_putSlot s f _ x off bs hs hlen hu (effect_stamps hrec he).1

theorem wf_run (os : List Op) : ∀ (s : State), WF s → (∀ o ∈ os, RecOK o) → WF (run s os) := by
  induction os with
  | nil => intro s h _; exact h
  | cons o os ih =>
      intro s h hrec
      obtain ⟨hro, hrest⟩ := List.forall_mem_cons.1 hrec
      exact ih _ (wf_step s o h hro) hrest

theorem step_frame (s : State) (f : List Nat) (o : Op) (v : Int) (hs : s.shm.length = MAX)
    (hf : s.file = some f) (hlen : f.length = Gen.Money.recSize * MAX) (hrec : RecOK o) (hv : Valid v)
    (hnw : ¬ writes o v) :
    (∃ f', (step s o).1.file = some f' ∧ record f' v = record f v) ∧ shmAt (step s o).1 v = shmAt s v := by
  rcases step_cases s f o hs hf hlen hrec with e | ⟨cur, x, off, bs, hu, he, e⟩
  · rw [e]; exact ⟨⟨f, hf, rfl⟩, rfl⟩
  · have hne : v ≠ slotOf o := fun h => hnw (h ▸ effect_writes he)
    rw [e]
    exact ⟨⟨_, rfl, by rw [record_write f bs _ v off hlen hu hv (effect_stamps hrec he).1, if_neg hne]⟩,
      by rw [shmAt_putSlot s f _ x v off bs hs hu hv, if_neg hne]⟩

/-! ### the invariant carried along a history -/

/-- `s` represents the abstract table `b`: SHM holds `b` on every valid slot (int32 values), and `.PASSWDS`
holds `b` on the valid slots in `D`. -/
def Agree (s : State) (b : Bal) (D : Int → Prop) : Prop :=
  WF s ∧ (∀ u, Valid u → shmAt s u = some (b u) ∧ Int32 (b u)) ∧ (∀ u, Valid u → D u → diskAt s u = some (b u))

theorem agree_weaken {s : State} {b : Bal} {D D' : Int → Prop} (h : Agree s b D)
    (hD : ∀ w, Valid w → D' w → D w) : Agree s b D' :=
  ⟨h.1, h.2.1, fun u hu hd => h.2.2 u hu (hD u hu hd)⟩

theorem agree_putSlot (s : State) (b : Bal) (D : Int → Prop) (f : List Nat) (u x : Int) (off : Nat) (bs : List Nat)
    (h : Agree s b D) (hf : s.file = some f) (hu : Valid u) (hst : Stamps x off bs) (hx : Int32 x) :
    Agree (putSlot s f u x off bs) (upd b u x) (fun w => D w ∨ w = u) := by
  obtain ⟨⟨hs, f0, hf0, hlen⟩, hshm, hdisk⟩ := h
  cases hf.symm.trans hf0
  refine ⟨wf_putSlot s f u x off bs hs hlen hu hst.1, fun v hv => ?_, fun v hv hD => ?_⟩
  · rw [shmAt_putSlot s f u x v off bs hs hu hv]
    unfold upd
    split
    · exact ⟨rfl, hx⟩
    · exact hshm v hv
  · rw [diskAt_putSlot s f u x v off bs hf hlen hu hv hst.1]
    unfold upd
    split
    · rw [hst.2 _ (record_length f u hlen hu)]; exact dec32_le32 x hx
    · rename_i e
      exact hdisk v hv (hD.resolve_right e)

theorem upd_same (b : Bal) (u x : Int) : upd b u x u = x := if_pos rfl

theorem upd_self (b : Bal) (u : Int) : upd b u (b u) = b := funext fun w => by
  unfold upd
  split
  · rename_i e; rw [e]
  · rfl

theorem agree_written {s : State} {b : Bal} {D : Int → Prop} {u : Int} (h : Agree s b (fun w => D w ∨ w = u))
    (hu : Valid u) : shmAt s u = some (b u) ∧ diskAt s u = some (b u) :=
  ⟨(h.2.1 u hu).1, h.2.2 u hu (Or.inr rfl)⟩

theorem agree_effect (s : State) (b : Bal) (D : Int → Prop) (o : Op) (x : Int) (off : Nat) (bs : List Nat)
    (h : Agree s b D) (hrec : RecOK o) (hu : Valid (slotOf o)) (he : effect o (b (slotOf o)) = some (x, off, bs))
    (hx : Int32 x) : Agree (step s o).1 (upd b (slotOf o) x) (fun w => D w ∨ w = slotOf o) := by
  obtain ⟨hs, f, hf, hlen⟩ := h.1
  rw [step_valid s f o _ hs hf hlen hrec hu (h.2.1 _ hu).1, he]
  exact agree_putSlot s b D f _ x off bs h hf hu (effect_stamps hrec he) hx

theorem deVal_int32 (v m : Int) : Int32 (deVal v m) := by
  unfold deVal
  split
  · decide
  · exact wrap32_int32 _

theorem de_result (s : State) (b : Bal) (D : Int → Prop) (u m : Int) (h : Agree s b D) (hu : Valid u) :
    (step s (.de u m)).2 = .ok (deVal (b u) m, .none) ∧
    shmAt (step s (.de u m)).1 u = some (deVal (b u) m) ∧
    diskAt (step s (.de u m)).1 u = some (deVal (b u) m) := by
  have hw := agree_written (agree_effect s b D (.de u m) _ _ _ h trivial hu rfl (deVal_int32 (b u) m)) hu
  rw [upd_same] at hw
  obtain ⟨hs, f, hf, hlen⟩ := h.1
  exact ⟨congrArg Prod.snd (step_valid s f (.de u m) _ hs hf hlen trivial hu (h.2.1 u hu).1), hw⟩

/-- `passwdSyncUpdate` with ANY record keeps (for that slot: establishes) the agreement. -/
theorem agree_passwdSyncUpdate (s : State) (b : Bal) (D : Int → Prop) (u : Int) (rec : List Nat)
    (h : Agree s b D) (hu : Valid u) (hr : rec.length = Gen.Money.recSize) :
    (passwdSyncUpdate s u rec).2 = .ok .none ∧
    Agree (passwdSyncUpdate s u rec).1 b (fun w => D w ∨ w = u) := by
  obtain ⟨hs, f, hf, hlen⟩ := h.1
  obtain ⟨hc, hI⟩ := h.2.1 u hu
  have hl := recSetMoney_length rec (b u) hr
  rw [passwdSyncUpdate_valid s f u (b u) rec hf hu hc, afterSync_eq_putSlot s f u (b u) _ hc]
  refine ⟨rfl, ?_⟩
  -- SHM keeps `b u`, so the table is the same one
  have hp := agree_putSlot s b D f u (b u) 0 _ h hf hu (stamps_record rec (b u) hr) hI
  rwa [upd_self] at hp

/-- a whole record that reaches a valid slot WITHOUT the re-sync: `.PASSWDS` holds whatever its Money bytes decode
to, SHM keeps its balance. -/
theorem unsynced_record_disagrees (s : State) (b : Bal) (D : Int → Prop) (f : List Nat) (u x : Int) (r : List Nat)
    (h : Agree s b D) (hf : s.file = some f) (hu : Valid u) (hr : r.length = Gen.Money.recSize)
    (hx : dec32? ((r.drop Gen.Money.moneyOffset).take 4) = some x) (hne : x ≠ b u) :
    diskAt (afterSync s f u r) u = some x ∧ shmAt (afterSync s f u r) u = some (b u) ∧
    diskAt (afterSync s f u r) u ≠ shmAt (afterSync s f u r) u := by
  obtain ⟨⟨_, f0, hf0, hlen⟩, hshm, _⟩ := h
  cases hf.symm.trans hf0
  have hc := (hshm u hu).1
  have hd : diskAt (afterSync s f u r) u = some x := by
    rw [afterSync_eq_putSlot s f u (b u) r hc, diskAt_putSlot s f u _ u 0 r hf hlen hu hu (by omega), if_pos rfl,
      writeAt_all _ _ (hr.trans (record_length f u hlen hu).symm), hx]
  refine ⟨hd, hc, ?_⟩
  rw [hd, shmAt_afterSync, hc]
  exact fun e => hne (Option.some.inj e)

theorem effect_spec {b : Bal} {o : Op} {x : Int} {off : Nat} {bs : List Nat} (hI : Int32 (b (slotOf o)))
    (hu : Valid (slotOf o)) (hno : NoOverflow b o) (he : effect o (b (slotOf o)) = some (x, off, bs)) :
    Int32 x ∧ specStep b o = upd b (slotOf o) x := by
  cases o with
  | set u m => cases he; exact ⟨hno, if_pos hu⟩
  | de u m =>
      cases he
      obtain ⟨hmin, hnew⟩ := hno.2 hu
      have e : deVal (b u) m = deNew (b u) m := deVal_eq_deNew (b u) m hno.1 hmin hnew
      exact ⟨e ▸ hnew, (if_pos hu).trans (congrArg (upd b u) e.symm)⟩
  | get _ | load _ => cases he
  | sync u rec perm => cases he; exact ⟨hI, (upd_self b u).symm⟩
  | newuser u rec m => cases he; exact ⟨hno.1, if_pos hu⟩

theorem effect_none {o : Op} {v : Int} (he : effect o v = none) (s : State) (b : Bal) :
    (step s o).1 = s ∧ specStep b o = b ∧ ∀ w, ¬ writes o w := by
  cases o with
  | get _ | load _ => exact ⟨rfl, rfl, fun _ => id⟩
  | set _ _ | de _ _ | sync _ _ _ | newuser _ _ _ => cases he

theorem specStep_invalid (b : Bal) (o : Op) (hu : ¬ Valid (slotOf o)) : specStep b o = b := by
  cases o with
  | set _ _ | de _ _ | newuser _ _ _ => exact if_neg hu
  | get _ | load _ | sync _ _ _ => rfl

theorem agree_step (s : State) (b : Bal) (D : Int → Prop) (o : Op) (h : Agree s b D) (hno : NoOverflow b o) :
    Agree (step s o).1 (specStep b o) (fun w => D w ∨ writes o w) := by
  by_cases hu : Valid (slotOf o)
  · cases he : effect o (b (slotOf o)) with
    | none =>
        obtain ⟨hst, hb, hw⟩ := effect_none he s b
        rw [hst, hb]
        exact agree_weaken h fun w _ hD => hD.resolve_right (hw w)
    | some e =>
        obtain ⟨hx, hb⟩ := effect_spec (h.2.1 _ hu).2 hu hno he
        rw [hb]
        exact agree_weaken (agree_effect s b D o _ _ _ h (recOK_of_noOverflow hno) hu he hx)
          fun w _ hD => hD.imp_right (writes_slotOf o w)
  · -- an invalid slot is never asked about
    rw [step_invalid s o hu, specStep_invalid b o hu]
    exact agree_weaken h fun w hw hD => hD.resolve_right fun hwr => hu (writes_slotOf o w hwr ▸ hw)

theorem agree_run (os : List Op) : ∀ (s : State) (b : Bal) (D : Int → Prop), Agree s b D → NoOverflowRun b os →
    Agree (run s os) (specRun b os) (fun w => D w ∨ ∃ o ∈ os, writes o w) := by
  induction os with
  | nil =>
      intro s b D h _
      exact agree_weaken h fun _ _ hw => hw.elim id fun ⟨_, ho, _⟩ => absurd ho List.not_mem_nil
  | cons o os ih =>
      intro s b D h hno
      exact agree_weaken (ih _ _ _ (agree_step s b D o h hno.1) hno.2) fun w _ hw => by
        simpa only [List.mem_cons, exists_eq_or_imp, or_assoc] using hw

/-! ### non-negativity on the abstract table -/

theorem deNew_nonneg (cur m : Int) (h : 0 ≤ cur) : 0 ≤ deNew cur m := by
  unfold deNew
  split <;> omega

def SetsNonneg : List Op → Prop
  | [] => True
  | .set _ m :: os => 0 ≤ m ∧ SetsNonneg os
  | .newuser _ _ m :: os => 0 ≤ m ∧ SetsNonneg os
  | _ :: os => SetsNonneg os

theorem upd_nonneg {b : Bal} (hb : ∀ u, Valid u → 0 ≤ b u) (w x : Int) (hx : Valid w → 0 ≤ x) :
    ∀ u, Valid u → 0 ≤ (if Valid w then upd b w x else b) u := by
  intro u hu
  split
  · rename_i hw
    unfold upd
    split
    · exact hx hw
    · exact hb u hu
  · exact hb u hu

theorem specRun_nonneg (os : List Op) : ∀ (b : Bal), (∀ u, Valid u → 0 ≤ b u) → SetsNonneg os →
    ∀ u, Valid u → 0 ≤ specRun b os u := by
  induction os with
  | nil => intro b hb _; exact hb
  | cons o os ih =>
      intro b hb hs
      cases o with
      | set w m => exact ih _ (upd_nonneg hb w m fun _ => hs.1) hs.2
      | de w m => exact ih _ (upd_nonneg hb w _ fun hw => deNew_nonneg _ m (hb w hw)) hs
      | get w => exact ih _ hb hs
      | sync w rec perm => exact ih _ hb hs
      | load w => exact ih _ hb hs
      | newuser w rec m => exact ih _ (upd_nonneg hb w m fun _ => hs.1) hs.2

/-! ### locality: what the property sees of a slot is decided by the operations addressed to that slot -/

/-- everything the property says about slot `u`: its SHM entry and its whole record in `.PASSWDS`. -/
def slotView (s : State) (u : Int) : Option Int × Option (List Nat) :=
  (shmAt s u, s.file.map fun f => record f u)

theorem view_other (s : State) (o : Op) (u : Int) (h : WF s) (hrec : RecOK o) (hu : Valid u)
    (hne : slotOf o ≠ u) : slotView (step s o).1 u = slotView s u := by
  obtain ⟨hs, f, hf, hlen⟩ := h
  obtain ⟨⟨f', hf', hr⟩, hshm⟩ :=
    step_frame s f o u hs hf hlen hrec hu fun hw => hne (writes_slotOf o u hw).symm
  unfold slotView
  rw [hshm, hf', hf, Option.map_some, Option.map_some, hr]

/-- what an operation addressed to slot `u` makes of the view of that slot. -/
def viewStep (o : Op) : Option Int × Option (List Nat) → Option Int × Option (List Nat)
  | (some v, some r) =>
      match effect o v with
      | none => (some v, some r)
      | some (x, off, bs) => (some x, some (writeAt r off bs))
  | w => w

/-- an operation addressed to the valid slot `u` acts on the view of `u` only through that view. -/
theorem view_own (s : State) (o : Op) (h : WF s) (hrec : RecOK o) (hu : Valid (slotOf o)) :
    slotView (step s o).1 (slotOf o) = viewStep o (slotView s (slotOf o)) := by
  obtain ⟨hs, f, hf, hlen⟩ := h
  obtain ⟨v, hc⟩ := shmAt_isSome s _ hs hu
  have hv : slotView s (slotOf o) = (some v, some (record f (slotOf o))) := by
    unfold slotView; rw [hc, hf]; rfl
  rw [step_valid s f o v hs hf hlen hrec hu hc, hv]
  simp only [viewStep]
  cases he : effect o v with
  | none => exact hv
  | some e =>
      unfold slotView
      rw [shmAt_putSlot s f _ _ _ _ _ hs hu hu, if_pos rfl]
      simp only [putSlot, Option.map_some]
      rw [record_write f _ _ _ _ hlen hu hu (effect_stamps hrec he).1, if_pos rfl]

/-- the operations addressed to other slots do not matter, wherever they are interleaved. -/
theorem view_projection (os : List Op) (u : Int) : ∀ (s s' : State), WF s → WF s' → (∀ o ∈ os, RecOK o) → Valid u →
    slotView s u = slotView s' u →
    slotView (run s os) u = slotView (run s' (os.filter fun o => slotOf o = u)) u := by
  induction os with
  | nil => intro s s' _ _ _ _ hv; exact hv
  | cons o os ih =>
      intro s s' h h' hrec hu hv
      obtain ⟨hro, hrest⟩ := List.forall_mem_cons.1 hrec
      by_cases ho : slotOf o = u
      · rw [List.filter_cons_of_pos (by simpa using ho)]
        subst ho
        exact ih _ _ (wf_step s o h hro) (wf_step s' o h' hro) hrest hu
          (by rw [view_own s o h hro hu, view_own s' o h' hro hu, hv])
      · rw [List.filter_cons_of_neg (by simpa using ho)]
        exact ih _ _ (wf_step s o h hro) h' hrest hu ((view_other s o u h hro hu ho).trans hv)

end PttVerif.C20
