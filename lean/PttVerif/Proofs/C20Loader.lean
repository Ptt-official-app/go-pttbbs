import PttVerif.Proofs.C20
/-
C20 — the loader (`cache.LoadUHash`) on a complete `.PASSWDS`.

All of it is for a table with `MAX_USERS ≤ PRE_ALLOCATED_USERS` (`gen_loader`; the default build: 50 ≤ 1000).  The
loader counts the records without a valid user id and, once that count exceeds `PRE_ALLOCATED_USERS`, skips such
records without filling their slot (`loadRec`, first branch).  On `MAX_USERS` records the count cannot get there; for a
build with more slots than `PRE_ALLOCATED_USERS` (ptttype/01-config-docker.go: 2000000) it can, and nothing below
speaks of that case.
-/
namespace PttVerif.C20
open PttVerif

/-- under either value of `USE_COOLDOWN` the fill block assigns both arrays; `MAX`, `PRE` are the regenerated `maxUsers`
and `preAllocatedUsers` of the default build. -/
theorem gen_loader :
    (∀ cd, loaderAssigns cd "Money" = true ∧ loaderAssigns cd "Userid" = true) ∧ MAX ≤ PRE := by decide +kernel

/-- the condition of the fill block: a fresh load, or the owner of slot `j` (0-based) changed. -/
def reloadCond (onfly : Bool) (f : List Nat) (ids : List (List Nat)) (j : Nat) : Bool :=
  !onfly || (cstr (fileId f j) != cstr (ids.getD j []))

theorem loadRec_eq (onfly cd : Bool) (f : List Nat) (st : LState) (i : Nat)
    (hM : loaderAssigns cd "Money" = true) (hU : loaderAssigns cd "Userid" = true) (h : st.cnt + 1 ≤ PRE) :
    (loadRec onfly cd f st i).cnt ≤ st.cnt + 1 ∧
    (loadRec onfly cd f st i).shm =
      (if reloadCond onfly f st.ids i = true then st.shm.set i (fileMoney f i) else st.shm) ∧
    (loadRec onfly cd f st i).ids =
      (if reloadCond onfly f st.ids i = true then st.ids.set i (fileId f i) else st.ids) := by
  -- the counter grows by at most one, so the limit that makes the loader skip a record is not reached
  have hcnt : (if (!idIsValid (fileId f i)) = true then st.cnt + 1 else st.cnt) ≤ st.cnt + 1 := by
    split
    · exact Nat.le_refl _
    · exact Nat.le_succ _
  have hlim := decide_eq_false (Nat.not_lt.2 (Nat.le_trans hcnt h))
  unfold loadRec reloadCond
  simp only [hM, hU, if_true, hlim, Bool.and_false, Bool.false_eq_true, if_false]
  split
  · exact ⟨hcnt, rfl, rfl⟩
  · exact ⟨hcnt, rfl, rfl⟩

/-- `l` is `l0` with the entries below `k` that satisfy `P` replaced by `g`. -/
def FilledTo {α : Type} (P : Nat → Bool) (g : Nat → α) (l0 : List α) (k : Nat) (l : List α) : Prop :=
  l.length = l0.length ∧ ∀ j, j < l0.length → l[j]? = if j < k ∧ P j = true then some (g j) else l0[j]?

theorem filledTo_zero {α : Type} (P : Nat → Bool) (g : Nat → α) (l0 : List α) : FilledTo P g l0 0 l0 :=
  ⟨rfl, fun j _ => (if_neg (fun c => Nat.not_lt_zero j c.1)).symm⟩

theorem filledTo_succ {α : Type} {P : Nat → Bool} {g : Nat → α} {l0 l : List α} {k : Nat}
    (h : FilledTo P g l0 k l) : FilledTo P g l0 (k + 1) (if P k = true then l.set k (g k) else l) := by
  obtain ⟨hl, h⟩ := h
  refine ⟨?_, fun j hj => ?_⟩
  · split
    · rw [List.length_set]; exact hl
    · exact hl
  by_cases hjk : j = k
  · subst hjk
    by_cases hP : P j = true
    · rw [if_pos hP, List.getElem?_set_self (hl ▸ hj), if_pos ⟨Nat.lt_succ_self j, hP⟩]
    · rw [if_neg hP, h j hj, if_neg (fun c => hP c.2), if_neg (fun c => hP c.2)]
  · have e : (if P k = true then l.set k (g k) else l)[j]? = l[j]? := by
      split
      · exact List.getElem?_set_ne (Ne.symm hjk)
      · rfl
    have hlt : j < k + 1 ↔ j < k := by omega
    rw [e, h j hj]
    simp only [hlt]

/-- the loader's state after the records `0 … k-1` of `f`, started on `ids`, `shm`. -/
def LoadedTo (onfly : Bool) (f : List Nat) (ids : List (List Nat)) (shm : List Int) (k : Nat) (st : LState) : Prop :=
  st.cnt ≤ k ∧ FilledTo (reloadCond onfly f ids) (fileMoney f) shm k st.shm ∧
  FilledTo (reloadCond onfly f ids) (fileId f) ids k st.ids

theorem loadedTo_step (onfly cd : Bool) (f : List Nat) (ids : List (List Nat)) (shm : List Int) (k : Nat) (st : LState)
    (hM : loaderAssigns cd "Money" = true) (hU : loaderAssigns cd "Userid" = true) (hk : k + 1 ≤ PRE)
    (h : LoadedTo onfly f ids shm k st) : LoadedTo onfly f ids shm (k + 1) (loadRec onfly cd f st k) := by
  obtain ⟨hc, hs, hi⟩ := h
  obtain ⟨e1, e2, e3⟩ := loadRec_eq onfly cd f st k hM hU (Nat.le_trans (Nat.succ_le_succ hc) hk)
  -- slot `k` has not been treated yet, so the owner test sees the id the load started with
  have hidk : st.ids[k]? = ids[k]? := by
    by_cases hkl : k < ids.length
    · rw [hi.2 k hkl, if_neg (fun c => Nat.lt_irrefl k c.1)]
    · rw [List.getElem?_eq_none (hi.1 ▸ Nat.le_of_not_lt hkl), List.getElem?_eq_none (Nat.le_of_not_lt hkl)]
  have hcond : reloadCond onfly f st.ids k = reloadCond onfly f ids k := by
    unfold reloadCond
    rw [List.getD_eq_getElem?_getD, List.getD_eq_getElem?_getD, hidk]
  rw [hcond] at e2 e3
  exact ⟨Nat.le_trans e1 (Nat.succ_le_succ hc), e2 ▸ filledTo_succ hs, e3 ▸ filledTo_succ hi⟩

theorem loadedTo_fold (onfly cd : Bool) (f : List Nat) (ids : List (List Nat)) (shm : List Int)
    (hM : loaderAssigns cd "Money" = true) (hU : loaderAssigns cd "Userid" = true) :
    ∀ k, k ≤ PRE →
      LoadedTo onfly f ids shm k ((List.range k).foldl (loadRec onfly cd f) { ids := ids, shm := shm, cnt := 0 }) := by
  intro k
  induction k with
  | zero =>
      intro _
      exact ⟨Nat.le_refl 0, filledTo_zero _ _ shm, filledTo_zero _ _ ids⟩
  | succ k ih =>
      intro hk
      rw [List.range_succ, List.foldl_append, List.foldl_cons, List.foldl_nil]
      exact loadedTo_step onfly cd f ids shm k _ hM hU hk (ih (Nat.le_of_succ_le hk))

theorem diskAt_fileMoney (s : State) (f : List Nat) (u : Int) (hf : s.file = some f)
    (hlen : f.length = Gen.Money.recSize * MAX) (hu : Valid u) :
    diskAt s u = some (fileMoney f (u - 1).toNat) ∧ Int32 (fileMoney f (u - 1).toNat) := by
  have hin := inRecord_inside f u _ 4 hlen hu money_in_record
  have hl : (moneyBytes f u).length = 4 := by
    unfold moneyBytes; rw [List.length_take, List.length_drop]; omega
  obtain ⟨v, hv, hI⟩ := dec32_of_length4 _ hl
  have e : fileMoney f (u - 1).toNat = v := by
    unfold fileMoney
    have : (f.drop (RSZ * (u - 1).toNat + MOFF)).take 4 = moneyBytes f u := rfl
    rw [this, hv]
  unfold diskAt
  rw [hf, Option.bind_some, hv, e]
  exact ⟨rfl, hI⟩

/-- `LoadUHash` on a complete `.PASSWDS`: it succeeds, leaves the file alone, and slot by slot the SHM money is the
record's Money where the slot is (re)filled and the old SHM value elsewhere — under either value of `USE_COOLDOWN`. -/
theorem loadUHash_complete (onfly cd : Bool) (ids : List (List Nat)) (s : State) (f : List Nat)
    (hs : s.shm.length = MAX) (hi : ids.length = MAX) (hf : s.file = some f)
    (hlen : f.length = Gen.Money.recSize * MAX) :
    (loadUHash onfly cd ids s).2 = .ok .none ∧ (loadUHash onfly cd ids s).1.2.file = some f ∧
    (loadUHash onfly cd ids s).1.2.shm.length = MAX ∧ (loadUHash onfly cd ids s).1.1.length = MAX ∧
    ∀ u, Valid u → shmAt (loadUHash onfly cd ids s).1.2 u =
      if reloadCond onfly f ids (u - 1).toNat = true then some (fileMoney f (u - 1).toNat) else shmAt s u := by
  obtain ⟨hcd, hpre⟩ := gen_loader
  obtain ⟨hM, hU⟩ := hcd cd
  have hn : f.length / RSZ = MAX := by
    show f.length / Gen.Money.recSize = MAX
    rw [hlen]; exact Nat.mul_div_cancel_left _ (by have := money_in_record; omega)
  have hmod : f.length % RSZ = 0 := by
    show f.length % Gen.Money.recSize = 0
    rw [hlen]; exact Nat.mul_mod_right _ _
  obtain ⟨_, ⟨hls, hsv⟩, hli, _⟩ := loadedTo_fold onfly cd f ids s.shm hM hU MAX hpre
  unfold loadUHash
  simp only [hf, hn, Nat.min_self, Nat.lt_irrefl, if_false, hmod, ne_eq, not_true_eq_false]
  refine ⟨trivial, trivial, hls.trans hs, hli.trans hi, fun u hu => ?_⟩
  have hk := (valid_bounds u hu).2.1
  unfold shmAt
  rw [hsv _ (hs ▸ hk)]
  by_cases hc : reloadCond onfly f ids (u - 1).toNat = true
  · rw [if_pos ⟨hk, hc⟩, if_pos hc]
  · rw [if_neg (fun h => hc h.2), if_neg hc]

/-- the configuration value does not reach the loader's treatment of Userid / Money. -/
theorem loadRec_cooldown (onfly : Bool) (f : List Nat) (st : LState) (i : Nat) :
    loadRec onfly true f st i = loadRec onfly false f st i := by
  have h := gen_loader.1
  unfold loadRec
  simp only [h true, h false]

end PttVerif.C20
