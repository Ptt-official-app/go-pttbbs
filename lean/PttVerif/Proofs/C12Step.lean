import PttVerif.Proofs.C12Place
/-
C12 — one request: one the abstract table refuses, one it accepts, and both together (`newBoard_step`, from which
the theorems about one request and about histories are cut).
-/
namespace PttVerif.C12
open PttVerif

/-! ### the checks of the abstract table

`specDecide` is a chain `if c₁ then some r₁ else if c₂ then some r₂ else … else none`: three facts about one arm
of such a chain are enough to read it. -/

theorem ite_some_eq_none {α : Type} {c : Prop} [Decidable c] {r : α} {e : Option α} :
    (if c then some r else e) = none ↔ ¬ c ∧ e = none := by
  by_cases h : c
  · simp [h]
  · simp [h]

theorem ite_some_ne_some {α : Type} {c : Prop} [Decidable c] {r x : α} {e : Option α}
    (hr : r ≠ x) (he : e ≠ some x) : (if c then some r else e) ≠ some x := by
  by_cases h : c
  · rw [if_pos h]; exact fun e => hr (Option.some.inj e)
  · rw [if_neg h]; exact he

theorem ite_some_cases {α : Type} {c : Prop} [Decidable c] {r x : α} {e : Option α}
    (h : (if c then some r else e) = some x) : (c ∧ r = x) ∨ (¬ c ∧ e = some x) := by
  by_cases hc : c
  · rw [if_pos hc] at h; exact Or.inl ⟨hc, Option.some.inj h⟩
  · rw [if_neg hc] at h; exact Or.inr ⟨hc, h⟩

theorem specDecide_eq_none_iff (l : List Nat) (d : List Bytes) (t : List Rec) (q : Req) :
    specDecide l d t q = none ↔
      validBid q.cls = true ∧ parentIsClass t q.cls = true ∧ permitted t q = true ∧
      validNameSpec q.name = true ∧ nameTaken t q.name = false ∧ hasLetter l q.name = true ∧
      hasDir d q.name = false ∧ (hasVacant t = false → t.length < MAXB) := by
  unfold specDecide
  simp only [ite_some_eq_none, Bool.not_eq_true', Bool.not_eq_false, Bool.and_eq_true, decide_eq_true_eq,
    not_and, Bool.not_eq_true, ge_iff_le, Nat.not_le, and_true]

theorem specDecide_ne_ok (l : List Nat) (d : List Bytes) (t : List Rec) (q : Req) (b : Nat) :
    specDecide l d t q ≠ some (.ok b) := by
  unfold specDecide
  repeat' apply ite_some_ne_some
  all_goals nofun

/-! ### one request -/

theorem groupOpOf_cache {s : State} (h : Inv s) (q : Req) : groupOpOf s.cache q = groupOpOf s.brd q := by
  simp only [groupOpOf, (h.getD_ok _).bm]

/-- PERM_BOARD is the first disjunct of `groupOp`'s verdict. -/
theorem permitted_check (t : List Rec) (q : Req) :
    (!hasBit q.ulevel PERM_BOARD && !groupOpOf t q) = !permitted t q := by
  unfold permitted groupOpOf
  cases hasBit q.ulevel PERM_BOARD <;> rfl

theorem parentIsClass_cache {s : State} (h : Inv s) (cls : Int) :
    parentIsClass s.cache cls = parentIsClass s.brd cls := by
  simp only [parentIsClass, (h.getD_ok _).name, (h.getD_ok _).group]

theorem validName_key_ne {n : Bytes} (h : validNameSpec n = true) : nameKey n ≠ [] := by
  unfold validNameSpec at h
  unfold nameKey
  cases hc : cstr n with
  | nil => rw [hc] at h; cases h
  | cons c rest => simp

theorem erase_append_self (l : List Bytes) (x : Bytes) (h : l.contains x = false) : (l ++ [x]).erase x = l := by
  induction l with
  | nil => simp
  | cons y ys ih =>
      have hne : y ≠ x := by
        intro e; subst e; simp at h
      have hys : ys.contains x = false := by
        simp only [List.contains_eq_mem, List.mem_cons, decide_eq_false_iff_not, not_or] at h ⊢
        exact h.2
      rw [List.cons_append, List.erase_cons_tail (by simpa using hne), ih hys]

theorem nameTaken_eq_false_iff {t : List Rec} {n : Bytes} (hn : nameKey n ≠ []) :
    nameTaken t n = false ↔ ∀ (k : Nat) (r : Rec), t[k]? = some r → nameKey r.name ≠ nameKey n := by
  simp only [nameTaken, List.any_eq_false, List.mem_iff_getElem?]
  constructor
  · intro h k r hr e
    exact h r ⟨k, hr⟩ (by simp [occupied, e, hn])
  · intro h r ⟨k, hr⟩
    simp [h k r hr]

theorem getBid_taken {s : State} (h : Inv s) {n : Bytes} (hv : validNameSpec n = true) :
    ∃ b, getBid s n = .ok b ∧ (b = 0 ↔ nameTaken s.brd n = false) := by
  obtain ⟨b, hb, hcase⟩ := getBid_brd h n
  refine ⟨b, hb, ?_⟩
  rw [nameTaken_eq_false_iff (validName_key_ne hv)]
  rcases hcase with ⟨hb0, hnone⟩ | ⟨k, r0, hr0, hbk, hkey⟩
  · exact ⟨fun _ => hnone, fun _ => hb0⟩
  · exact ⟨fun e => absurd (hbk.symm.trans e) (Nat.succ_ne_zero k), fun hn => absurd hkey (hn k r0 hr0)⟩

/-- read on `.BRD`, the checks of `NewBoard` and `mNewbrd` are the chain of `specDecide` arm for arm: both are walked
together, and at the first check that fails `hd` names the answer. -/
theorem newBoard_refused {srt : Sorter} {s : State} (h : Inv s) (q : Req) {r : Res}
    (hd : specDecide s.letters s.dirs s.brd q = some r) : newBoard srt s q = (s, .ok r) := by
  unfold specDecide at hd
  simp only [newBoard, gen_parent, Bool.true_and, parentIsClass_cache h, groupOpOf_cache h, permitted_check]
  rcases ite_some_cases hd with ⟨c1, rfl⟩ | ⟨c1, hd⟩
  · exact if_pos c1
  rw [if_neg c1]
  rcases ite_some_cases hd with ⟨c2, rfl⟩ | ⟨c2, hd⟩
  · exact if_pos c2
  rw [if_neg c2]
  rcases ite_some_cases hd with ⟨c3, rfl⟩ | ⟨c3, hd⟩
  · exact if_pos c3
  rw [if_neg c3]
  unfold mNewbrd
  rw [isValidName_eq]
  rcases ite_some_cases hd with ⟨c4, rfl⟩ | ⟨c4, hd⟩
  · rw [show validNameSpec q.name = false by simpa using c4]
  have hvn : validNameSpec q.name = true := by simpa using c4
  obtain ⟨b, hb, hiff⟩ := getBid_taken h hvn
  simp only [hvn, hb]
  rcases ite_some_cases hd with ⟨c5, rfl⟩ | ⟨c5, hd⟩
  · exact if_pos (Nat.pos_of_ne_zero fun e => by rw [hiff.mp e] at c5; cases c5)
  rw [hiff.mpr (by simpa using c5), if_neg (Nat.lt_irrefl 0)]
  rcases ite_some_cases hd with ⟨c6, rfl⟩ | ⟨c6, hd⟩
  · exact if_pos c6
  rw [if_neg c6]
  rcases ite_some_cases hd with ⟨c7, rfl⟩ | ⟨c7, hd⟩
  · exact if_pos c7
  rw [if_neg c7]
  rcases ite_some_cases hd with ⟨c8, rfl⟩ | ⟨_, hd⟩
  · simp only [Bool.and_eq_true, Bool.not_eq_true', decide_eq_true_eq] at c8
    rcases addBoardRecord_cases srt (inv_dirs h (s.dirs ++ [cstr q.name])) (buildRec q (sanitizeBMs s.users q.bms))
      with ⟨hroom, _⟩ | ⟨_, _, hadd⟩
    · exact absurd c8 hroom
    · -- the directory made before `addBoardRecord` is removed again
      simp [hadd, gen_rmdir, erase_append_self _ _ (Bool.eq_false_iff.mpr c7)]
  · cases hd

theorem newBoard_accepted {srt : Sorter} {s : State} (h : Inv s) (q : Req)
    (hd : specDecide s.letters s.dirs s.brd q = none) :
    ∃ k, k < MAXB ∧ SlotFor s.brd k ∧
      (∀ (j : Nat) (r : Rec), s.brd[j]? = some r → nameKey r.name ≠ nameKey q.name) ∧
      newBoard srt s q = (summaryEffect (sortBCache srt (placeRaw { s with dirs := s.dirs ++ [cstr q.name] } k
        (normalise s.users q))) q (k + 1), .ok (.ok (k + 1))) := by
  obtain ⟨hvb, hpar, hp, hvn, hnt, hl, hd', hroom⟩ := (specDecide_eq_none_iff _ _ _ _).mp hd
  have hgc : groupOpOf s.cache q = permitted s.brd q := groupOpOf_cache h q
  obtain ⟨b, hb, hiff⟩ := getBid_taken h hvn
  rw [hiff.mpr hnt] at hb
  rcases addBoardRecord_cases srt (inv_dirs h (s.dirs ++ [cstr q.name])) (buildRec q (sanitizeBMs s.users q.bms))
    with ⟨_, k, hkm, hslot, hadd⟩ | ⟨hv, hge, _⟩
  · refine ⟨k, hkm, hslot, (nameTaken_eq_false_iff (validName_key_ne hvn)).mp hnt, ?_⟩
    -- every check of `NewBoard` passes, so it hands over to `mNewbrd`
    have hnb : newBoard srt s q = mNewbrd srt s q := by
      simp [newBoard, hvb, gen_parent, parentIsClass_cache h q.cls, hpar, hgc, hp]
    -- so does every check of `mNewbrd`, and `addBoardRecord` puts the record at `k`
    rw [hnb]
    simp [mNewbrd, isValidName_eq, hvn, hb, hl, hd', hadd, normalise]
  · exact absurd (hroom hv) (Nat.not_lt.mpr hge)

/-- a request answered `res` took the well-formed state `s` to `s'`. -/
structure Stepped (s : State) (q : Req) (res : Res) (s' : State) : Prop where
  inv : Inv s'
  spec : SpecStep s.users s.letters s.brd s.dirs q res s'.brd s'.dirs
  users : s'.users = s.users
  letters : s'.letters = s.letters
  refused : (∀ b, res ≠ .ok b) → s' = s
  accepted : ∀ b, res = .ok b → 1 ≤ b ∧ Accepted s s' q (b - 1)

theorem newBoard_step {srt : Sorter} (hs : SortSpec srt) {s : State} (h : Inv s) (q : Req) :
    ∃ res, (newBoard srt s q).2 = .ok res ∧ Stepped s q res (newBoard srt s q).1 := by
  cases hd : specDecide s.letters s.dirs s.brd q with
  | some r =>
      rw [newBoard_refused h q hd]
      refine ⟨r, rfl, h, ?_, rfl, rfl, fun _ => rfl, fun b hb => ?_⟩
      · simp only [SpecStep, hd, and_self]
      · exact absurd (hb ▸ hd) (specDecide_ne_ok _ _ _ _ b)
  | none =>
      obtain ⟨k, hkm, hslot, hnone, hnb⟩ := newBoard_accepted (srt := srt) h q hd
      rw [hnb]
      obtain ⟨hI, hbrd, hdirs, husers, hletters, hacc⟩ :=
        accept_core hs h q (s.dirs ++ [cstr q.name]) hslot.le hkm hnone
      refine ⟨.ok (k + 1), rfl, hI, ?_, husers, hletters, fun hne => absurd rfl (hne (k + 1)), ?_⟩
      · simp only [SpecStep, hd]
        refine ⟨k, rfl, hdirs, ?_⟩
        rw [hbrd]
        exact hslot.imp (fun ⟨hl, hv⟩ => ⟨hl, hv, if_pos hl⟩)
          (fun ⟨hv, hl⟩ => ⟨hv, hl, if_neg (Nat.not_lt.mpr (Nat.le_of_eq hl.symm))⟩)
      · intro b hb
        cases hb
        exact ⟨Nat.le_add_left 1 k, hacc⟩

end PttVerif.C12
