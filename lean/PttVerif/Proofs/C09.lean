import PttVerif.Model.C09
import PttVerif.Proofs.Cstr
import PttVerif.Props.C05
import PttVerif.Props.C13
/-
C09 — the pure readings of the publishing path (`pTitle`, `pBody`, `pContent`, `pRecord`, `nextSt`) and the lemmas
Props/C09 rests on: the loop of StripANSIMoveCmd computes the two-state `scan`; the index record is a list of
pieces whose lengths are the layout.  The append to an index is C05's, the article id is C13's codec.
-/
namespace PttVerif.C09
open PttVerif

/-! ### facts about the regenerated constants (re-checked whenever ptttype changes) -/

theorem esc_ne_s : (115 : Nat) ≠ ESC := by decide
theorem isCode_s : isCode 115 = false := by decide
theorem isMove_s : isMove 115 = false := by decide

theorem code_move_disjoint_list : Gen.Post.PATTERN_ANSI_CODE.all (fun c => !isMove c) = true := by decide

theorem code_not_move (c : Nat) (h : isCode c = true) : isMove c = false := by
  have := List.all_eq_true.mp code_move_disjoint_list c (by simpa [isCode] using h)
  simpa using this

/-! ### hasPrefix / tnSafeStrip -/

theorem hasPrefix_iff (a b : Bytes) : hasPrefix a b = true ↔ ∃ r, a = b ++ r := by
  induction b generalizing a with
  | nil => cases a <;> simp [hasPrefix]
  | cons x xs ih =>
    cases a with
    | nil => simp [hasPrefix]
    | cons y ys =>
      simp only [hasPrefix, Bool.and_eq_true, beq_iff_eq, ih, List.cons_append, List.cons.injEq]
      constructor
      · rintro ⟨rfl, r, rfl⟩; exact ⟨r, rfl, rfl⟩
      · rintro ⟨r, rfl, rfl⟩; exact ⟨rfl, r, rfl⟩

theorem hasPrefix_length (a b : Bytes) (h : hasPrefix a b = true) : b.length ≤ a.length := by
  obtain ⟨r, rfl⟩ := (hasPrefix_iff a b).mp h
  simp

/-! ### trimRight -/

theorem trimRight_spec (s : Bytes) :
    (∃ k, s = trimRight s ++ List.replicate k 32) ∧ (trimRight s).getLast? ≠ some 32 := by
  induction s with
  | nil => exact ⟨⟨0, rfl⟩, nofun⟩
  | cons c cs ih =>
    obtain ⟨⟨k, hk⟩, hl⟩ := ih
    simp only [trimRight]
    by_cases h : c = 32 ∧ trimRight cs = []
    · rw [if_pos h]
      rw [h.2] at hk
      exact ⟨⟨k + 1, by rw [h.1, hk]; rfl⟩, nofun⟩
    · rw [if_neg h]
      refine ⟨⟨k, congrArg (c :: ·) hk⟩, ?_⟩
      cases hr : trimRight cs with
      | nil => exact fun e => h ⟨Option.some.inj e, hr⟩
      | cons d ds =>
        rw [List.getLast?_cons_cons, ← hr]
        exact hl

/-! ### StripANSIMoveCmd: the loop computes the automaton -/

theorem skipCode_append (l : Bytes) : (skipCode l).1 ++ (skipCode l).2 = l := by
  induction l with
  | nil => simp [skipCode]
  | cons c cs ih =>
    simp only [skipCode]
    split
    · simp [ih]
    · simp

theorem skipCode_snd_length (l : Bytes) : (skipCode l).2.length ≤ l.length := by
  have := congrArg List.length (skipCode_append l)
  simp at this; omega

theorem scan_false_cons (c : Nat) (cs : Bytes) :
    scan false (c :: cs) = if c = ESC then c :: scan true cs else c :: scan false cs := by rw [scan]

theorem scan_true_cons (c : Nat) (cs : Bytes) :
    scan true (c :: cs) = if isCode c then c :: scan true cs
      else if isMove c then 115 :: scan false cs
      else if c = ESC then c :: scan true cs
      else c :: scan false cs := by rw [scan]

/-- one step of the automaton: `c'` is the byte put out, `m'` says whether the automaton is inside an escape sequence
afterwards.  The byte is kept, or is `s` for a movement final inside a sequence; the automaton is inside afterwards
exactly after ESC or after a parameter byte of a sequence; inside a sequence it puts out no movement final. -/
theorem scan_cons (m : Bool) (c : Nat) (cs : Bytes) :
    ∃ m' c', scan m (c :: cs) = c' :: scan m' cs ∧ (c' = c ∨ m = true ∧ isMove c = true ∧ c' = 115) ∧
      (m' = true ↔ c' = ESC ∨ m = true ∧ isCode c' = true) ∧ (m = true → isMove c' = false) := by
  cases m
  · rw [scan_false_cons]
    by_cases he : c = ESC
    · -- ESC opens a sequence
      refine ⟨true, c, if_pos he, .inl rfl, ?_, nofun⟩
      exact ⟨fun _ => .inl he, fun _ => rfl⟩
    · -- any other byte outside a sequence stays outside: it is not ESC, and `m = false`
      refine ⟨false, c, if_neg he, .inl rfl, ⟨nofun, ?_⟩, nofun⟩
      rintro (h | ⟨h, _⟩)
      · exact absurd h he
      · exact nomatch h
  · rw [scan_true_cons]
    by_cases hc : isCode c = true
    · -- a parameter byte continues the sequence and is no final
      refine ⟨true, c, if_pos hc, .inl rfl, ?_, fun _ => code_not_move c hc⟩
      exact ⟨fun _ => .inr ⟨rfl, hc⟩, fun _ => rfl⟩
    · rw [if_neg hc]
      by_cases hm : isMove c = true
      · -- a movement final ends the sequence as `s`, which is neither ESC nor a parameter byte nor a movement final
        refine ⟨false, 115, if_pos hm, .inr ⟨rfl, hm, rfl⟩, ⟨nofun, ?_⟩, fun _ => isMove_s⟩
        rintro (h | ⟨_, h⟩)
        · exact absurd h esc_ne_s
        · exact nomatch isCode_s.symm.trans h
      · rw [if_neg hm]
        have hm' : isMove c = false := Bool.eq_false_iff.mpr hm
        by_cases he : c = ESC
        · -- ESC inside a sequence opens the next one
          refine ⟨true, c, if_pos he, .inl rfl, ?_, fun _ => hm'⟩
          exact ⟨fun _ => .inl he, fun _ => rfl⟩
        · -- any other byte ends the sequence: it is neither ESC nor a parameter byte
          refine ⟨false, c, if_neg he, .inl rfl, ⟨nofun, ?_⟩, fun _ => hm'⟩
          rintro (h | ⟨_, h⟩)
          · exact absurd h he
          · exact absurd h hc

theorem scan_length (m : Bool) (l : Bytes) : (scan m l).length = l.length := by
  induction l generalizing m with
  | nil => cases m <;> rfl
  | cons c cs ih =>
    obtain ⟨m', c', h, _⟩ := scan_cons m c cs
    rw [h, List.length_cons, ih, List.length_cons]

/-- what the automaton does after an ESC, in terms of the loop's `skipCode`. -/
theorem scan_true_eq (l : Bytes) :
    scan true l = (skipCode l).1 ++
      (match (skipCode l).2 with
       | [] => []
       | c :: cs => scan false ((if isMove c then 115 else c) :: cs)) := by
  induction l with
  | nil => simp [scan, skipCode]
  | cons c cs ih =>
    rw [scan_true_cons]
    by_cases hc : isCode c = true
    · simp only [skipCode, hc, if_true, List.cons_append]
      rw [ih]
    · simp only [skipCode, hc, if_false, Bool.false_eq_true, List.nil_append]
      by_cases hm : isMove c = true
      · simp only [hm, if_true]
        rw [scan_false_cons, if_neg esc_ne_s]
      · simp only [hm, if_false, Bool.false_eq_true]
        rw [scan_false_cons]

theorem scan_false_eq (l : Bytes) :
    scan false l = match indexEsc l with
      | none => l
      | some i => l.take (i + 1) ++ scan true (l.drop (i + 1)) := by
  induction l with
  | nil => rfl
  | cons c cs ih =>
    rw [scan_false_cons, indexEsc]
    by_cases he : c = ESC
    · rw [if_pos he, if_pos he]
      rfl
    · rw [if_neg he, if_neg he, ih]
      cases indexEsc cs <;> rfl

/-- one round of the loop is `scan_false_eq` (up to the ESC) followed by `scan_true_eq` (the parameter bytes and the
final); the rest handed to the next round is a suffix of what `skipCode` was given, so the fuel suffices. -/
theorem defuseLoop_eq : ∀ (fuel : Nat) (l : Bytes), l.length < fuel → defuseLoop fuel l = .ok (scan false l) := by
  intro fuel
  induction fuel with
  | zero => intro l h; omega
  | succ fuel ih =>
    intro l hl
    rw [defuseLoop, scan_false_eq]
    cases indexEsc l with
    | none => rfl
    | some i =>
      simp only
      rw [scan_true_eq]
      have happ := skipCode_append (l.drop (i + 1))
      have hlen := skipCode_snd_length (l.drop (i + 1))
      cases hr : (skipCode (l.drop (i + 1))).2 with
      | nil =>
        simp only
        rw [hr] at happ
        rw [happ, List.take_append_drop]
        rfl
      | cons c cs =>
        simp only
        rw [hr, List.length_cons, List.length_drop] at hlen
        rw [ih _ (by rw [List.length_cons]; omega)]
        exact congrArg Except.ok (List.append_assoc ..)

theorem stripANSIMoveCmd_eq (l : Bytes) : stripANSIMoveCmd l = .ok (scan false l) := by
  cases l with
  | nil => rfl
  | cons c cs => exact (if_pos (Nat.succ_pos _)).trans (defuseLoop_eq _ _ (Nat.lt_succ_self _))

/-! ### the lexer specification -/

theorem startsMove_iff (l : Bytes) :
    startsMove l = true ↔ ∃ codes c post, l = codes ++ c :: post ∧ (∀ x ∈ codes, isCode x = true) ∧ isMove c = true := by
  constructor
  · intro h
    induction l with
    | nil => cases h
    | cons a as ih =>
      rw [startsMove, Bool.or_eq_true, Bool.and_eq_true] at h
      rcases h with h | ⟨ha, h⟩
      · exact ⟨[], a, as, rfl, nofun, h⟩
      · obtain ⟨codes, c, post, rfl, hc, hm⟩ := ih h
        exact ⟨a :: codes, c, post, rfl, List.forall_mem_cons.mpr ⟨ha, hc⟩, hm⟩
  · rintro ⟨codes, c, post, rfl, hc, hm⟩
    induction codes with
    | nil => rw [List.nil_append, startsMove, hm, Bool.true_or]
    | cons x xs ih =>
      obtain ⟨hx, hxs⟩ := List.forall_mem_cons.mp hc
      rw [List.cons_append, startsMove, hx, ih hxs, Bool.and_self, Bool.or_true]

theorem hasMove_iff (l : Bytes) :
    hasMove l = true ↔ ∃ pre codes c post, l = pre ++ ESC :: (codes ++ c :: post) ∧
      (∀ x ∈ codes, isCode x = true) ∧ isMove c = true := by
  constructor
  · intro h
    induction l with
    | nil => cases h
    | cons a as ih =>
      rw [hasMove, Bool.or_eq_true, Bool.and_eq_true, beq_iff_eq] at h
      rcases h with ⟨rfl, h⟩ | h
      · obtain ⟨codes, c, post, rfl, hc, hm⟩ := (startsMove_iff _).mp h
        exact ⟨[], codes, c, post, rfl, hc, hm⟩
      · obtain ⟨pre, codes, c, post, rfl, hc, hm⟩ := ih h
        exact ⟨a :: pre, codes, c, post, rfl, hc, hm⟩
  · rintro ⟨pre, codes, c, post, rfl, hc, hm⟩
    induction pre with
    | nil =>
      rw [List.nil_append, hasMove, beq_self_eq_true, (startsMove_iff _).mpr ⟨codes, c, post, rfl, hc, hm⟩]
      rfl
    | cons x xs ih => rw [List.cons_append, hasMove, ih, Bool.or_true]

/-- the output holds no movement sequence, and inside an escape none that the open escape would complete. -/
theorem scan_no_move (m : Bool) (l : Bytes) :
    hasMove (scan m l) = false ∧ (m = true → startsMove (scan m l) = false) := by
  induction l generalizing m with
  | nil => cases m <;> exact ⟨rfl, fun _ => rfl⟩
  | cons c cs ih =>
    obtain ⟨m', c', h, _, hm', hmv⟩ := scan_cons m c cs
    obtain ⟨ih1, ih2⟩ := ih m'
    rw [h, hasMove, startsMove, ih1, Bool.or_false]
    -- after an ESC, and after a parameter byte inside an escape, the automaton is inside an escape: `ih2` applies
    refine ⟨Bool.and_eq_false_imp.mpr fun he => ih2 (hm'.mpr (.inl (beq_iff_eq.mp he))), fun hm => ?_⟩
    rw [hmv hm, Bool.false_or]
    exact Bool.and_eq_false_imp.mpr fun hc => ih2 (hm'.mpr (.inr ⟨hm, hc⟩))

theorem scan_pointwise (m : Bool) (l : Bytes) (i : Nat) :
    (scan m l)[i]? = l[i]? ∨ (∃ c, l[i]? = some c ∧ isMove c = true ∧ (scan m l)[i]? = some 115) := by
  induction l generalizing m i with
  | nil => cases m <;> exact .inl rfl
  | cons c cs ih =>
    obtain ⟨m', c', h, hc'⟩ := scan_cons m c cs
    rw [h]
    cases i with
    | zero =>
      rcases hc' with rfl | ⟨_, hm, rfl⟩
      · exact .inl rfl
      · exact .inr ⟨c, rfl, hm, rfl⟩
    | succ j => exact ih m' j

theorem scan_id_of_no_move (m : Bool) (l : Bytes) (h : hasMove l = false) (hs : m = true → startsMove l = false) :
    scan m l = l := by
  induction l generalizing m with
  | nil => cases m <;> rfl
  | cons c cs ih =>
    obtain ⟨m', c', hsc, hc', hm', _⟩ := scan_cons m c cs
    rw [hasMove, Bool.or_eq_false_iff, Bool.and_eq_false_imp, beq_iff_eq] at h
    rw [startsMove, Bool.or_eq_false_iff, Bool.and_eq_false_imp] at hs
    -- the byte is kept: a replaced byte is a movement final inside an escape, which `hs` excludes
    have hcc : c' = c := by
      rcases hc' with hcc | ⟨hm, hmv, _⟩
      · exact hcc
      · exact nomatch hmv.symm.trans (hs hm).1
    subst hcc
    -- the automaton is inside an escape afterwards only after ESC (`h.1`) or after a parameter byte of one (`hs`)
    have hs' : m' = true → startsMove cs = false := by
      intro h'
      rcases hm'.mp h' with he | ⟨hm, hc⟩
      · exact h.1 he
      · exact (hs hm).2 hc
    rw [hsc, ih m' h.2 hs']

theorem scan_idem (l : Bytes) : scan false (scan false l) = scan false l :=
  scan_id_of_no_move false _ (scan_no_move false l).1 nofun

/-! ### the pure reading of the text pipeline -/

/-- the announcement tag stays: free-for-all switch, privileged author, or no tag at the front. -/
def tnKeeps (c : Cfg) (role : Bool) (t : Bytes) : Bool := c.allowFreeTn || role || !hasPrefix t TN

def pTitle (q : Req) : Bytes :=
  let f := fullTitle q.cls q.title
  if tnKeeps q.cfg q.role f then f else f.drop TN.length

theorem slice_drop (a : Bytes) (n : Nat) (h : n ≤ a.length) : slice a n a.length = .ok (a.drop n) := by
  simp [slice, h]

theorem isTnAllowed_eq (c : Cfg) (role : Bool) (t : Bytes) :
    isTnAllowedWith c isTnAnnounce role t = .ok (tnKeeps c role t) := by
  unfold isTnAllowedWith tnKeeps
  cases c.allowFreeTn <;> cases role <;> rfl

theorem hasPrefix_of_tnKeeps_false {c : Cfg} {role : Bool} {t : Bytes} (h : tnKeeps c role t = false) :
    hasPrefix t TN = true := by
  simp only [tnKeeps, Bool.or_eq_false_iff, Bool.not_eq_false'] at h
  exact h.2

theorem tnSafeStrip_eq (c : Cfg) (role : Bool) (t : Bytes) :
    tnSafeStrip c role t = .ok (if tnKeeps c role t then t else t.drop TN.length) := by
  unfold tnSafeStrip tnSafeStripWith
  rw [isTnAllowed_eq]
  cases hk : tnKeeps c role t
  · exact slice_drop t _ (hasPrefix_length t TN (hasPrefix_of_tnKeeps_false hk))
  · rfl

theorem postTitle_eq (q : Req) : postTitle q.cfg q.role q.cls q.title = .ok (pTitle q) := by
  unfold postTitle pTitle; exact tnSafeStrip_eq _ _ _

/-- the lines the loop of WriteFile writes: all of them, except a last line that is empty. -/
def keptLines : List Bytes → List Bytes
  | [] => []
  | l :: rest => if rest.isEmpty ∧ l.length = 0 then [] else l :: keptLines rest

def pLine (l : Bytes) : Bytes := scan false (trim l)

def pBody (ls : List Bytes) : Bytes := (keptLines ls).flatMap fun l => pLine l ++ [10]

def pEntropyFrom (e : Nat) (ls : List Bytes) : Nat := (keptLines ls).foldl (fun e l => addEntropy e (pLine l)) e

theorem processLine_eq (l : Bytes) : processLine l = .ok (pLine l) := stripANSIMoveCmd_eq _

theorem writeLines_eq : ∀ (ls : List Bytes) (e : Nat), writeLines ls e = .ok (pBody ls, pEntropyFrom e ls) := by
  intro ls
  induction ls with
  | nil => intro e; rfl
  | cons l rest ih =>
    intro e
    unfold writeLines
    by_cases h : rest.isEmpty ∧ l.length = 0
    · simp [h, pBody, pEntropyFrom, keptLines, pure, Except.pure]
    · rw [if_neg h, processLine_eq]
      simp only [bind, Except.bind, ih, pure, Except.pure, pBody, pEntropyFrom, keptLines, h, if_false,
        List.flatMap_cons, List.foldl_cons, List.append_assoc]

def pContent (q : Req) (e : Env) : Bytes :=
  header q.cfg q.anon q.userID q.nick q.board (pTitle q) e.ctime ++ pBody q.lines ++ signature (useAnony q.cfg q.anon) q.ip q.frm
    ++ urlLine q.cfg q.board e.name

def pEntropy (q : Req) : Nat := pEntropyFrom (initEntropy q.cfg) q.lines
def pMoney (q : Req) : Nat := postMoney q (pEntropy q)
def pRecord (q : Req) (e : Env) : Bytes := postRecord q e (pTitle q) (pMoney q)
def pCross (q : Req) (e : Env) : Bytes := crossRecord q e (pMoney q)
def pLog (q : Req) (e : Env) : Bytes := postLogImage (headerAuthor q.cfg q.anon q.userID q.nick).1 q.board (pTitle q) e.logDate

theorem articleFile_eq (q : Req) (e : Env) : articleFile q e (pTitle q) = .ok (pContent q e, pEntropy q) := by
  unfold articleFile
  rw [writeLines_eq]
  rfl

theorem addEntropy_le (e : Nat) (l : Bytes) : addEntropy e l ≤ ENTROPY_MAX := by
  unfold addEntropy
  generalize (if e < ENTROPY_MAX then e + lineEntropy l else e) = e1
  by_cases h : e1 > ENTROPY_MAX
  · rw [if_pos h]
    exact Nat.le_refl _
  · rw [if_neg h]
    exact Nat.le_of_not_gt h

theorem pEntropyFrom_le (ls : List Bytes) (e : Nat) (h : e ≤ ENTROPY_MAX) : pEntropyFrom e ls ≤ ENTROPY_MAX := by
  unfold pEntropyFrom
  induction keptLines ls generalizing e with
  | nil => exact h
  | cons l rest ih => exact ih _ (addEntropy_le e (pLine l))

theorem pEntropy_le (q : Req) : pEntropy q ≤ ENTROPY_MAX := by
  apply pEntropyFrom_le
  unfold initEntropy
  split
  · exact Nat.zero_le _
  · exact Nat.le_refl _

theorem postMoney_le (q : Req) (n : Nat) : postMoney q n ≤ n := by
  unfold postMoney
  simp only
  split
  · exact Nat.zero_le _
  · split
    · exact ‹_ ∧ _›.2
    · exact Nat.le_refl _

/-! ### the index record -/

theorem le32_length (n : Nat) : (le32 n).length = 4 := rfl

theorem field_flatten (ps : List Bytes) (k : Nat) (x : Bytes) (off len : Nat) (hk : ps[k]? = some x)
    (hoff : ((ps.map List.length).take k).sum = off) (hlen : x.length = len) :
    C05.field ps.flatten off len = x := by
  subst hoff hlen
  induction ps generalizing k with
  | nil => cases hk
  | cons p ps ih =>
    cases k with
    | zero =>
      cases hk
      exact List.take_left
    | succ k =>
      have := ih k hk
      unfold C05.field at this ⊢
      rw [List.map_cons, List.take_succ_cons, List.sum_cons, List.flatten_cons, ← List.drop_drop, List.drop_left]
      exact this

/-- the pieces `recordImage` concatenates: fields and the gaps between them, in order. -/
def recordPieces (name : Bytes) (mtime : Nat) (owner date title : Bytes) (multi fm : Nat) : List Bytes :=
  [copyInto Gen.RecFile.lenFilename name, le32 mtime,
   List.replicate (Gen.RecFile.offOwner - (Gen.RecFile.offModified + Gen.RecFile.lenModified)) 0,
   copyInto Gen.RecFile.lenOwner owner, copyInto Gen.RecFile.lenDate date, copyInto Gen.RecFile.lenTitle title,
   List.replicate (Gen.RecFile.offMulti - (Gen.RecFile.offTitle + Gen.RecFile.lenTitle)) 0,
   le32 multi, [fm], List.replicate (dirSz - (Gen.RecFile.offFilemode + Gen.RecFile.lenFilemode)) 0]

section
variable (name : Bytes) (mtime : Nat) (owner date title : Bytes) (multi fm : Nat)

theorem recordImage_eq_flatten :
    recordImage name mtime owner date title multi fm = (recordPieces name mtime owner date title multi fm).flatten := by
  simp only [recordImage, recordPieces, List.flatten_cons, List.flatten_nil, List.append_nil, List.append_assoc]

/-- the layout of `FileHeaderRaw` as the lengths of the pieces; each offset of `Gen.RecFile` is a partial sum. -/
theorem recordPieces_lengths :
    (recordPieces name mtime owner date title multi fm).map List.length = [28, 4, 2, 14, 6, 65, 1, 4, 1, 3] := by
  simp only [recordPieces, List.map_cons, List.map_nil, copyInto_length, le32_length, List.length_replicate,
    List.length_cons, List.length_nil]
  rfl

theorem recordImage_filename :
    C05.field (recordImage name mtime owner date title multi fm) Gen.RecFile.offFilename Gen.RecFile.lenFilename
      = copyInto Gen.RecFile.lenFilename name := by
  rw [recordImage_eq_flatten]
  exact field_flatten _ 0 _ _ _ rfl rfl (copyInto_length _ _)

theorem recordImage_owner :
    C05.field (recordImage name mtime owner date title multi fm) Gen.RecFile.offOwner Gen.RecFile.lenOwner
      = copyInto Gen.RecFile.lenOwner owner := by
  rw [recordImage_eq_flatten]
  exact field_flatten _ 3 _ _ _ rfl (by rw [recordPieces_lengths]; rfl) (copyInto_length _ _)

theorem recordImage_date :
    C05.field (recordImage name mtime owner date title multi fm) Gen.RecFile.offDate Gen.RecFile.lenDate
      = copyInto Gen.RecFile.lenDate date := by
  rw [recordImage_eq_flatten]
  exact field_flatten _ 4 _ _ _ rfl (by rw [recordPieces_lengths]; rfl) (copyInto_length _ _)

theorem recordImage_title :
    C05.field (recordImage name mtime owner date title multi fm) Gen.RecFile.offTitle Gen.RecFile.lenTitle
      = copyInto Gen.RecFile.lenTitle title := by
  rw [recordImage_eq_flatten]
  exact field_flatten _ 5 _ _ _ rfl (by rw [recordPieces_lengths]; rfl) (copyInto_length _ _)

theorem recordImage_multi :
    C05.field (recordImage name mtime owner date title multi fm) Gen.RecFile.offMulti Gen.RecFile.lenMulti
      = le32 multi := by
  rw [recordImage_eq_flatten]
  exact field_flatten _ 7 _ _ _ rfl (by rw [recordPieces_lengths]; rfl) rfl

theorem recordImage_filemode :
    C05.field (recordImage name mtime owner date title multi fm) Gen.RecFile.offFilemode Gen.RecFile.lenFilemode
      = [fm] := by
  rw [recordImage_eq_flatten]
  exact field_flatten _ 8 _ _ _ rfl (by rw [recordPieces_lengths]; rfl) rfl

end

theorem recordImage_length (name : Bytes) (mtime : Nat) (owner date title : Bytes) (multi fm : Nat) :
    (recordImage name mtime owner date title multi fm).length = dirSz := by
  rw [recordImage_eq_flatten, List.length_flatten, recordPieces_lengths]
  rfl

theorem postRecord_eq (q : Req) (e : Env) (t : Bytes) (m : Nat) :
    postRecord q e t m =
      recordImage e.name (if useAnony q.cfg q.anon then 0 else e.mtime)
        (if useAnony q.cfg q.anon then Gen.Post.ANONYMOUS_ID else q.userID) e.date t
        (if useAnony q.cfg q.anon then q.uid else m) (if useAnony q.cfg q.anon then Gen.Post.FILE_ANONYMOUS else 0) := by
  unfold postRecord storedMulti
  cases useAnony q.cfg q.anon
  · rfl
  · rfl

theorem postRecord_length (q : Req) (e : Env) (t : Bytes) (m : Nat) : (postRecord q e t m).length = dirSz := by
  rw [postRecord_eq]; exact recordImage_length ..

theorem crossRecord_length (q : Req) (e : Env) (m : Nat) : (crossRecord q e m).length = dirSz := by
  unfold crossRecord; split <;> exact recordImage_length ..

theorem dirSz_pos : 0 < dirSz := by decide

/-! ### lookups in the board table and the user table after an update -/

theorem find?_map_of_test {α : Type} (p : α → Bool) (g : α → α) (hg : ∀ a, p (g a) = p a) (l : List α) :
    (l.map g).find? p = (l.find? p).map g := by
  rw [List.find?_map, show p ∘ g = p from funext hg]

theorem findBoard_name (bs : List BoardSt) (n : Bytes) (b : BoardSt) (h : findBoard bs n = some b) : b.name = n := by
  have := List.find?_some h
  simpa using this

theorem updBoard_cons (b : BoardSt) (rest : List BoardSt) (n : Bytes) (f : BoardSt → BoardSt) :
    updBoard (b :: rest) n f = (if b.name == n then f b else b) :: updBoard rest n f := rfl

theorem findBoard_cons (b : BoardSt) (rest : List BoardSt) (m : Bytes) :
    findBoard (b :: rest) m = if b.name == m then some b else findBoard rest m := by
  unfold findBoard
  rw [List.find?_cons]
  cases (b.name == m) <;> rfl

theorem findBoard_updBoard (bs : List BoardSt) (n m : Bytes) (f : BoardSt → BoardSt)
    (hf : ∀ b, b.name = n → (f b).name = n) :
    findBoard (updBoard bs n f) m = (findBoard bs m).map fun b => if m = n then f b else b := by
  refine (find?_map_of_test _ _ (fun b => congrArg (· == m) ?_) bs).trans (Option.map_congr fun b hb => ?_)
  · show (if b.name == n then f b else b).name = b.name
    by_cases h : b.name = n
    · rw [if_pos (beq_iff_eq.mpr h), hf b h, h]
    · rw [if_neg (mt beq_iff_eq.mp h)]
  · simp only [findBoard_name bs m b hb, beq_iff_eq]

theorem numPostsOf_cons (x : Bytes × Nat) (rest : List (Bytes × Nat)) (u : Bytes) :
    numPostsOf (x :: rest) u = if x.1 == u then some x.2 else numPostsOf rest u := by
  unfold numPostsOf
  rw [List.find?_cons]
  cases (x.1 == u) <;> rfl

theorem bumpUser_cons (x : Bytes × Nat) (rest : List (Bytes × Nat)) (id : Bytes) (c : Nat) :
    bumpUser (x :: rest) id c = (if x.1 == id then (x.1, x.2 + 1) else x) :: bumpUser rest id c := rfl

theorem bumpUser_lookup (us : List (Bytes × Nat)) (id u : Bytes) (c : Nat) :
    numPostsOf (bumpUser us id c) u = (numPostsOf us u).map fun n => if u = id then n + 1 else n := by
  unfold numPostsOf bumpUser
  have hkey : ∀ x : Bytes × Nat, (if x.1 == id then (x.1, (incNumPost x.2 c).1) else x).1 = x.1 := by
    intro x
    split <;> rfl
  rw [find?_map_of_test _ _ (fun x => congrArg (· == u) (hkey x)), Option.map_map, Option.map_map]
  refine Option.map_congr fun x hx => ?_
  have hu : x.1 = u := by simpa using List.find?_some hx
  simp only [Function.comp, hu, beq_iff_eq]
  split <;> rfl

/-! ### the state after an accepted post -/

def nextSt (s : St) (q : Req) (e : Env) (b : BoardSt) : St :=
  let pb := b.publish e.name (pContent q e) (pRecord q e)
  let boards0 := updBoard s.boards q.dirBoard fun _ => pb.1
  let boards1 := updBoard boards0 q.board BoardSt.setTotal
  let boards2 := if q.isOpen then updBoard boards1 ALLPOST fun x => x.crossPublish e.name (pContent q e) (pCross q e) else boards1
  { boards := boards2,
    users := if useAnony q.cfg q.anon then s.users else bumpUser s.users q.userID q.callerNp,
    postLog := (C05.appendRecord s.postLog logSz (pLog q e)).1 }

def nextPosted (q : Req) (e : Env) (b : BoardSt) : Posted :=
  { idx := b.dir.bytes.length / dirSz + 1, title := pTitle q, record := pRecord q e, content := pContent q e,
    money := pMoney q, logRec := pLog q e, xrecord := pCross q e }

theorem publish_idx (b : BoardSt) (name content record : Bytes) (hr : record.length = dirSz) :
    (b.publish name content record).2 = .idx .ok (b.dir.bytes.length / dirSz + 1) := by
  unfold BoardSt.publish
  rw [C05.Props.append_spec b.dir dirSz record dirSz_pos hr]

/-- the posted board receives what ALLPOST receives: the file, the record, a recounted total.  Hence `nextSt_board`
describes BOTH boards by `crossPublish`, and the `crossPublish_*` lemmas serve both. -/
theorem publish_setTotal (b : BoardSt) (name content record : Bytes) :
    (b.publish name content record).1.setTotal = b.crossPublish name content record := rfl

theorem crossPublish_bytes (a : BoardSt) (name content record : Bytes) (hr : record.length = dirSz) :
    (a.crossPublish name content record).dir.bytes =
      a.dir.bytes.take (a.dir.bytes.length / dirSz * dirSz) ++ record := by
  unfold BoardSt.crossPublish
  rw [C05.Props.append_spec a.dir dirSz record dirSz_pos hr]

/-- a torn tail is cut off before the append: the result is whole records, one more than were complete. -/
theorem length_take_append (l r : Bytes) (sz : Nat) (hr : r.length = sz) :
    (l.take (l.length / sz * sz) ++ r).length = (l.length / sz + 1) * sz := by
  rw [List.length_append, List.length_take, hr, Nat.min_eq_left (Nat.div_mul_le_self _ _), ← Nat.succ_mul]

theorem crossPublish_total (a : BoardSt) (name content record : Bytes) (hr : record.length = dirSz) :
    (a.crossPublish name content record).total = a.dir.bytes.length / dirSz + 1 := by
  show (a.crossPublish name content record).dir.bytes.length / dirSz = _
  rw [crossPublish_bytes _ _ _ _ hr, length_take_append _ _ _ hr, Nat.mul_div_cancel _ dirSz_pos]

theorem crossPublish_aligned (a : BoardSt) (name content record : Bytes) (hr : record.length = dirSz) :
    (a.crossPublish name content record).dir.bytes.length % dirSz = 0 := by
  rw [crossPublish_bytes _ _ _ _ hr, length_take_append _ _ _ hr, Nat.mul_mod_left]

theorem crossPublish_bytes_of_aligned (a : BoardSt) (name content record : Bytes) (hr : record.length = dirSz)
    (ha : a.dir.bytes.length % dirSz = 0) : (a.crossPublish name content record).dir.bytes = a.dir.bytes ++ record := by
  rw [crossPublish_bytes _ _ _ _ hr, Nat.div_mul_cancel (Nat.dvd_of_mod_eq_zero ha), List.take_length]

theorem crossPublish_lookup (a : BoardSt) (name content record n : Bytes) :
    lookupFile (a.crossPublish name content record).files n =
      if n = name then some content else lookupFile a.files n := by
  show lookupFile ((name, content) :: a.files) n = _
  by_cases h : n = name
  · simp [lookupFile, h]
  · have : ¬ name = n := fun e => h e.symm
    simp [lookupFile, h, this]

theorem post_eq (s : St) (q : Req) (e : Env) (b : BoardSt) (h : findBoard s.boards q.dirBoard = some b) :
    post s q e = .ok (nextSt s q e b, .posted (nextPosted q e b)) := by
  unfold post
  rw [h]
  simp only [postTitle_eq, articleFile_eq, bind, Except.bind, pure, Except.pure]
  have hp := publish_idx b e.name (pContent q e) (postRecord q e (pTitle q) (postMoney q (pEntropy q))) (postRecord_length ..)
  simp only [nextSt, nextPosted, pRecord, pMoney, pCross, pLog, hp]

theorem post_noBoard (s : St) (q : Req) (e : Env) (h : findBoard s.boards q.dirBoard = none) :
    post s q e = .ok (s, .noBoard) := by
  unfold post; rw [h]; rfl

/-- the board entry of name `m` after an accepted well-formed post to a board other than ALLPOST. -/
theorem nextSt_board {s : St} {q : Req} {e : Env} {b : BoardSt} (h : findBoard s.boards q.board = some b)
    (hwf : q.dirBoard = q.board) (hx : q.board ≠ ALLPOST) (m : Bytes) :
    findBoard (nextSt s q e b).boards m = (findBoard s.boards m).map fun x =>
      if m = q.board then x.crossPublish e.name (pContent q e) (pRecord q e)
      else if m = ALLPOST ∧ q.isOpen = true then x.crossPublish e.name (pContent q e) (pCross q e)
      else x := by
  have hbn := findBoard_name _ _ _ h
  -- the posted board after the append and the recount; each update keeps the name of the entry it changes
  have h1 : findBoard (updBoard (updBoard s.boards q.board fun _ => (b.publish e.name (pContent q e) (pRecord q e)).1)
        q.board BoardSt.setTotal) m =
      (findBoard s.boards m).map fun x => if m = q.board then x.crossPublish e.name (pContent q e) (pRecord q e) else x := by
    rw [findBoard_updBoard _ _ _ BoardSt.setTotal (fun _ hn => hn),
      findBoard_updBoard _ _ _ (fun _ => (b.publish _ _ _).1) (fun _ _ => hbn), Option.map_map]
    refine Option.map_congr fun x hxm => ?_
    by_cases hm : m = q.board
    · cases (hm ▸ hxm).symm.trans h
      simp only [Function.comp, if_pos hm]
      exact publish_setTotal b _ _ _
    · simp only [Function.comp, if_neg hm]
  simp only [nextSt, hwf]
  cases ho : q.isOpen
  · rw [if_neg Bool.false_ne_true, h1]
    simp only [Bool.false_eq_true, and_false, if_false]
  · rw [if_pos rfl, findBoard_updBoard _ _ _ (·.crossPublish _ _ _) (fun _ hn => hn), h1, Option.map_map]
    refine Option.map_congr fun x _ => ?_
    by_cases hm : m = q.board
    · simp only [Function.comp, if_pos hm, if_neg (hm ▸ hx)]
    · simp only [Function.comp, if_neg hm, and_true]

theorem nextSt_isSome {s : St} {q : Req} {e : Env} {b : BoardSt} (h : findBoard s.boards q.board = some b)
    (hwf : q.dirBoard = q.board) (hx : q.board ≠ ALLPOST) (m : Bytes) :
    (findBoard (nextSt s q e b).boards m).isSome = (findBoard s.boards m).isSome := by
  rw [nextSt_board h hwf hx, Option.isSome_map]

theorem nextSt_users (s : St) (q : Req) (e : Env) (b : BoardSt) (u : Bytes) :
    numPostsOf (nextSt s q e b).users u =
      (numPostsOf s.users u).map fun n => if u = q.userID ∧ useAnony q.cfg q.anon = false then n + 1 else n := by
  simp only [nextSt]
  cases ha : useAnony q.cfg q.anon
  · simp only [Bool.false_eq_true, if_false, and_true]
    exact bumpUser_lookup s.users q.userID u q.callerNp
  · simp only [if_true]
    cases numPostsOf s.users u <;> simp

end PttVerif.C09
