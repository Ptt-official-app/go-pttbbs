import PttVerif.Proofs.C12Index
/-
C12 — placing a header: SortBCache, the state after a header went into a vacated slot or the slot after the last,
`addBoardRecord` as such a placement, LoadBoardSummary's write to the shared copy; together: an accepted request.
-/
namespace PttVerif.C12
open PttVerif

/-! ### SortBCache -/

theorem getElem?_clearFC (n : Nat) (cache : List Rec) (k : Nat) :
    (clearFC n cache)[k]? = (cache[k]?).map (fun r => if k < n then shmOf r else r) := by
  simp [clearFC, List.getElem?_mapIdx, shmOf]

theorem keys_clearFC (n : Nat) (cache : List Rec) :
    nameKeyAt (clearFC n cache) = nameKeyAt cache ∧ classKeyAt (clearFC n cache) = classKeyAt cache := by
  apply keys_congr
  intro i
  rw [List.getD_eq_getElem?_getD, List.getD_eq_getElem?_getD, getElem?_clearFC]
  cases cache[i]? with
  | none => exact ⟨rfl, rfl⟩
  | some r =>
      simp only [Option.map_some, Option.getD_some]
      split <;> exact ⟨rfl, rfl⟩

theorem sortBCache_sorted {srt : Sorter} (hs : SortSpec srt) (s : State) : IndexOK (sortBCache srt s) := by
  have take : ∀ (key : Nat → Bytes) (rest : List Nat), (srt key s.bnumber ++ rest).take s.bnumber = srt key s.bnumber :=
    fun key rest => List.take_left' (by rw [(hs key s.bnumber).1.length_eq, List.length_range])
  simp only [IndexOK, sortBCache, keys_clearFC, take]
  exact ⟨hs _ _, hs _ _⟩

/-! ### placing a header into slot `k` (a vacated slot, or the slot after the last one) -/

/-- `.BRD`, the shared copy, the BM cache and BNumber after `r` was written to slot `k` (at most the number of
records) and `ResetBoard(k+1)` ran, before SortBCache.  BNumber grows exactly when `.BRD` does. -/
def placeRaw (s : State) (k : Nat) (r : Rec) : State :=
  { s with brd := if k < s.brd.length then s.brd.set k r else s.brd ++ [r], tail := [],
           cache := s.cache.set k r, bmcache := s.bmcache.set k (parseBMList s.users r.bm),
           bnumber := if k < s.brd.length then s.bnumber else s.bnumber + 1 }

theorem placeRaw_brd (s : State) (r : Rec) {k : Nat} (hk : k ≤ s.brd.length) (j : Nat) :
    (placeRaw s k r).brd[j]? = if j = k then some r else s.brd[j]? := by
  show (if k < s.brd.length then s.brd.set k r else s.brd ++ [r])[j]? = _
  by_cases h : k < s.brd.length
  · rw [if_pos h, List.getElem?_set, if_pos h]
    by_cases hjk : j = k
    · rw [if_pos hjk, if_pos hjk.symm]
    · rw [if_neg hjk, if_neg (Ne.symm hjk)]
  · have hkl : k = s.brd.length := Nat.le_antisymm hk (Nat.not_lt.mp h)
    rw [if_neg h, List.getElem?_append, hkl]
    by_cases hjk : j = s.brd.length
    · rw [if_pos hjk, if_neg (Nat.not_lt.mpr (Nat.le_of_eq hjk.symm)), hjk, Nat.sub_self]; rfl
    · rw [if_neg hjk]
      split
      · rfl
      · rw [List.getElem?_eq_none (by simp only [List.length_singleton]; omega), List.getElem?_eq_none (by omega)]

theorem placeRaw_brd_cases {s : State} {k j : Nat} {r x : Rec} (hk : k ≤ s.brd.length)
    (hx : (placeRaw s k r).brd[j]? = some x) : (j = k ∧ x = r) ∨ (j ≠ k ∧ s.brd[j]? = some x) := by
  rw [placeRaw_brd s r hk] at hx
  by_cases hjk : j = k
  · rw [if_pos hjk] at hx
    exact Or.inl ⟨hjk, (Option.some.inj hx).symm⟩
  · rw [if_neg hjk] at hx
    exact Or.inr ⟨hjk, hx⟩

/-- slot `k` lies below the new BNumber, so `SortBCache` clears its `FirstChild`; every other entry had it clear. -/
theorem place_cache (srt : Sorter) {s : State} (h : Inv s) {k : Nat} (r : Rec) (hk : k ≤ s.brd.length) :
    (sortBCache srt (placeRaw s k r)).cache = s.cache.set k (shmOf r) := by
  have hkn : k < if k < s.brd.length then s.bnumber else s.bnumber + 1 := by
    have := h.len
    split <;> omega
  show clearFC (if k < s.brd.length then s.bnumber else s.bnumber + 1) (s.cache.set k r) = _
  generalize (if k < s.brd.length then s.bnumber else s.bnumber + 1) = n at hkn
  apply List.ext_getElem?
  intro j
  rw [getElem?_clearFC, List.getElem?_set, List.getElem?_set]
  by_cases hjk : k = j
  · rw [if_pos hjk, if_pos hjk, ← hjk]
    simp only [if_pos hkn]
    split <;> rfl
  · rw [if_neg hjk, if_neg hjk]
    cases hc : s.cache[j]? with
    | none => rfl
    | some c =>
        have hok := h.getD_ok j
        rw [List.getD_eq_getElem?_getD, hc] at hok
        have hfix : shmOf c = c := hok.shmOf_eq
        simp only [Option.map_some, hfix, ite_self]

theorem inv_place {srt : Sorter} (hs : SortSpec srt) {s : State} (h : Inv s) {k : Nat} {r : Rec}
    (hkl : k ≤ s.brd.length) (hkm : k < MAXB)
    (hnone : ∀ (j : Nat) (rj : Rec), s.brd[j]? = some rj → nameKey rj.name ≠ nameKey r.name) :
    Inv (sortBCache srt (placeRaw s k r)) := by
  have hkc : k < s.cache.length := by rw [h.clen]; exact hkm
  refine Inv.of_getD rfl ?len ?cap ?clen ?blen ?ok (sortBCache_sorted hs _) ?distinct
  case len =>
    show (if k < s.brd.length then s.brd.set k r else s.brd ++ [r]).length =
      if k < s.brd.length then s.bnumber else s.bnumber + 1
    split
    · rw [List.length_set, h.len]
    · rw [List.length_append, h.len]; rfl
  case cap =>
    show (if k < s.brd.length then s.bnumber else s.bnumber + 1) ≤ MAXB
    have := h.len
    have := h.cap
    split <;> omega
  case clen =>
    rw [place_cache srt h r hkl, List.length_set, h.clen]
  case blen =>
    show (s.bmcache.set k _).length = MAXB
    rw [List.length_set, h.blen]
  case ok =>
    intro j
    show CacheOK ((sortBCache srt (placeRaw s k r)).cache.getD j Rec.zero) ((placeRaw s k r).brd.getD j Rec.zero)
    rw [place_cache srt h r hkl, List.getD_eq_getElem?_getD, List.getD_eq_getElem?_getD, placeRaw_brd s r hkl]
    by_cases hjk : j = k
    · rw [if_pos hjk, hjk, List.getElem?_set_self hkc]
      exact Or.inl rfl
    · rw [if_neg hjk, List.getElem?_set_ne (Ne.symm hjk), ← List.getD_eq_getElem?_getD, ← List.getD_eq_getElem?_getD]
      exact h.getD_ok j
  case distinct =>
    intro i j ri rj hi hj hocc hkey
    rcases placeRaw_brd_cases hkl hi with ⟨rfl, rfl⟩ | ⟨hik, hi'⟩
    · rcases placeRaw_brd_cases hkl hj with ⟨rfl, rfl⟩ | ⟨hjk, hj'⟩
      · rfl
      · exact absurd hkey.symm (hnone j rj hj')
    · rcases placeRaw_brd_cases hkl hj with ⟨rfl, rfl⟩ | ⟨hjk, hj'⟩
      · exact absurd hkey (hnone i ri hi')
      · exact h.distinct i j ri rj hi' hj' hocc hkey

/-! ### vacated and occupied slots of a table -/

theorem hasVacant_false_iff (t : List Rec) :
    hasVacant t = false ↔ ∀ (k : Nat) (r : Rec), t[k]? = some r → occupied r = true := by
  simp only [hasVacant, List.any_eq_false, List.mem_iff_getElem?, Bool.not_eq_true, Bool.not_eq_false',
    forall_exists_index]
  exact ⟨fun h k r hr => h r k hr, fun h r k hr => h k r hr⟩

theorem hasVacant_true {t : List Rec} {k : Nat} {r : Rec} (hr : t[k]? = some r) (ho : occupied r = false) :
    hasVacant t = true := by
  simp only [hasVacant, List.any_eq_true]
  exact ⟨r, List.mem_of_getElem? hr, by simp [ho]⟩

theorem occupied_false_iff (r : Rec) : occupied r = false ↔ nameKey r.name = [] := by
  simp [occupied]

theorem occupied_true_iff (r : Rec) : occupied r = true ↔ nameKey r.name ≠ [] := by
  simp [occupied]

/-- the slots a new header may go to (the choice `SpecStep` leaves open): a vacated one, or the one after the last
when none is vacated. -/
abbrev SlotFor (t : List Rec) (k : Nat) : Prop :=
  (k < t.length ∧ ∃ r0, t[k]? = some r0 ∧ occupied r0 = false) ∨ (hasVacant t = false ∧ k = t.length)

theorem SlotFor.le {t : List Rec} {k : Nat} (h : SlotFor t k) : k ≤ t.length := by
  rcases h with ⟨hl, _⟩ | ⟨_, hl⟩
  · exact Nat.le_of_lt hl
  · exact Nat.le_of_eq hl

/-! ### addBoardRecord -/

theorem substIndex_succ (k : Nat) : substIndex (k + 1) = .ok k := by
  simp [substIndex, gen_subst, pure, Except.pure]

theorem resetBoard_of_get (s : State) (k : Nat) (r : Rec) (hk : k < MAXB) (hg : s.brd[k]? = some r) :
    resetBoard s (k + 1) =
      ({ s with cache := s.cache.set k r, bmcache := s.bmcache.set k (parseBMList s.users r.bm) }, true) := by
  have hc : (1 ≤ k + 1 ∧ k + 1 ≤ MAXB) := by omega
  simp only [resetBoard, Nat.add_sub_cancel, hg, hc, and_self, decide_true, Bool.not_true, Bool.false_eq_true, if_false]

theorem addBoardRecord_cases (srt : Sorter) {s : State} (h : Inv s) (r : Rec) :
    (¬ (hasVacant s.brd = false ∧ MAXB ≤ s.brd.length) ∧ ∃ k, k < MAXB ∧ SlotFor s.brd k ∧
        addBoardRecord srt s r = (sortBCache srt (placeRaw s k r), .ok (.ok (k + 1)))) ∨
    (hasVacant s.brd = false ∧ MAXB ≤ s.brd.length ∧ addBoardRecord srt s r = (s, .ok .tooMany)) := by
  obtain ⟨b, hb, hcase⟩ := getBid_brd h (zeros 13)
  rw [nameKey_zeros] at hcase
  simp only [addBoardRecord, hb]
  rcases hcase with ⟨hb0, hnone⟩ | ⟨k, r0, hr0, hbk, hkey⟩
  · have hv : hasVacant s.brd = false := by
      rw [hasVacant_false_iff]
      intro k r1 hr1
      rw [occupied_true_iff]; exact hnone k r1 hr1
    subst hb0
    by_cases hcap : MAXB ≤ s.bnumber
    · right
      refine ⟨hv, h.len ▸ hcap, ?_⟩
      rw [if_neg (by omega), if_pos (by omega)]
    · left
      refine ⟨fun hfull => hcap (h.len ▸ hfull.2), s.bnumber, by omega, Or.inr ⟨hv, h.len.symm⟩, ?_⟩
      rw [if_neg (by omega), if_neg (by omega)]
      have hget : (s.brd ++ [r])[s.bnumber]? = some r := by
        rw [← h.len, List.getElem?_append_right (Nat.le_refl _)]; simp
      rw [resetBoard_of_get _ s.bnumber r (by omega) hget]
      have hnl : ¬ s.bnumber < s.brd.length := by rw [h.len]; omega
      simp [placeRaw, hnl]
  · left
    have hkl : k < s.brd.length := (List.getElem?_eq_some_iff.mp hr0).1
    have hkm : k < MAXB := Nat.lt_of_lt_of_le (h.len ▸ hkl) h.cap
    have ho : occupied r0 = false := (occupied_false_iff r0).mpr hkey
    have hnf : ¬ (hasVacant s.brd = false ∧ MAXB ≤ s.brd.length) := fun hfull => by
      rw [hasVacant_true hr0 ho] at hfull; cases hfull.1
    refine ⟨hnf, k, hkm, Or.inl ⟨hkl, r0, hr0, ho⟩, ?_⟩
    subst hbk
    rw [if_pos (by omega)]
    simp only [substIndex_succ]
    have hget : (s.brd.set k r)[k]? = some r := List.getElem?_set_self hkl
    simp only [writeRec, if_pos hkl]
    rw [resetBoard_of_get _ k r (by omega) hget]
    simp [placeRaw, hkl, h.tail]

/-! ### LoadBoardSummary's write -/

theorem inv_setCopy {s : State} (h : Inv s) {k : Nat} {r c : Rec} (hr : s.brd[k]? = some r) (hok : CacheOK c r) :
    Inv { s with cache := s.cache.set k c } := by
  have hkc : k < s.cache.length := by
    rw [h.clen]; exact Nat.lt_of_lt_of_le (h.lt_of_get hr) h.cap
  have ok : ∀ i, CacheOK ((s.cache.set k c).getD i Rec.zero) (s.brd.getD i Rec.zero) := by
    intro i
    by_cases hik : i = k
    · rw [hik, List.getD_eq_getElem?_getD, List.getD_eq_getElem?_getD, List.getElem?_set_self hkc, hr]
      exact hok
    · rw [List.getD_eq_getElem?_getD, List.getElem?_set_ne (Ne.symm hik), ← List.getD_eq_getElem?_getD]
      exact h.getD_ok i
  -- the keys the indexes are sorted by are those of `.BRD`, before and after
  have e := keys_of_getD h.getD_ok
  have e' := keys_of_getD ok
  refine Inv.of_getD h.tail h.len h.cap ?_ h.blen ok ?_ h.distinct
  · show (s.cache.set k c).length = MAXB
    rw [List.length_set, h.clen]
  · simp only [IndexOK, e'.1, e'.2, ← e.1, ← e.2]
    exact ⟨h.sortN, h.sortC⟩

theorem newCopy_ok (users : List Bytes) (q : Req) : CacheOK (newCopy users q) (normalise users q) := by
  unfold newCopy
  split
  · rename_i hpm
    simp only [postMaskWritten, Bool.and_eq_true] at hpm
    exact Or.inr ⟨hpm.1.1, rfl⟩
  · exact Or.inl rfl

/-- `LoadBoardSummary` after the creation: all it does is turn the fresh shared copy of the slot into `newCopy`. -/
theorem summaryEffect_eq {s : State} {q : Req} {k : Nat} (hc : s.cache[k]? = some (shmOf (normalise s.users q)))
    (hb : s.bmcache[k]? = some (parseBMList s.users (normalise s.users q).bm)) :
    summaryEffect s q (k + 1) = { s with cache := s.cache.set k (newCopy s.users q) } := by
  have hmod : isBMCache s q (k + 1) = callerIsMod s.users q (sanitizeBMs s.users q.bms) := by
    simp only [isBMCache, callerIsMod, Nat.add_sub_cancel, List.getD, hb, Option.getD_some]
    rfl
  have hsame : s.cache.set k (shmOf (normalise s.users q)) = s.cache := by
    obtain ⟨hk, e⟩ := List.getElem?_eq_some_iff.mp hc
    rw [← e]; exact List.set_getElem_self hk
  simp only [summaryEffect, Nat.add_sub_cancel, List.getD, hc, Option.getD_some, statIsBoard, hmod, newCopy,
    postMaskWritten]
  have ha : (shmOf (normalise s.users q)).attr = buildAttr q := rfl
  have hl : (shmOf (normalise s.users q)).level = buildLevel q := rfl
  have ha' : (normalise s.users q).attr = buildAttr q := rfl
  rw [ha, hl, ha']
  by_cases hh : hasBit (buildAttr q) BRD_HIDE = true
  · obtain ⟨hpm, hlv⟩ := hide_facts q hh
    by_cases hx : (!hasBit q.ulevel PERM_SYSOP && !callerIsMod s.users q (sanitizeBMs s.users q.bms)) = true
    · simp [hh, hpm, hlv, hasBit_zero, hx]
    · simp [hh, hpm, hlv, hasBit_zero, hx, hsame]
  · simp [hh, hsame]

/-! ### an accepted request -/

theorem inv_dirs {s : State} (h : Inv s) (d : List Bytes) : Inv { s with dirs := d } :=
  ⟨h.tail, h.len, h.cap, h.clen, h.blen, h.copy, h.beyond, h.sortN, h.sortC, h.distinct⟩

/-- an accepted request, from the point where `mNewbrd` has made the directory (`d`: the list after `Mkdir`) and
`addBoardRecord` has chosen slot `k`; `F` is the state after SortBCache and LoadBoardSummary's write. -/
theorem accept_core {srt : Sorter} (hs : SortSpec srt) {s : State} (h : Inv s) (q : Req) (d : List Bytes) {k : Nat}
    (hkl : k ≤ s.brd.length) (hkm : k < MAXB)
    (hnone : ∀ (j : Nat) (rj : Rec), s.brd[j]? = some rj → nameKey rj.name ≠ nameKey (normalise s.users q).name) :
    let F := summaryEffect (sortBCache srt (placeRaw { s with dirs := d } k (normalise s.users q))) q (k + 1)
    Inv F ∧ F.brd = (placeRaw s k (normalise s.users q)).brd ∧ F.dirs = d ∧ F.users = s.users ∧
    F.letters = s.letters ∧ Accepted s F q k := by
  intro F
  have h' : Inv { s with dirs := d } := inv_dirs h d
  have hP := inv_place hs h' hkl hkm hnone
  have hPb : (placeRaw { s with dirs := d } k (normalise s.users q)).brd[k]? = _ :=
    (placeRaw_brd _ _ hkl k).trans (if_pos rfl)
  have hPc := place_cache srt h' (normalise s.users q) hkl
  have hPm : (s.bmcache.set k (parseBMList s.users (normalise s.users q).bm))[k]? = _ :=
    List.getElem?_set_self (by rw [h.blen]; exact hkm)
  have hF : F = _ := summaryEffect_eq (s := sortBCache srt (placeRaw { s with dirs := d } k (normalise s.users q)))
    (by rw [hPc]; exact List.getElem?_set_self (by rw [h.clen]; exact hkm)) hPm
  rw [hF]
  refine ⟨inv_setCopy hP hPb (newCopy_ok _ _), rfl, rfl, rfl, rfl, hPb, ?_, hPm, ?_, ?_, ?_, rfl⟩
  · exact List.getElem?_set_self (by rw [hP.clen]; exact hkm)
  · exact fun j hjk => (placeRaw_brd { s with dirs := d } _ hkl j).trans (if_neg hjk)
  · intro j hjk
    show ((sortBCache srt (placeRaw { s with dirs := d } k (normalise s.users q))).cache.set k _)[j]? = _
    rw [hPc, List.getElem?_set_ne (Ne.symm hjk), List.getElem?_set_ne (Ne.symm hjk)]
  · intro j hjk
    show (s.bmcache.set k _)[j]? = _
    rw [List.getElem?_set_ne (Ne.symm hjk)]

end PttVerif.C12
