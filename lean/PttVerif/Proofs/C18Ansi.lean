import PttVerif.Model.C18Ansi
import PttVerif.Proofs.C18
/-
C18 (group 2) — helper lemmas for cmsys.StripAnsi:
the index/fuel model equals a structural state machine `run`; `run` against the lexer grammar.
-/
namespace PttVerif.C18
open PttVerif

/-! ### the regenerated table and constants

The `decide +kernel` facts of this section are where a changed `ESCAPE_FLAG`, ESC or mode constant in cmsys/const.go
(through `Gen/C18Str.lean`) shows up. -/

theorem escapeFlag_length : escapeFlag.length = 256 := by decide +kernel
theorem ESC_eq : ESC = 27 := by decide +kernel
theorem ESC_ne_zero : ESC ≠ 0 := by decide +kernel
theorem modes_eq : STRIP_ANSI_ALL = 0 ∧ STRIP_ANSI_ONLY_COLOR = 1 ∧ STRIP_ANSI_NO_RELOAD = 2 := by decide +kernel

theorem getD_map_range (f : Nat → Nat) (n x d : Nat) (hx : x < n) : ((List.range n).map f).getD x d = f x := by
  simp [List.getD, hx]

/-- membership in a list of naturals as a `Bool` that the kernel evaluates with its built-in `Nat.beq`. -/
theorem ite_mem_eq_any_beq {β} (x : Nat) (l : List Nat) (a b : β) :
    (if x ∈ l then a else b) = bif l.any (Nat.beq x) then a else b := by
  have hiff : l.any (Nat.beq x) = true ↔ x ∈ l := by
    rw [List.any_eq_true]
    exact ⟨fun ⟨y, hy, hxy⟩ => Nat.eq_of_beq_eq_true hxy ▸ hy, fun h => ⟨x, h, Nat.beq_refl x⟩⟩
  by_cases h : x ∈ l
  · rw [if_pos h, hiff.mpr h]; rfl
  · rw [if_neg h, Bool.eq_false_iff.mpr (mt hiff.mp h)]; rfl

theorem isParamB_nul : isParamB 0 = false := by decide +kernel
theorem isCmdB_nul : isCmdB 0 = false := by decide +kernel

theorem idx_flag (x : Nat) (h : x < 256) : idx escapeFlag x = .ok (flagOf x) := by
  have hl : x < escapeFlag.length := by rw [escapeFlag_length]; exact h
  simp [idx, flagOf, List.getD, List.getElem?_eq_getElem hl]

theorem isEscapeParam_eq (x : Nat) (h : x < 256) : isEscapeParam x = .ok (isParamB x) := by
  simp [isEscapeParam, idx_flag x h, isParamB, bind, Except.bind, pure, Except.pure]

theorem isEscapeCommand_eq (x : Nat) (h : x < 256) : isEscapeCommand x = .ok (isCmdB x) := by
  simp [isEscapeCommand, idx_flag x h, isCmdB, bind, Except.bind, pure, Except.pure]

/-! ### the structural state machine -/

/-- where `StripAnsi` is in the text: outside a sequence, behind an `ESC`, or behind `ESC [` with the parameter bytes
`acc` read so far (kept so that a sequence the mode lets through can be emitted whole at its final byte). -/
inductive St where
  | text
  | esc
  | csi (acc : List Nat)

/-- does the mode keep a sequence with final byte `f`? (`keepSeq`, and `keepTok` on a `csi` unit, as a `Bool`.) -/
def keepB (flag f : Nat) : Bool :=
  (decide (flag = STRIP_ANSI_NO_RELOAD) && isCmdB f) || (decide (flag = STRIP_ANSI_ONLY_COLOR) && decide (f = 109))

/-- `StripAnsi` as a function of the bytes alone: what is still emitted from state `st` on the rest of the input. A NUL
ends it in every state; in `.csi acc` the first non-parameter byte is the final byte of the sequence. -/
def run (flag : Nat) : St → List Nat → List Nat
  | .text, [] => []
  | .text, c :: r => if c = 0 then [] else if c = ESC then run flag .esc r else c :: run flag .text r
  | .esc, [] => []
  | .esc, p :: r => if p = 91 then run flag (.csi []) r else if p = 0 then [] else run flag .text r
  | .csi _, [] => []
  | .csi acc, c :: r =>
    if isParamB c = true then run flag (.csi (acc ++ [c])) r
    else (if keepB flag c = true then ESC :: 91 :: (acc ++ [c]) else []) ++ (if c = 0 then [] else run flag .text r)

theorem keepB_nul (flag : Nat) : keepB flag 0 = false := by simp [keepB, isCmdB_nul]

theorem run_csi_params (flag : Nat) (acc ps rest : List Nat) (hps : ∀ p ∈ ps, isParamB p = true) :
    run flag (.csi acc) (ps ++ rest) = run flag (.csi (acc ++ ps)) rest := by
  induction ps generalizing acc with
  | nil => simp
  | cons p ps ih =>
    have hp : isParamB p = true := hps p (by simp)
    simp only [List.cons_append, run, hp, if_true]
    rw [ih (acc ++ [p]) (fun q hq => hps q (by simp [hq]))]
    simp

theorem split_params (s : List Nat) :
    ∃ ps rest, s = ps ++ rest ∧ (∀ p ∈ ps, isParamB p = true) ∧
      (rest = [] ∨ ∃ f t, rest = f :: t ∧ isParamB f = false) := ⟨_, _, span_cases isParamB s⟩

/-! ### index model = state machine -/

theorem scanParams_spec (src : List Nat) (hb : Bytes src) (ps rest : List Nat) (fuel j : Nat)
    (hd : src.drop j = ps ++ rest) (hps : ∀ p ∈ ps, isParamB p = true)
    (hrest : rest = [] ∨ ∃ f t, rest = f :: t ∧ isParamB f = false) (hf : ps.length < fuel) :
    scanParams src fuel j = .ok (j + ps.length) := by
  induction ps generalizing j fuel with
  | nil =>
    cases fuel with
    | zero => omega
    | succ fuel =>
      rw [scanParams]
      rcases hrest with rfl | ⟨f, t, rfl, hfp⟩
      · rw [if_neg (Nat.not_lt.mpr (List.drop_eq_nil_iff.mp hd))]
        rfl
      · obtain ⟨hc, _, hlt⟩ := idx_of_drop src j f t hd
        rw [if_pos hlt, hc, ok_bind, isEscapeParam_eq f (hb.of_drop hd), ok_bind, hfp]
        rfl
  | cons p ps ih =>
    cases fuel with
    | zero => omega
    | succ fuel =>
      obtain ⟨hc, hd1, hlt⟩ := idx_of_drop src j p (ps ++ rest) hd
      rw [scanParams, if_pos hlt, hc, ok_bind, isEscapeParam_eq p (hb.of_drop hd), ok_bind, hps p (by simp),
        if_pos rfl, ih fuel (j + 1) hd1 (fun q hq => hps q (by simp [hq])) (by simp at hf; omega), List.length_cons]
      congr 1
      omega

theorem keepSeq_eq (flag f : Nat) (hf : f < 256) : keepSeq flag f = .ok (keepB flag f) := by
  unfold keepSeq keepB
  by_cases h : flag = STRIP_ANSI_NO_RELOAD
  · simp [h, isEscapeCommand_eq f hf, ok_bind, pure_eq_ok]
  · simp [h, ok_bind, pure_eq_ok]

theorem slice_of_drop {α} (a : List α) (i : Nat) (seg t : List α) (h : a.drop i = seg ++ t)
    (hlen : i + seg.length ≤ a.length) : slice a i (i + seg.length) = .ok seg := by
  rw [slice, if_pos ⟨Nat.le_add_right _ _, hlen⟩, List.drop_take, h, Nat.add_sub_cancel_left, List.take_left' rfl]

theorem copySeq_eq (src : List Nat) (i idxP : Nat) (seg t out : List Nat) (h : src.drop i = seg ++ t)
    (hP : idxP + 1 = i + seg.length) (hle : i ≤ idxP) (hlt : idxP < src.length) (hout : out.length ≤ i) :
    copySeq src i idxP out = .ok (out ++ seg) := by
  have hlen : idxP - i + 1 = seg.length := by omega
  have hin : i + seg.length ≤ src.length := by omega
  unfold copySeq
  dsimp only
  rw [hlen, if_pos (Nat.le_trans (Nat.add_le_add_right hout _) hin), slice_of_drop src i seg t h hin, ok_bind]
  rfl

/-! ### one round of the main loop, by the branch taken -/

theorem stripLoop_end (src : List Nat) (flag fuel i : Nat) (out : List Nat) (hi : ¬ i < src.length) :
    stripLoop src flag (fuel + 1) i out = .ok out := by
  rw [stripLoop, if_pos hi]
  rfl

theorem stripLoop_nul (src : List Nat) (flag fuel i : Nat) (out : List Nat) (hi : i < src.length)
    (he : idx src i = .ok 0) : stripLoop src flag (fuel + 1) i out = .ok out := by
  rw [stripLoop, if_neg (not_not_intro hi), he, ok_bind, if_pos rfl]
  rfl

theorem stripLoop_plain (src : List Nat) (flag fuel i each : Nat) (out : List Nat) (hi : i < src.length)
    (he : idx src i = .ok each) (h0 : each ≠ 0) (hesc : each ≠ ESC) (ho : out.length < src.length) :
    stripLoop src flag (fuel + 1) i out = stripLoop src flag fuel (i + 1) (out ++ [each]) := by
  rw [stripLoop, if_neg (not_not_intro hi), he, ok_bind, if_neg h0, if_pos hesc]
  dsimp only
  rw [if_pos ho]

theorem stripLoop_esc_end (src : List Nat) (flag fuel i : Nat) (out : List Nat) (hi : i < src.length)
    (he : idx src i = .ok ESC) (hlast : i + 1 = src.length) : stripLoop src flag (fuel + 1) i out = .ok out := by
  rw [stripLoop, if_neg (not_not_intro hi), he, ok_bind, if_neg ESC_ne_zero, if_neg (not_not_intro rfl),
    if_pos hlast]
  rfl

theorem stripLoop_esc_other (src : List Nat) (flag fuel i p : Nat) (out : List Nat) (hi : i + 1 < src.length)
    (he : idx src i = .ok ESC) (hp : idx src (i + 1) = .ok p) (hp91 : p ≠ 91) :
    stripLoop src flag (fuel + 1) i out = if p = 0 then .ok out else stripLoop src flag fuel (i + 2) out := by
  rw [stripLoop, if_neg (not_not_intro (Nat.lt_of_succ_lt hi)), he, ok_bind, if_neg ESC_ne_zero,
    if_neg (not_not_intro rfl), if_neg (Nat.ne_of_lt hi), hp, ok_bind, if_pos hp91, ok_bind]
  rfl

theorem stripLoop_csi_cut (src : List Nat) (flag fuel i : Nat) (out : List Nat) (hi : i + 1 < src.length)
    (he : idx src i = .ok ESC) (hp : idx src (i + 1) = .ok 91)
    (hscan : scanParams src (src.length + 1) (i + 2) = .ok src.length) :
    stripLoop src flag (fuel + 1) i out = .ok out := by
  rw [stripLoop, if_neg (not_not_intro (Nat.lt_of_succ_lt hi)), he, ok_bind, if_neg ESC_ne_zero,
    if_neg (not_not_intro rfl), if_neg (Nat.ne_of_lt hi), hp, ok_bind, if_neg (not_not_intro rfl), hscan, ok_bind,
    if_pos rfl]
  rfl

theorem stripLoop_csi (src : List Nat) (flag fuel i idxP f : Nat) (out : List Nat) (hi : i + 1 < src.length)
    (he : idx src i = .ok ESC) (hp : idx src (i + 1) = .ok 91)
    (hscan : scanParams src (src.length + 1) (i + 2) = .ok idxP) (hP : idxP ≠ src.length)
    (hf : idx src idxP = .ok f) (hfb : f < 256) :
    stripLoop src flag (fuel + 1) i out =
      if keepB flag f = true then
        copySeq src i idxP out >>= fun out' => if f = 0 then .ok out' else stripLoop src flag fuel (idxP + 1) out'
      else if f = 0 then .ok out else stripLoop src flag fuel (idxP + 1) out := by
  rw [stripLoop, if_neg (not_not_intro (Nat.lt_of_succ_lt hi)), he, ok_bind, if_neg ESC_ne_zero,
    if_neg (not_not_intro rfl), if_neg (Nat.ne_of_lt hi), hp, ok_bind, if_neg (not_not_intro rfl), hscan, ok_bind,
    if_neg hP, hf, ok_bind, keepSeq_eq flag f hfb, ok_bind]
  simp only [hP, if_false, ok_bind, pure_eq_ok]

/-- the loop entered at `idxSrc = i` with `out = dst[:idxDst]`. `hout` is `idxDst ≤ idxSrc`, which is why neither the
byte store nor `copySeq` overruns `dst` (of length `len(src)`); every round advances `i`, so `src.length - i` rounds
and one more for the exit are enough fuel (`hf`). -/
theorem stripLoop_spec (src : List Nat) (flag : Nat) (hb : Bytes src) (fuel i : Nat) (out : List Nat)
    (hout : out.length ≤ i) (hi : i ≤ src.length) (hf : src.length < i + fuel) :
    stripLoop src flag fuel i out = .ok (out ++ run flag .text (src.drop i)) := by
  induction fuel generalizing i out with
  | zero => omega
  | succ fuel ih =>
    cases hd : src.drop i with
    | nil => rw [stripLoop_end _ _ _ _ _ (Nat.not_lt.mpr (List.drop_eq_nil_iff.mp hd)), run, List.append_nil]
    | cons each s1 =>
      obtain ⟨hc, hd1, hlt⟩ := idx_of_drop src i each s1 hd
      rw [run]
      by_cases h0 : each = 0
      · subst h0
        rw [stripLoop_nul _ _ _ _ _ hlt hc, if_pos rfl, List.append_nil]
      rw [if_neg h0]
      by_cases hesc : each = ESC
      · subst hesc
        rw [if_pos rfl]
        cases s1 with
        | nil =>
          have := List.drop_eq_nil_iff.mp hd1
          rw [stripLoop_esc_end _ _ _ _ _ hlt hc (by omega), run, List.append_nil]
        | cons p s2 =>
          obtain ⟨hp, hd2, hlt1⟩ := idx_of_drop src (i + 1) p s2 hd1
          rw [run]
          by_cases hp91 : p = 91
          · -- CSI: split what follows into parameter bytes and the rest
            subst hp91
            rw [if_pos rfl]
            obtain ⟨ps, rest, rfl, hps, hrest⟩ := split_params s2
            have hlen : i + 2 + ps.length + rest.length = src.length := by
              have := congrArg List.length hd2
              simp at this; omega
            have hscan := scanParams_spec src hb ps rest (src.length + 1) (i + 2) hd2 hps hrest (by omega)
            rw [run_csi_params flag [] ps rest hps, List.nil_append]
            rcases hrest with rfl | ⟨f, t, rfl, hfp⟩
            · rw [stripLoop_csi_cut _ _ _ _ _ hlt1 hc hp (by rw [hscan, ← hlen]; rfl), run, List.append_nil]
            · have hdP : src.drop (i + 2 + ps.length) = f :: t := by
                rw [← List.drop_drop, hd2, List.drop_left' rfl]
              obtain ⟨hfi, hdt, hltP⟩ := idx_of_drop src _ f t hdP
              rw [stripLoop_csi _ _ _ _ _ f _ hlt1 hc hp hscan (Nat.ne_of_lt hltP) hfi (hb.of_drop hdP), run, hfp,
                if_neg Bool.false_ne_true]
              have hrec : ∀ out', out'.length ≤ out.length + (ps.length + 3) →
                  stripLoop src flag fuel (i + 2 + ps.length + 1) out' = .ok (out' ++ run flag .text t) := by
                intro out' ho
                rw [ih _ out' (by omega) hltP (by omega), hdt]
              by_cases hk : keepB flag f = true
              · have hf0 : f ≠ 0 := fun e => by
                  rw [e, keepB_nul] at hk
                  cases hk
                rw [if_pos hk, if_pos hk,
                  copySeq_eq src i _ (ESC :: 91 :: (ps ++ [f])) t out (by rw [hd]; simp) (by simp; omega) (by omega) hltP hout,
                  ok_bind, if_neg hf0, if_neg hf0, hrec _ (by simp), List.append_assoc]
              · rw [if_neg hk, if_neg hk, List.nil_append]
                by_cases hf0 : f = 0
                · rw [if_pos hf0, if_pos hf0, List.append_nil]
                · rw [if_neg hf0, if_neg hf0, hrec _ (by omega)]
          · -- ESC x, x ≠ '['
            rw [if_neg hp91, stripLoop_esc_other _ _ _ _ p _ hlt1 hc hp hp91]
            by_cases hp0 : p = 0
            · rw [if_pos hp0, if_pos hp0, List.append_nil]
            · rw [if_neg hp0, if_neg hp0, ih (i + 2) out (by omega) hlt1 (by omega), hd2]
      · -- plain byte
        rw [if_neg hesc, stripLoop_plain _ _ _ _ each _ hlt hc h0 hesc (by omega),
          ih (i + 1) (out ++ [each]) (by simp; omega) hlt (by omega), hd1, List.append_assoc]
        rfl

theorem stripAnsi_eq_run (src : List Nat) (flag : Nat) (hb : Bytes src) :
    stripAnsi src flag = .ok (run flag .text src) :=
  stripLoop_spec src flag hb (src.length + 1) 0 [] (Nat.le_refl _) (Nat.zero_le _) (by omega)

/-! ### the state machine against the lexer grammar -/

theorem keepB_iff (flag f : Nat) :
    keepB flag f = true ↔ ((flag = STRIP_ANSI_NO_RELOAD ∧ isCmdB f = true) ∨ (flag = STRIP_ANSI_ONLY_COLOR ∧ f = 109)) := by
  simp [keepB]

theorem run_tok (flag : Nat) (t : Tok) (X : List Nat) (hok : t.ok) (hc : t.complete)
    (h0 : ∀ b ∈ t.bytes, b ≠ 0) : run flag .text (t.bytes ++ X) = keepTok flag t ++ run flag .text X := by
  cases t with
  | plain b =>
    have hb0 : b ≠ 0 := h0 b (by simp [Tok.bytes])
    have hbe : b ≠ ESC := hok
    simp [Tok.bytes, run, keepTok, hb0, hbe]
  | escOther b =>
    have hb0 : b ≠ 0 := h0 b (by simp [Tok.bytes])
    have hb : b ≠ 91 := hok
    simp [Tok.bytes, run, keepTok, ESC_ne_zero, hb0, hb]
  | csi ps f =>
    obtain ⟨hps, hf⟩ := hok
    have hf0 : f ≠ 0 := h0 f (by simp [Tok.bytes])
    have e : (Tok.csi ps f).bytes ++ X = ESC :: 91 :: (ps ++ f :: X) := by simp [Tok.bytes]
    rw [e]
    simp only [run, ESC_ne_zero, if_false, if_true]
    rw [run_csi_params flag [] ps (f :: X) hps]
    simp only [run, hf, Bool.false_eq_true, if_false, hf0, List.nil_append, keepTok, Tok.bytes]
    by_cases hk : keepB flag f = true
    · rw [if_pos hk, if_pos ((keepB_iff flag f).mp hk)]
    · rw [if_neg hk, if_neg (fun h => hk ((keepB_iff flag f).mpr h))]
  | csiTrunc ps => exact absurd hc (by simp [Tok.complete])
  | escEnd => exact absurd hc (by simp [Tok.complete])

theorem run_tok_last (flag : Nat) (t : Tok) (hok : t.ok) (hc : ¬ t.complete) :
    run flag .text t.bytes = keepTok flag t := by
  cases t with
  | plain b => exact absurd (by simp [Tok.complete]) hc
  | escOther b => exact absurd (by simp [Tok.complete]) hc
  | csi ps f => exact absurd (by simp [Tok.complete]) hc
  | csiTrunc ps =>
    have hps : ∀ p ∈ ps, isParamB p = true := hok
    have := run_csi_params flag [] ps [] hps
    simp only [List.append_nil] at this
    simp [Tok.bytes, run, ESC_ne_zero, keepTok, this]
  | escEnd => simp [Tok.bytes, run, ESC_ne_zero, keepTok]

theorem bytesOf_cons (t : Tok) (ts : List Tok) : bytesOf (t :: ts) = t.bytes ++ bytesOf ts := rfl

theorem run_toks (flag : Nat) (toks : List Tok) (hwf : WF toks) (h0 : ∀ b ∈ bytesOf toks, b ≠ 0) :
    run flag .text (bytesOf toks) = toks.flatMap (keepTok flag) := by
  induction toks with
  | nil => simp [bytesOf, run]
  | cons t rest ih =>
    obtain ⟨hok, hcomp, hwf'⟩ := hwf
    rw [bytesOf_cons] at h0
    by_cases hc : t.complete
    · rw [bytesOf_cons, run_tok flag t _ hok hc fun b hb => h0 b (List.mem_append_left _ hb),
        ih hwf' fun b hb => h0 b (List.mem_append_right _ hb)]
      rfl
    · have hrest : rest = [] := by
        by_cases hr : rest = []
        · exact hr
        · exact absurd (hcomp hr) hc
      subst hrest
      simp [bytesOf, run_tok_last flag t hok hc]

theorem exists_lexing (s : List Nat) : ∃ toks, WF toks ∧ bytesOf toks = s := by
  -- by length: a complete unit is cut off the front, and what is left, being shorter, has a lexing
  have key : ∀ n (s : List Nat), s.length ≤ n → ∃ toks, WF toks ∧ bytesOf toks = s := by
    intro n
    induction n with
    | zero =>
      intro s hs
      rw [List.length_eq_zero_iff.mp (Nat.le_zero.mp hs)]
      exact ⟨[], trivial, rfl⟩
    | succ n ih =>
      intro s hs
      have front : ∀ (t : Tok) (r : List Nat), t.ok → t.complete → s = t.bytes ++ r → r.length ≤ n →
          ∃ toks, WF toks ∧ bytesOf toks = s := by
        intro t r hok hc hs hr
        obtain ⟨toks, hwf, hb⟩ := ih r hr
        exact ⟨t :: toks, ⟨hok, fun _ => hc, hwf⟩, by rw [bytesOf_cons, hb, hs]⟩
      match s with
      | [] => exact ⟨[], trivial, rfl⟩
      | c :: r =>
        by_cases hc : c = ESC
        · subst hc
          match r with
          | [] => exact ⟨[.escEnd], ⟨trivial, fun h => absurd rfl h, trivial⟩, rfl⟩
          | p :: r2 =>
            by_cases hp : p = 91
            · subst hp
              obtain ⟨ps, rest, rfl, hps, hrest⟩ := split_params r2
              rcases hrest with rfl | ⟨f, t, rfl, hf⟩
              · exact ⟨[.csiTrunc ps], ⟨hps, fun h => absurd rfl h, trivial⟩, by simp [bytesOf, Tok.bytes]⟩
              · exact front (.csi ps f) t ⟨hps, hf⟩ trivial (by simp [Tok.bytes]) (by simp at hs; omega)
            · exact front (.escOther p) r2 hp trivial rfl (by simp at hs; omega)
        · exact front (.plain c) r hc trivial rfl (by simp at hs; omega)
  exact key s.length s (Nat.le_refl _)

/-! ### NUL is the end of the string -/

theorem run_cstr (flag : Nat) (st : St) (s : List Nat) : run flag st (cstr s) = run flag st s := by
  induction s generalizing st with
  | nil => rfl
  | cons c r ih =>
    rw [cstr_cons]
    by_cases hc : c = 0
    · subst hc
      cases st <;> simp [run, isParamB_nul, keepB_nul]
    · rw [if_neg hc]
      cases st <;> simp only [run, hc, if_false, ih]

theorem run_plain (flag : Nat) (s : List Nat) (h : ∀ b ∈ s, b ≠ 0 ∧ b ≠ ESC) : run flag .text s = s := by
  induction s with
  | nil => rfl
  | cons c r ih =>
    obtain ⟨h1, h2⟩ := h c (by simp)
    simp only [run, h1, h2, if_false]
    rw [ih (fun b hb => h b (by simp [hb]))]

/-! ### what a mode keeps of a unit is nothing or the whole unit -/

theorem keepTok_cases (flag : Nat) (t : Tok) : keepTok flag t = [] ∨ (keepTok flag t = t.bytes ∧ t.complete) := by
  cases t with
  | plain b => exact .inr ⟨rfl, trivial⟩
  | escOther b => exact .inl rfl
  | csi ps f =>
    simp only [keepTok]
    split
    · exact .inr ⟨rfl, trivial⟩
    · exact .inl rfl
  | csiTrunc ps => exact .inl rfl
  | escEnd => exact .inl rfl

theorem run_kept_toks (flag : Nat) (toks : List Tok) (hwf : WF toks) (h0 : ∀ b ∈ bytesOf toks, b ≠ 0) :
    run flag .text (toks.flatMap (keepTok flag)) = toks.flatMap (keepTok flag) := by
  induction toks with
  | nil => simp [run]
  | cons t rest ih =>
    obtain ⟨hok, _, hwf'⟩ := hwf
    rw [bytesOf_cons] at h0
    have ih := ih hwf' fun b hb => h0 b (List.mem_append_right _ hb)
    simp only [List.flatMap_cons]
    rcases keepTok_cases flag t with h | ⟨h, hc⟩
    · rw [h]; exact ih
    · rw [h, run_tok flag t _ hok hc fun b hb => h0 b (List.mem_append_left _ hb), h, ih]

/-! ### every run is the filter of a lexing of the C string -/

theorem WF.ok_of_mem {toks : List Tok} (hwf : WF toks) {t : Tok} (ht : t ∈ toks) : t.ok := by
  induction toks with
  | nil => cases ht
  | cons u rest ih =>
    rcases List.mem_cons.mp ht with rfl | ht
    · exact hwf.1
    · exact ih hwf.2.2 ht

theorem keepTok_subset (flag : Nat) (toks : List Tok) (b : Nat) (h : b ∈ toks.flatMap (keepTok flag)) :
    b ∈ bytesOf toks := by
  obtain ⟨t, ht, hbt⟩ := List.mem_flatMap.mp h
  refine List.mem_flatMap.mpr ⟨t, ht, ?_⟩
  rcases keepTok_cases flag t with hk | ⟨hk, _⟩
  · rw [hk] at hbt
    cases hbt
  · rwa [hk] at hbt

theorem strip_lexed (src : List Nat) (flag : Nat) (hb : Bytes src) :
    ∃ toks, WF toks ∧ bytesOf toks = cstr src ∧ stripAnsi src flag = .ok (toks.flatMap (keepTok flag)) := by
  obtain ⟨toks, hwf, hbytes⟩ := exists_lexing (cstr src)
  have hrun := run_toks flag toks hwf (by rw [hbytes]; exact cstr_nonzero src)
  rw [hbytes, run_cstr] at hrun
  exact ⟨toks, hwf, hbytes, by rw [stripAnsi_eq_run src flag hb, hrun]⟩

end PttVerif.C18
