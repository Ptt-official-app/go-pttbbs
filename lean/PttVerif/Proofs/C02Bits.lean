import PttVerif.Model.C02
import PttVerif.Model.C02Spec
/-
C02 — arithmetic on bits that the DES chain shares: supports; maps that only move bits (masks, shifts, `Spec.permF`,
`Spec.revBits`); xor-additive functions, which are determined by their values at the powers of two; packed fields and
Horner digits.
-/
namespace PttVerif.C02.Lin
open PttVerif.C02

/-- the set bits of `x` are among those of `s`. -/
def Sub (x s : Nat) : Prop := ∀ i, x.testBit i = true → s.testBit i = true

theorem sub_trans {x s t : Nat} (h : Sub x s) (h' : Sub s t) : Sub x t := fun i hi => h' i (h i hi)

theorem sub_zero (s : Nat) : Sub 0 s := by intro i h; simp at h

theorem sub_or {a b sa sb : Nat} (ha : Sub a sa) (hb : Sub b sb) : Sub (a ||| b) (sa ||| sb) := by
  intro i h
  rw [Nat.testBit_or, Bool.or_eq_true] at h ⊢
  exact h.imp (ha i) (hb i)

theorem sub_xor {a b sa sb : Nat} (ha : Sub a sa) (hb : Sub b sb) : Sub (a ^^^ b) (sa ||| sb) := by
  refine sub_trans (fun i h => ?_) (sub_or ha hb)
  rw [Nat.testBit_xor] at h
  rw [Nat.testBit_or]
  revert h
  cases a.testBit i <;> cases b.testBit i <;> decide

theorem or_eq_xor {a b sa sb : Nat} (ha : Sub a sa) (hb : Sub b sb) (hd : sa &&& sb = 0) : a ||| b = a ^^^ b := by
  apply Nat.eq_of_testBit_eq
  intro i
  rw [Nat.testBit_or, Nat.testBit_xor]
  have := congrArg (·.testBit i) hd
  simp only [Nat.testBit_and, Nat.zero_testBit] at this
  cases h1 : a.testBit i <;> cases h2 : b.testBit i <;> simp
  rw [ha i h1, hb i h2] at this
  simp at this

theorem sub_of_lt {x k : Nat} (h : x < 2 ^ k) : Sub x (2 ^ k - 1) := by
  intro i hi
  rw [Nat.testBit_two_pow_sub_one, decide_eq_true_eq]
  apply Nat.lt_of_not_le
  intro hn
  rw [Nat.testBit_lt_two_pow (Nat.lt_of_lt_of_le h (Nat.pow_le_pow_right (by decide) hn))] at hi
  cases hi

theorem sub_le {x s : Nat} (h : Sub x s) : x ≤ s := by
  have : x &&& s = x := by
    apply Nat.eq_of_testBit_eq
    intro i
    rw [Nat.testBit_and]
    cases hx : x.testBit i with
    | false => simp
    | true => simp [h i hx]
  rw [← this]; exact Nat.and_le_right

/-! ### maps that only move bits

`f` moves bits when bit `j` of `f a` is bit `π j` of `a`, or clear where `c j` fails: masks, shifts, selection tables
and bit reversal all do.  Such a map is monotone in the support and distributes over xor and or. -/

theorem moves_sub {f : Nat → Nat} {c : Nat → Bool} {π : Nat → Nat}
    (hf : ∀ a j, (f a).testBit j = (c j && a.testBit (π j))) {a sa : Nat} (h : Sub a sa) : Sub (f a) (f sa) := by
  intro j hj
  rw [hf, Bool.and_eq_true] at hj ⊢
  exact ⟨hj.1, h _ hj.2⟩

theorem moves_xor {f : Nat → Nat} {c : Nat → Bool} {π : Nat → Nat}
    (hf : ∀ a j, (f a).testBit j = (c j && a.testBit (π j))) (a b : Nat) : f (a ^^^ b) = f a ^^^ f b := by
  apply Nat.eq_of_testBit_eq
  intro j
  rw [Nat.testBit_xor, hf, hf, hf, Nat.testBit_xor, Bool.and_xor_distrib_left]

theorem moves_or {f : Nat → Nat} {c : Nat → Bool} {π : Nat → Nat}
    (hf : ∀ a j, (f a).testBit j = (c j && a.testBit (π j))) (a b : Nat) : f (a ||| b) = f a ||| f b := by
  apply Nat.eq_of_testBit_eq
  intro j
  rw [Nat.testBit_or, hf, hf, hf, Nat.testBit_or, Bool.and_or_distrib_left]

theorem shl_testBit (n a j : Nat) :
    (shl a n).testBit j = ((decide (j < 32) && decide (j ≥ n)) && a.testBit (j - n)) := by
  unfold shl w32
  rw [show (4294967296 : Nat) = 2 ^ 32 from rfl, Nat.testBit_mod_two_pow, Nat.testBit_shiftLeft, Bool.and_assoc]

theorem shl_lt (a n : Nat) : shl a n < 2 ^ 32 := Nat.mod_lt _ (by decide)

/-! ### xor-additive functions on `N`-bit inputs -/

theorem two_pow_xor (n y : Nat) (h : y < 2 ^ n) : 2 ^ n ^^^ y = 2 ^ n + y := by
  have := Nat.two_pow_add_eq_or_of_lt h 1
  simp only [Nat.mul_one] at this
  rw [this]
  symm
  apply or_eq_xor (sa := 2 ^ n) (sb := 2 ^ n - 1) (fun _ h => h) (sub_of_lt h)
  apply Nat.eq_of_testBit_eq
  intro i
  rw [Nat.testBit_and, Nat.testBit_two_pow, Nat.testBit_two_pow_sub_one]
  by_cases h : n = i <;> simp [h]

theorem lt_or_two_pow_xor {n x : Nat} (hx : x < 2 ^ (n + 1)) : x < 2 ^ n ∨ ∃ y, y < 2 ^ n ∧ x = 2 ^ n ^^^ y := by
  rw [Nat.pow_succ] at hx
  by_cases h : x < 2 ^ n
  · exact Or.inl h
  · exact Or.inr ⟨x - 2 ^ n, by omega, by rw [two_pow_xor n _ (by omega)]; omega⟩

/-- additivity on `N`-bit inputs follows from its instances at the powers of two. -/
theorem additive_of_basis (f : Nat → Nat) (N : Nat) (h0 : f 0 = 0)
    (h : ∀ k, k < N → ∀ y, y < 2 ^ k → f (2 ^ k ^^^ y) = f (2 ^ k) ^^^ f y) :
    ∀ n, n ≤ N → ∀ i j, i < 2 ^ n → j < 2 ^ n → f (i ^^^ j) = f i ^^^ f j := by
  intro n
  induction n with
  | zero =>
    intro _ i j hi hj
    have hi : i = 0 := by simpa using hi
    have hj : j = 0 := by simpa using hj
    rw [hi, hj, Nat.xor_self, h0, Nat.xor_self]
  | succ n ih =>
    intro hn i j hi hj
    have ih := ih (by omega)
    have hk := h n (by omega)
    rcases lt_or_two_pow_xor hi with hi' | ⟨i', hi', rfl⟩ <;> rcases lt_or_two_pow_xor hj with hj' | ⟨j', hj', rfl⟩
    · exact ih i j hi' hj'
    · rw [show i ^^^ (2 ^ n ^^^ j') = 2 ^ n ^^^ (i ^^^ j') by ac_rfl, hk _ (Nat.xor_lt_two_pow hi' hj'),
        ih i j' hi' hj', hk j' hj']
      ac_rfl
    · rw [Nat.xor_assoc, hk _ (Nat.xor_lt_two_pow hi' hj'), ih i' j hi' hj', hk i' hi', Nat.xor_assoc]
    · rw [show 2 ^ n ^^^ i' ^^^ (2 ^ n ^^^ j') = (2 ^ n ^^^ 2 ^ n) ^^^ (i' ^^^ j') by ac_rfl, Nat.xor_self,
        Nat.zero_xor, hk i' hi', hk j' hj', ih i' j' hi' hj',
        show f (2 ^ n) ^^^ f i' ^^^ (f (2 ^ n) ^^^ f j') = (f (2 ^ n) ^^^ f (2 ^ n)) ^^^ (f i' ^^^ f j') by ac_rfl,
        Nat.xor_self, Nat.zero_xor]

theorem lin_ext (N : Nat) (f g : Nat → Nat)
    (hf : ∀ x y, x < 2 ^ N → y < 2 ^ N → f (x ^^^ y) = f x ^^^ f y)
    (hg : ∀ x y, x < 2 ^ N → y < 2 ^ N → g (x ^^^ y) = g x ^^^ g y)
    (hb : ∀ i, i < N → f (2 ^ i) = g (2 ^ i)) : ∀ x, x < 2 ^ N → f x = g x := by
  have f0 : f 0 = 0 := by have := hf 0 0 (Nat.two_pow_pos N) (Nat.two_pow_pos N); simpa using this
  have g0 : g 0 = 0 := by have := hg 0 0 (Nat.two_pow_pos N) (Nat.two_pow_pos N); simpa using this
  have gen : ∀ n, n ≤ N → ∀ x, x < 2 ^ n → f x = g x := by
    intro n
    induction n with
    | zero => intro _ x hx; have : x = 0 := by simpa using hx
              subst this; rw [f0, g0]
    | succ n ih =>
      intro hn x hx
      rcases lt_or_two_pow_xor hx with hlt | ⟨y, hy, rfl⟩
      · exact ih (by omega) x hlt
      · have l1 : 2 ^ n < 2 ^ N := Nat.pow_lt_pow_right (by decide) (by omega)
        have l2 : y < 2 ^ N := Nat.lt_of_lt_of_le hy (Nat.pow_le_pow_right (by decide) (by omega))
        rw [hf _ _ l1 l2, hg _ _ l1 l2, hb n (by omega), ih (by omega) _ hy]
  exact gen N (Nat.le_refl N)

/-! ### two fields packed in one number -/

theorem pack_lt {m k A B : Nat} (hA : A < 2 ^ m) (hB : B < 2 ^ k) : A * 2 ^ k + B < 2 ^ (m + k) := by
  have := Nat.mul_le_mul_right (2 ^ k) (Nat.succ_le_of_lt hA)
  rw [Nat.succ_mul, ← Nat.pow_add] at this
  omega

theorem pack_hi (k A : Nat) {B : Nat} (hB : B < 2 ^ k) : (A * 2 ^ k + B) >>> k = A := by
  rw [Nat.shiftRight_eq_div_pow, Nat.mul_comm, Nat.mul_add_div (Nat.two_pow_pos k), Nat.div_eq_of_lt hB, Nat.add_zero]

theorem pack_lo (k A : Nat) {B : Nat} (hB : B < 2 ^ k) : (A * 2 ^ k + B) &&& (2 ^ k - 1) = B := by
  rw [Nat.and_two_pow_sub_one_eq_mod, Nat.mul_comm, Nat.mul_add_mod, Nat.mod_eq_of_lt hB]

/-! ### digits of a number given by Horner's rule; the bytes of a key block -/

theorem horner_lt (B : Nat) (g : Nat → Nat) (hg : ∀ b, g b < B) (n : Nat) :
    (List.range n).foldl (fun acc b => B * acc + g b) 0 < B ^ n := by
  induction n with
  | zero => exact Nat.one_pos
  | succ n ih =>
    rw [List.range_succ, List.foldl_append, List.foldl_cons, List.foldl_nil, Nat.pow_succ, Nat.mul_comm _ B]
    have := Nat.mul_le_mul_left B (Nat.succ_le_of_lt ih)
    have := hg n
    rw [Nat.mul_succ] at *
    omega

theorem horner_digit (B : Nat) (g : Nat → Nat) (hg : ∀ b, g b < B) :
    ∀ n b, b < n → (List.range n).foldl (fun acc b => B * acc + g b) 0 / B ^ (n - 1 - b) % B = g b := by
  intro n
  induction n with
  | zero => intro b hb; omega
  | succ n ih =>
    intro b hb
    rw [List.range_succ, List.foldl_append, List.foldl_cons, List.foldl_nil]
    by_cases h : b = n
    · subst h
      rw [show b + 1 - 1 - b = 0 by omega, Nat.pow_zero, Nat.div_one, Nat.mul_add_mod, Nat.mod_eq_of_lt (hg b)]
    · rw [show n + 1 - 1 - b = (n - 1 - b) + 1 by omega, Nat.pow_succ, Nat.mul_comm _ B, ← Nat.div_div_eq_div_mul,
        Nat.mul_add_div (Nat.zero_lt_of_lt (hg 0)), Nat.div_eq_of_lt (hg n), Nat.add_zero]
      exact ih b (by omega)

/-- the eight key bytes of a 64-bit key block, first byte most significant. -/
def bytesBE (K : Nat) : List Nat :=
  [(K >>> 56) &&& 0xff, (K >>> 48) &&& 0xff, (K >>> 40) &&& 0xff, (K >>> 32) &&& 0xff,
   (K >>> 24) &&& 0xff, (K >>> 16) &&& 0xff, (K >>> 8) &&& 0xff, (K >>> 0) &&& 0xff]

/-! ### bits shifted in one at a time: FIPS selection tables and bit reversal, bit by bit -/

theorem two_mul_add_testBit (a : Nat) (b : Bool) (j : Nat) :
    (2 * a + (if b then 1 else 0)).testBit j = if j = 0 then b else a.testBit (j - 1) := by
  have := Nat.testBit_two_pow_mul_add a (b := if b then 1 else 0) (i := 1) (by cases b <;> decide) j
  simp only [Nat.pow_one] at this
  rw [this]
  by_cases hj : j = 0
  · subst hj; cases b <;> simp
  · have : ¬ j < 1 := by omega
    simp [hj, this]

section
open Spec

/-- bits shifted in one by one, bit `t` of the list being `p t`: bit `j` of the result is the `j`-th from the end of
those shifted in; above them, the accumulator. -/
theorem foldl_testBit (p : Nat → Bool) (l : List Nat) : ∀ acc j,
    (l.foldl (fun acc t => 2 * acc + (if p t then 1 else 0)) acc).testBit j =
      if j < l.length then p (l.getD (l.length - 1 - j) 0) else acc.testBit (j - l.length) := by
  induction l with
  | nil => intro acc j; rfl
  | cons t ts ih =>
    intro acc j
    rw [List.foldl_cons, ih, List.length_cons]
    by_cases h1 : j < ts.length
    · rw [if_pos h1, if_pos (Nat.lt_succ_of_lt h1), show ts.length + 1 - 1 - j = (ts.length - 1 - j) + 1 by omega,
        List.getD_cons_succ]
    · rw [if_neg h1, two_mul_add_testBit]
      by_cases h2 : j = ts.length
      · subst h2
        simp
      · rw [if_neg (by omega), if_neg (by omega), show j - ts.length - 1 = j - (ts.length + 1) by omega]

theorem permF_testBit (tbl : List Nat) (n x j : Nat) :
    (permF tbl n x).testBit j = (decide (j < tbl.length) && x.testBit (n - tbl.getD (tbl.length - 1 - j) 0)) := by
  unfold permF
  rw [foldl_testBit (fbit n x)]
  by_cases h : j < tbl.length <;> simp [h, fbit]

theorem permF_or (tbl : List Nat) (n a b : Nat) : permF tbl n (a ||| b) = permF tbl n a ||| permF tbl n b :=
  moves_or (permF_testBit tbl n) a b

theorem permF_lt (tbl : List Nat) (n x : Nat) : permF tbl n x < 2 ^ tbl.length := by
  apply Nat.lt_pow_two_of_testBit
  intro j hj
  rw [permF_testBit, decide_eq_false (by omega), Bool.false_and]

theorem revBits_lt (n x : Nat) : revBits n x < 2 ^ n := by
  induction n generalizing x with
  | zero => simp [revBits]
  | succ n ih =>
    unfold revBits
    have := ih (x / 2)
    have h2 : x % 2 < 2 := Nat.mod_lt _ (by decide)
    rw [Nat.pow_succ]
    have : x % 2 * 2 ^ n ≤ 1 * 2 ^ n := Nat.mul_le_mul_right _ (by omega)
    omega

theorem revBits_testBit (n : Nat) : ∀ x j, (revBits n x).testBit j = (decide (j < n) && x.testBit (n - 1 - j)) := by
  induction n with
  | zero => intro x j; simp [revBits]
  | succ n ih =>
    intro x j
    unfold revBits
    rw [Nat.mul_comm, Nat.testBit_two_pow_mul_add _ (revBits_lt n _)]
    by_cases hj : j < n
    · rw [if_pos hj, ih, ← Nat.testBit_succ, show (n - 1 - j).succ = n + 1 - 1 - j by omega]
      simp [hj, Nat.lt_succ_of_lt hj]
    · rw [if_neg hj]
      by_cases hjn : j = n
      · subst hjn
        simp [Nat.testBit_zero]
      · have h1 : ¬ j < n + 1 := by omega
        have h2 : j - n = (j - n - 1) + 1 := by omega
        rw [h2, Nat.testBit_succ, Nat.mod_div_self]
        simp [h1]

theorem revBits_xor (n a b : Nat) : revBits n (a ^^^ b) = revBits n a ^^^ revBits n b :=
  moves_xor (revBits_testBit n) a b

theorem revBits_or (n a b : Nat) : revBits n (a ||| b) = revBits n a ||| revBits n b :=
  moves_or (revBits_testBit n) a b

end
end PttVerif.C02.Lin
