import PttVerif.Model.C17
/-
C17 — lemmas under the property theorems, and the definitions their statements are written with: each loop equals its
closed form (`b2uSpec`, `u2bSpec`), the hand encoder is the standard one on 0x80 … 0xFFFF, the Go map is "last row
wins", the parser returns the rows of a rendered UAO file.
-/
namespace PttVerif.C17
open PttVerif Std

/-! ### loops -/

theorem slice_zero {α} (a : List α) (n : Nat) (h : n ≤ a.length) : slice a 0 n = .ok (a.take n) := by
  rw [slice, if_pos ⟨Nat.zero_le _, h⟩]; rfl

theorem sliceFrom_ok {α} (a : List α) (n : Nat) (h : n ≤ a.length) : sliceFrom a n = .ok (a.drop n) := by
  rw [sliceFrom, slice, if_pos ⟨h, Nat.le_refl _⟩, List.take_length]

/-- both loops by one induction over the fuel; `hstep`: what an iteration has to do for `spec` to be the closed form. -/
theorem goFor_eq_spec (body : Bytes → Bytes → M Step) (spec : Bytes → Bytes) (hnil : spec [] = [])
    (hstep : ∀ p out, p ≠ [] →
      (∃ p' w, body p out = .ok (.next p' (out ++ w)) ∧ p'.length < p.length ∧ spec p = w ++ spec p') ∨
      (body p out = .ok (.stop out) ∧ spec p = [])) :
    ∀ (fuel : Nat) (p out : Bytes), p.length < fuel → goFor body fuel p out = .ok (out ++ spec p) := by
  intro fuel
  induction fuel with
  | zero => intro p out h; omega
  | succ n ih =>
    intro p out h
    cases p with
    | nil => rw [hnil, List.append_nil]; rfl
    | cons a rest =>
      rw [goFor, if_pos (show (a :: rest).length > 0 from Nat.zero_lt_succ _)]
      rcases hstep (a :: rest) out (List.cons_ne_nil _ _) with ⟨p', w, hb, hl, hs⟩ | ⟨hb, hs⟩
      · rw [hb, hs, ← List.append_assoc]
        exact ih p' _ (by omega)
      · rw [hb, hs, List.append_nil]

theorem b2uBody_cons (b2u : Table) (a : Nat) (rest out : Bytes) :
    b2uBody b2u (a :: rest) out =
      if a < 0x80 then .ok (.next rest (out ++ [a]))
      else match rest with
        | [] => .ok (.stop out)
        | b :: r => .ok (.next r (out ++ (b2u [a, b]).getD [])) := by
  have l2 (n : Nat) : ¬ n + 1 + 1 < 2 := by omega
  cases rest <;> simp [b2uBody, idx, sliceFrom, slice, bind, Except.bind, pure, Except.pure, l2]

@[simp] theorem b2uSpec_nil (b2u : Table) : b2uSpec b2u [] = [] := by rw [b2uSpec]
theorem b2uSpec_ascii (b2u : Table) (a : Nat) (rest : Bytes) (h : a < 0x80) :
    b2uSpec b2u (a :: rest) = a :: b2uSpec b2u rest := by
  rw [b2uSpec.eq_def]
  exact if_pos h
theorem b2uSpec_lone (b2u : Table) (a : Nat) (h : ¬ a < 0x80) : b2uSpec b2u [a] = [] := by
  rw [b2uSpec]; simp [h]
theorem b2uSpec_pair (b2u : Table) (a b : Nat) (rest : Bytes) (h : ¬ a < 0x80) :
    b2uSpec b2u (a :: b :: rest) = (b2u [a, b]).getD [] ++ b2uSpec b2u rest := by
  rw [b2uSpec]; simp [h]

theorem b2uBody_step (b2u : Table) (p out : Bytes) (hp : p ≠ []) :
    (∃ p' w, b2uBody b2u p out = .ok (.next p' (out ++ w)) ∧ p'.length < p.length ∧
      b2uSpec b2u p = w ++ b2uSpec b2u p') ∨
    (b2uBody b2u p out = .ok (.stop out) ∧ b2uSpec b2u p = []) := by
  match p, hp with
  | a :: rest, _ =>
    rw [b2uBody_cons]
    by_cases ha : a < 0x80
    · rw [if_pos ha]
      exact Or.inl ⟨rest, [a], rfl, Nat.lt_succ_self _, b2uSpec_ascii _ _ _ ha⟩
    · rw [if_neg ha]
      match rest with
      | [] => exact Or.inr ⟨rfl, b2uSpec_lone _ _ ha⟩
      | b :: r => exact Or.inl ⟨r, _, rfl, Nat.lt_succ_of_lt (Nat.lt_succ_self _), b2uSpec_pair _ _ _ _ ha⟩

theorem goFor_b2u (b2u : Table) (fuel : Nat) (p out : Bytes) (h : p.length < fuel) :
    goFor (b2uBody b2u) fuel p out = .ok (out ++ b2uSpec b2u p) :=
  goFor_eq_spec _ _ (b2uSpec_nil b2u) (b2uBody_step b2u) fuel p out h

theorem u2bBody_cons (u2b : Table) (c : Nat) (rest out : Bytes) :
    u2bBody u2b (c :: rest) out =
      if c < 0x80 then .ok (.next rest (out ++ [c]))
      else if rest.length ≥ 1 ∧ c &&& 0xe0 = 0xc0 then
        .ok (.next (rest.drop 1) (out ++ (u2b (c :: rest.take 1)).getD repl))
      else if rest.length ≥ 2 ∧ c &&& 0xf0 = 0xe0 then
        .ok (.next (rest.drop 2) (out ++ (u2b (c :: rest.take 2)).getD repl))
      else .ok (.next rest (out ++ repl)) := by
  have s1 : sliceFrom (c :: rest) 1 = .ok rest := sliceFrom_ok _ 1 (Nat.le_add_left _ _)
  have l2 : (c :: rest).length ≥ 2 ↔ rest.length ≥ 1 := Nat.succ_le_succ_iff
  have l3 : (c :: rest).length ≥ 3 ↔ rest.length ≥ 2 := Nat.succ_le_succ_iff
  unfold u2bBody
  simp only [l2, l3]
  by_cases h0 : c < 0x80
  · simp only [idx, List.getElem?_cons_zero, bind, Except.bind, pure, Except.pure, s1, if_pos h0]
  · simp only [idx, List.getElem?_cons_zero, bind, Except.bind, pure, Except.pure, s1, if_neg h0]
    by_cases h1 : rest.length ≥ 1 ∧ c &&& 0xe0 = 0xc0
    · rw [if_pos h1, if_pos h1, slice_zero _ 2 (l2.2 h1.1), sliceFrom_ok _ 2 (l2.2 h1.1)]
      rfl
    · rw [if_neg h1, if_neg h1]
      by_cases h2 : rest.length ≥ 2 ∧ c &&& 0xf0 = 0xe0
      · rw [if_pos h2, if_pos h2, slice_zero _ 3 (l3.2 h2.1), sliceFrom_ok _ 3 (l3.2 h2.1)]
        rfl
      · rw [if_neg h2, if_neg h2]

@[simp] theorem u2bSpec_nil (u2b : Table) : u2bSpec u2b [] = [] := by rw [u2bSpec]

theorem u2bSpec_ascii (u2b : Table) (c : Nat) (rest : Bytes) (h : c < 0x80) :
    u2bSpec u2b (c :: rest) = c :: u2bSpec u2b rest := by
  rw [u2bSpec, if_pos h]

/-- the branches of `u2bSpec` under the tests as the code writes them (masks, `rest.length`). -/
theorem u2bSpec_lead2 (u2b : Table) (c : Nat) (rest : Bytes) (h0 : ¬ c < 0x80)
    (h1 : rest.length ≥ 1 ∧ c &&& 0xe0 = 0xc0) :
    u2bSpec u2b (c :: rest) = (u2b (c :: rest.take 1)).getD repl ++ u2bSpec u2b (rest.drop 1) := by
  rw [u2bSpec, if_neg h0, if_pos h1]

theorem u2bSpec_lead3 (u2b : Table) (c : Nat) (rest : Bytes) (h0 : ¬ c < 0x80)
    (h1 : ¬ (rest.length ≥ 1 ∧ c &&& 0xe0 = 0xc0)) (h2 : rest.length ≥ 2 ∧ c &&& 0xf0 = 0xe0) :
    u2bSpec u2b (c :: rest) = (u2b (c :: rest.take 2)).getD repl ++ u2bSpec u2b (rest.drop 2) := by
  rw [u2bSpec, if_neg h0, if_neg h1, if_pos h2]

theorem u2bSpec_other (u2b : Table) (c : Nat) (rest : Bytes) (h0 : ¬ c < 0x80)
    (h1 : ¬ (rest.length ≥ 1 ∧ c &&& 0xe0 = 0xc0)) (h2 : ¬ (rest.length ≥ 2 ∧ c &&& 0xf0 = 0xe0)) :
    u2bSpec u2b (c :: rest) = repl ++ u2bSpec u2b rest := by
  rw [u2bSpec, if_neg h0, if_neg h1, if_neg h2]

theorem length_drop_cons {α} (c : α) (l : List α) (n : Nat) (h : n ≤ 2) :
    (l.drop n).length < (c :: l).length ∧ (c :: l).length ≤ (l.drop n).length + 3 := by
  rw [List.length_drop, List.length_cons]
  omega

theorem u2bBody_step (u2b : Table) (p out : Bytes) (hp : p ≠ []) :
    ∃ p' w, u2bBody u2b p out = .ok (.next p' (out ++ w)) ∧ p'.length < p.length ∧ p.length ≤ p'.length + 3 ∧
      u2bSpec u2b p = w ++ u2bSpec u2b p' := by
  match p, hp with
  | c :: rest, _ =>
    rw [u2bBody_cons]
    by_cases h0 : c < 0x80
    · rw [if_pos h0]
      exact ⟨rest, [c], rfl, Nat.lt_succ_self _, Nat.le_add_right _ 2, u2bSpec_ascii u2b c rest h0⟩
    · rw [if_neg h0]
      by_cases h1 : rest.length ≥ 1 ∧ c &&& 0xe0 = 0xc0
      · rw [if_pos h1]
        have hl := length_drop_cons c rest 1 (by decide)
        exact ⟨_, _, rfl, hl.1, hl.2, u2bSpec_lead2 u2b c rest h0 h1⟩
      · rw [if_neg h1]
        by_cases h2 : rest.length ≥ 2 ∧ c &&& 0xf0 = 0xe0
        · rw [if_pos h2]
          have hl := length_drop_cons c rest 2 (by decide)
          exact ⟨_, _, rfl, hl.1, hl.2, u2bSpec_lead3 u2b c rest h0 h1 h2⟩
        · rw [if_neg h2]
          exact ⟨rest, repl, rfl, Nat.lt_succ_self _, Nat.le_add_right _ 2, u2bSpec_other u2b c rest h0 h1 h2⟩

theorem goFor_u2b (u2b : Table) (fuel : Nat) (p out : Bytes) (h : p.length < fuel) :
    goFor (u2bBody u2b) fuel p out = .ok (out ++ u2bSpec u2b p) :=
  goFor_eq_spec _ _ (u2bSpec_nil u2b)
    (fun p out hp => by
      obtain ⟨p', w, hb, hl, _, hs⟩ := u2bBody_step u2b p out hp
      exact Or.inl ⟨p', w, hb, hl, hs⟩) fuel p out h

/-! ### the hand encoder of `initToUtf8` and the standard encoder -/

/-- `(2 ^ j - 1) * 2 ^ k` is `j` one-bits above `k` zero-bits: the form of the code's masks (0xF800, 0xe0, 0xf0). -/
theorem and_high_mask (c j k : Nat) (h : c / 2 ^ k < 2 ^ j) : c &&& ((2 ^ j - 1) * 2 ^ k) = c / 2 ^ k * 2 ^ k := by
  have hd : (c &&& ((2 ^ j - 1) * 2 ^ k)) / 2 ^ k = c / 2 ^ k := by
    rw [Nat.and_div_two_pow, Nat.mul_div_cancel _ (Nat.two_pow_pos k), Nat.and_two_pow_sub_one_of_lt_two_pow h]
  have hm : (c &&& ((2 ^ j - 1) * 2 ^ k)) % 2 ^ k = 0 := by
    rw [Nat.and_mod_two_pow, Nat.mul_mod_left, Nat.and_zero]
  have := Nat.div_add_mod' (c &&& ((2 ^ j - 1) * 2 ^ k)) (2 ^ k)
  rw [hd, hm] at this
  exact this.symm

theorem and_high_mask_eq_iff (c j k v : Nat) (h : c / 2 ^ k < 2 ^ j) :
    c &&& ((2 ^ j - 1) * 2 ^ k) = v * 2 ^ k ↔ v * 2 ^ k ≤ c ∧ c < (v + 1) * 2 ^ k := by
  rw [and_high_mask c j k h, Nat.mul_left_inj (Nat.ne_of_gt (Nat.two_pow_pos k)),
    ← Nat.le_div_iff_mul_le (Nat.two_pow_pos k), ← Nat.div_lt_iff_lt_mul (Nat.two_pow_pos k)]
  omega

theorem andF800 (cp : Nat) (h : cp < 0x10000) : (cp &&& 0xF800 = 0) ↔ cp < 0x800 := by
  -- 0xF800 = (2^5 - 1) * 2^11
  have := and_high_mask_eq_iff cp 5 11 0 (Nat.div_lt_of_lt_mul h)
  simpa using this

/-- marker bits `2^i * a` or-ed with a payload below `2^i` are their sum, and `byte()` changes nothing. -/
theorem or_mod_256 (i a x : Nat) (hx : x < 2 ^ i) (ha : 2 ^ i * a + 2 ^ i ≤ 256) :
    (2 ^ i * a ||| x) % 256 = 2 ^ i * a + x := by
  rw [← Nat.two_pow_add_eq_or_of_lt hx a]
  exact Nat.mod_eq_of_lt (by omega)

theorem shiftRight7_ne_zero (cp : Nat) (h : 0x80 ≤ cp) : ¬ cp >>> 7 = 0 := by
  rw [Nat.shiftRight_eq_div_pow]
  exact Nat.div_ne_zero_iff.2 ⟨by decide, h⟩

theorem cont_byte (x : Nat) : (0x80 ||| x &&& 0x3f) % 256 = 128 + x % 64 := by
  rw [show x &&& 0x3f = x % 64 from Nat.and_two_pow_sub_one_eq_mod x 6]
  exact or_mod_256 6 2 _ (Nat.mod_lt _ (by decide)) (by decide)       -- 0x80 = 2^6 * 2

theorem encodeUcs2_two (cp : Nat) (h1 : 0x80 ≤ cp) (h2 : cp < 0x800) :
    encodeUcs2 cp = [192 + cp / 64, 128 + cp % 64] := by
  have e0 : (0xc0 ||| cp >>> 6) % 256 = 192 + cp / 64 := by
    rw [Nat.shiftRight_eq_div_pow]
    exact or_mod_256 5 6 _ (Nat.div_lt_of_lt_mul h2) (by decide)      -- 0xc0 = 2^5 * 6
  rw [encodeUcs2, if_neg (shiftRight7_ne_zero cp h1), if_pos ((andF800 cp (by omega)).2 h2), e0, cont_byte]

theorem encodeUcs2_three (cp : Nat) (h1 : 0x800 ≤ cp) (h2 : cp < 0x10000) :
    encodeUcs2 cp = [224 + cp / 4096, 128 + cp / 64 % 64, 128 + cp % 64] := by
  have e0 : (0xE0 ||| cp >>> 12) % 256 = 224 + cp / 4096 := by
    rw [Nat.shiftRight_eq_div_pow]
    exact or_mod_256 4 14 _ (Nat.div_lt_of_lt_mul h2) (by decide)     -- 0xE0 = 2^4 * 14
  have e1 : cp >>> 6 = cp / 64 := Nat.shiftRight_eq_div_pow cp 6
  have hF : ¬ cp &&& 0xF800 = 0 := fun h => by
    have := (andF800 cp h2).1 h
    omega
  rw [encodeUcs2, if_neg (shiftRight7_ne_zero cp (by omega)), if_neg hF, e0, cont_byte, cont_byte, e1]

theorem utf8enc_two (cp : Nat) (h1 : 0x80 ≤ cp) (h2 : cp < 0x800) : utf8enc cp = [192 + cp / 64, 128 + cp % 64] := by
  unfold utf8enc; simp [show ¬ cp < 0x80 by omega, h2]
theorem utf8enc_three (cp : Nat) (h1 : 0x800 ≤ cp) (h2 : cp < 0x10000) :
    utf8enc cp = [224 + cp / 4096, 128 + cp / 64 % 64, 128 + cp % 64] := by
  unfold utf8enc; simp [show ¬ cp < 0x80 by omega, show ¬ cp < 0x800 by omega, h2]

theorem encodeUcs2_eq (cp : Nat) (h1 : 0x80 ≤ cp) (h2 : cp < 0x10000) : encodeUcs2 cp = utf8enc cp := by
  by_cases a : cp < 0x800
  · rw [encodeUcs2_two cp h1 a, utf8enc_two cp h1 a]
  · rw [encodeUcs2_three cp (by omega) h2, utf8enc_three cp (by omega) h2]

theorem digits64 (n : Nat) : (n / 4096 * 64 + n / 64 % 64) * 64 + n % 64 = n := by
  have e : n / 4096 = n / 64 / 64 := (Nat.div_div_eq_div_mul n 64 64).symm
  rw [e, Nat.div_add_mod' (n / 64) 64, Nat.div_add_mod' n 64]

theorem utf8enc_injective (cp cp' : Nat) (h1 : 0x80 ≤ cp) (h2 : cp < 0x10000) (h1' : 0x80 ≤ cp') (h2' : cp' < 0x10000)
    (e : utf8enc cp = utf8enc cp') : cp = cp' := by
  by_cases a : cp < 0x800 <;> by_cases a' : cp' < 0x800
  · rw [utf8enc_two cp h1 a, utf8enc_two cp' h1' a'] at e
    simp only [List.cons.injEq, and_true] at e
    rw [← Nat.div_add_mod' cp 64, ← Nat.div_add_mod' cp' 64, Nat.add_left_cancel e.1, Nat.add_left_cancel e.2]
  · rw [utf8enc_two cp h1 a, utf8enc_three cp' (by omega) h2'] at e
    exact absurd (congrArg List.length e) (by decide : (2 : Nat) ≠ 3)
  · rw [utf8enc_three cp (by omega) h2, utf8enc_two cp' h1' a'] at e
    exact absurd (congrArg List.length e) (by decide : (3 : Nat) ≠ 2)
  · rw [utf8enc_three cp (by omega) h2, utf8enc_three cp' (by omega) h2'] at e
    simp only [List.cons.injEq, and_true] at e
    rw [← digits64 cp, ← digits64 cp', Nat.add_left_cancel e.1, Nat.add_left_cancel e.2.1, Nat.add_left_cancel e.2.2]

/-! ### well-formed UTF-8 -/

theorem isCont_add_mod64 (x : Nat) : isCont (128 + x % 64) = true := by
  simp [isCont]; omega

theorem validUtf8_ascii (a : Nat) (rest : Bytes) (h : a < 0x80) : validUtf8 (a :: rest) = validUtf8 rest := by
  rw [validUtf8.eq_def]
  exact if_pos h

theorem validUtf8_two (a b : Nat) (r : Bytes) (h : 0xC2 ≤ a ∧ a ≤ 0xDF) :
    validUtf8 (a :: b :: r) = (isCont b && validUtf8 r) := by
  rw [validUtf8, if_neg (by omega), if_pos h]

theorem validUtf8_three (a b c : Nat) (r : Bytes) (h : 0xE0 ≤ a ∧ a ≤ 0xEF) :
    validUtf8 (a :: b :: c :: r) =
      (isCont b && isCont c && (a != 0xE0 || decide (0xA0 ≤ b)) && (a != 0xED || decide (b ≤ 0x9F)) && validUtf8 r) := by
  rw [validUtf8, if_neg (by omega), if_neg (by omega), if_pos h]

theorem validUtf8_four (a b c d : Nat) (r : Bytes) (h : 0xF0 ≤ a ∧ a ≤ 0xF4) :
    validUtf8 (a :: b :: c :: d :: r) =
      (isCont b && isCont c && isCont d && (a != 0xF0 || decide (0x90 ≤ b)) && (a != 0xF4 || decide (b ≤ 0x8F)) &&
        validUtf8 r) := by
  rw [validUtf8, if_neg (by omega), if_neg (by omega), if_neg (by omega), if_pos h]

/-- the shape of `validUtf8`'s range conditions on the second byte. -/
theorem bne_or_decide (a k : Nat) (p : Prop) [Decidable p] (h : a = k → p) : (a != k || decide p) = true := by
  by_cases e : a = k
  · simp [h e]
  · simp [e]

/-- an encoded surrogate is ED A0..BF xx: the second byte is above 9F. -/
theorem validUtf8_surrogate (cp : Nat) (hs : isSurrogate cp = true) : validUtf8 (utf8enc cp) = false := by
  have hs' : 0xD800 ≤ cp ∧ cp ≤ 0xDFFF := by simpa [isSurrogate] using hs
  have f : cp / 4096 = 13 ∧ ¬ (128 + cp / 64 % 64 ≤ 0x9F) := by omega
  rw [utf8enc_three cp (by omega) (by omega), f.1, validUtf8_three _ _ _ _ (by decide), decide_eq_false f.2]
  simp

theorem validUtf8_append (a b : Bytes) (ha : validUtf8 a = true) (hb : validUtf8 b = true) :
    validUtf8 (a ++ b) = true := by
  -- cases 3, 5, 7: a 2-, 3-, 4-byte lead with all its bytes there; 4, 6, 8: the same lead with too few bytes behind
  -- it, 9: no lead at all — there `validUtf8 a` is `false`
  fun_induction validUtf8 a with
  | case1 => exact hb
  | case2 a rest h ih => rw [List.cons_append, validUtf8_ascii _ _ h]; exact ih ha
  | case3 a _ h b r ih =>
    rw [Bool.and_eq_true] at ha
    rw [List.cons_append, List.cons_append, validUtf8_two _ _ _ h, ha.1, ih ha.2]; rfl
  | case5 a _ _ h b c r ih =>
    rw [Bool.and_eq_true] at ha
    rw [List.cons_append, List.cons_append, List.cons_append, validUtf8_three _ _ _ _ h, ha.1, ih ha.2]; rfl
  | case7 a _ _ _ h b c d r ih =>
    rw [Bool.and_eq_true] at ha
    rw [List.cons_append, List.cons_append, List.cons_append, List.cons_append, validUtf8_four _ _ _ _ _ h, ha.1,
      ih ha.2]; rfl
  | case4 | case6 | case8 | case9 => cases ha

/-- every value of the table is well-formed UTF-8. -/
def TableValid (t : Table) : Prop := ∀ k v, t k = some v → validUtf8 v = true

theorem b2uSpec_valid (b2u : Table) (hT : TableValid b2u) (s : Bytes) : validUtf8 (b2uSpec b2u s) = true := by
  fun_induction b2uSpec b2u s with
  | case1 => rfl
  | case2 a rest h ih => rw [validUtf8_ascii _ _ h]; exact ih
  | case3 a h => rfl
  | case4 a h b r ih =>
    apply validUtf8_append _ _ _ ih
    cases hv : b2u [a, b] with
    | none => rfl
    | some v => exact hT _ _ hv

/-! ### the UTF-8 scanner by kind of first byte -/

/-- the code's lead tests as byte ranges: 0xe0 = (2^3 - 1) * 2^5, 0xc0 = 6 * 2^5; 0xf0 = (2^4 - 1) * 2^4, 0xe0 = 14 * 2^4 -/
theorem lead2_iff (c : Nat) (h : c < 256) : c &&& 0xe0 = 0xc0 ↔ (0xC0 ≤ c ∧ c < 0xE0) :=
  and_high_mask_eq_iff c 3 5 6 (Nat.div_lt_of_lt_mul h)

theorem lead3_iff (c : Nat) (h : c < 256) : c &&& 0xf0 = 0xe0 ↔ (0xE0 ≤ c ∧ c < 0xF0) :=
  and_high_mask_eq_iff c 4 4 14 (Nat.div_lt_of_lt_mul h)

theorem u2bSpec_two (u2b : Table) (c d : Nat) (rest : Bytes) (h1 : 0xC0 ≤ c) (h2 : c < 0xE0) :
    u2bSpec u2b (c :: d :: rest) = (u2b [c, d]).getD repl ++ u2bSpec u2b rest :=
  u2bSpec_lead2 u2b c (d :: rest) (by omega) ⟨Nat.le_add_left _ _, (lead2_iff c (by omega)).2 ⟨h1, h2⟩⟩

theorem u2bSpec_three (u2b : Table) (c d e : Nat) (rest : Bytes) (h1 : 0xE0 ≤ c) (h2 : c < 0xF0) :
    u2bSpec u2b (c :: d :: e :: rest) = (u2b [c, d, e]).getD repl ++ u2bSpec u2b rest :=
  u2bSpec_lead3 u2b c (d :: e :: rest) (by omega) (fun h => by have := (lead2_iff c (by omega)).1 h.2; omega)
    ⟨Nat.le_add_left _ _, (lead3_iff c (by omega)).2 ⟨h1, h2⟩⟩

/-- a byte that is neither ASCII nor a 2- or 3-byte lead: continuation bytes 80..BF and F0..FF. -/
theorem u2bSpec_bad (u2b : Table) (c : Nat) (rest : Bytes) (h : (0x80 ≤ c ∧ c < 0xC0) ∨ (0xF0 ≤ c ∧ c < 256)) :
    u2bSpec u2b (c :: rest) = repl ++ u2bSpec u2b rest :=
  u2bSpec_other u2b c rest (by omega) (fun h' => by have := (lead2_iff c (by omega)).1 h'.2; omega)
    (fun h' => by have := (lead3_iff c (by omega)).1 h'.2; omega)

theorem u2bSpec_trunc2 (u2b : Table) (c : Nat) (h1 : 0xC0 ≤ c) (h2 : c < 0xE0) :
    u2bSpec u2b [c] = repl := by
  rw [u2bSpec_other u2b c [] (by omega) (fun h' => by cases h'.1) (fun h' => by cases h'.1), u2bSpec_nil]
  rfl

theorem u2bSpec_trunc3 (u2b : Table) (c : Nat) (rest : Bytes) (h1 : 0xE0 ≤ c) (h2 : c < 0xF0) (hr : rest.length < 2) :
    u2bSpec u2b (c :: rest) = repl ++ u2bSpec u2b rest :=
  u2bSpec_other u2b c rest (by omega) (fun h' => by have := (lead2_iff c (by omega)).1 h'.2; omega)
    (fun h' => by omega)

theorem u2bSpec_utf8enc (u2b : Table) (cp : Nat) (rest : Bytes) (h1 : 0x80 ≤ cp) (h2 : cp < 0x10000) :
    u2bSpec u2b (utf8enc cp ++ rest) = (u2b (utf8enc cp)).getD repl ++ u2bSpec u2b rest := by
  by_cases a : cp < 0x800
  · rw [utf8enc_two cp h1 a]
    exact u2bSpec_two u2b _ _ rest (Nat.le_add_right _ _)
      (show 192 + cp / 64 < 192 + 32 from Nat.add_lt_add_left (Nat.div_lt_of_lt_mul a) 192)
  · rw [utf8enc_three cp (by omega) h2]
    exact u2bSpec_three u2b _ _ _ rest (Nat.le_add_right _ _)
      (show 224 + cp / 4096 < 224 + 16 from Nat.add_lt_add_left (Nat.div_lt_of_lt_mul h2) 224)

/-! ### unit boundaries: the scanners are compositional -/

/-- `pre` ends at a unit boundary of the Big5 scanner (no lead byte left dangling at the end). -/
def b2uAligned : Bytes → Bool
  | [] => true
  | a :: rest =>
    if a < 0x80 then b2uAligned rest
    else match rest with
      | [] => false
      | _ :: r => b2uAligned r

/-- `pre` ends at a unit boundary of the UTF-8 scanner: every 2- or 3-byte lead has its bytes inside `pre`. -/
def u2bAligned : Bytes → Bool
  | [] => true
  | c :: rest =>
    if c < 0x80 then u2bAligned rest
    else if c &&& 0xe0 = 0xc0 then decide (rest.length ≥ 1) && u2bAligned (rest.drop 1)
    else if c &&& 0xf0 = 0xe0 then decide (rest.length ≥ 2) && u2bAligned (rest.drop 2)
    else u2bAligned rest
termination_by s => s.length
decreasing_by all_goals (simp; try omega)

theorem b2uAligned_cons (a : Nat) (rest : Bytes) : b2uAligned (a :: rest) =
    if a < 0x80 then b2uAligned rest
    else match rest with
      | [] => false
      | _ :: r => b2uAligned r := by
  conv => lhs; rw [b2uAligned.eq_def]
  rfl

theorem b2uSpec_append (b2u : Table) (pre post : Bytes) (h : b2uAligned pre = true) :
    b2uSpec b2u (pre ++ post) = b2uSpec b2u pre ++ b2uSpec b2u post := by
  fun_induction b2uAligned pre with
  | case1 => rfl
  | case2 a r ha ih => rw [List.cons_append, b2uSpec_ascii _ _ _ ha, b2uSpec_ascii _ _ _ ha, ih h]; rfl
  | case3 a ha => cases h
  | case4 a ha b r ih =>
    rw [List.cons_append, List.cons_append, b2uSpec_pair _ _ _ _ ha, b2uSpec_pair _ _ _ _ ha, ih h, List.append_assoc]

theorem u2bAligned_cons (c : Nat) (rest : Bytes) : u2bAligned (c :: rest) =
    if c < 0x80 then u2bAligned rest
    else if c &&& 0xe0 = 0xc0 then decide (rest.length ≥ 1) && u2bAligned (rest.drop 1)
    else if c &&& 0xf0 = 0xe0 then decide (rest.length ≥ 2) && u2bAligned (rest.drop 2)
    else u2bAligned rest := by
  rw [u2bAligned]

theorem u2bSpec_append (u2b : Table) (pre post : Bytes) (h : u2bAligned pre = true) :
    u2bSpec u2b (pre ++ post) = u2bSpec u2b pre ++ u2bSpec u2b post := by
  fun_induction u2bAligned pre with
  | case1 => rw [u2bSpec_nil]; rfl
  | case2 c r h0 ih => rw [List.cons_append, u2bSpec_ascii _ _ _ h0, u2bSpec_ascii _ _ _ h0, ih h]; rfl
  | case3 c r h0 h1 ih =>
    rw [Bool.and_eq_true, decide_eq_true_eq] at h
    have hl : (r ++ post).length ≥ 1 := by rw [List.length_append]; omega
    rw [List.cons_append, u2bSpec_lead2 _ _ _ h0 ⟨hl, h1⟩, u2bSpec_lead2 _ _ _ h0 ⟨h.1, h1⟩,
      List.take_append_of_le_length h.1, List.drop_append_of_le_length h.1, ih h.2, List.append_assoc]
  | case4 c r h0 h1 h2 ih =>
    rw [Bool.and_eq_true, decide_eq_true_eq] at h
    have hl : (r ++ post).length ≥ 2 := by rw [List.length_append]; omega
    rw [List.cons_append, u2bSpec_lead3 _ _ _ h0 (fun x => h1 x.2) ⟨hl, h2⟩,
      u2bSpec_lead3 _ _ _ h0 (fun x => h1 x.2) ⟨h.1, h2⟩, List.take_append_of_le_length h.1,
      List.drop_append_of_le_length h.1, ih h.2, List.append_assoc]
  | case5 c r h0 h1 h2 ih =>
    rw [List.cons_append, u2bSpec_other _ _ _ h0 (fun x => h1 x.2) (fun x => h2 x.2),
      u2bSpec_other _ _ _ h0 (fun x => h1 x.2) (fun x => h2 x.2), ih h, List.append_assoc]

/-! ### the Go map: the last row of a key wins -/

theorem foldl_insert_get (kf vf : Row → Bytes) (rows : List Row) (m0 : GoMap) (k : Bytes) :
    (rows.foldl (fun m r => m.insert (kf r) (vf r)) m0)[k]? =
      ((rows.reverse.find? (fun r => kf r == k)).map vf).or m0[k]? := by
  induction rows generalizing m0 with
  | nil => rfl
  | cons r rs ih =>
    rw [List.foldl_cons, ih, List.reverse_cons, List.find?_append, HashMap.getElem?_insert]
    cases rs.reverse.find? (fun r => kf r == k) with
    | some r' => rfl
    | none => by_cases hk : kf r == k <;> simp [hk]

/-- the code point of the last row with Big5 key `k` (a later row overwrites an earlier one). -/
def lastByKey (rows : List Row) (k : Bytes) : Option Nat :=
  (rows.reverse.find? (fun r => r.1 == k)).map (·.2)

/-- the Big5 bytes of the last row whose code point encodes to `u`. -/
def lastByUtf8 (rows : List Row) (u : Bytes) : Option Bytes :=
  (rows.reverse.find? (fun r => encodeUcs2 r.2 == u)).map (·.1)

/-- the Big5 bytes of the last row with code point `cp`: on well-formed rows, `lastByUtf8` at the encoding of `cp`. -/
def lastByCp (rows : List Row) (cp : Nat) : Option Bytes :=
  (rows.reverse.find? (fun r => r.2 == cp)).map (·.1)

theorem mem_of_find?_reverse {α} (l : List α) (p : α → Bool) (r : α) (h : l.reverse.find? p = some r) :
    r ∈ l ∧ p r = true :=
  ⟨List.mem_reverse.1 (List.mem_of_find?_eq_some h), List.find?_some h⟩

theorem lastByKey_mem (rows : List Row) (k : Bytes) (cp : Nat) (h : lastByKey rows k = some cp) :
    (k, cp) ∈ rows := by
  obtain ⟨r, hf, e⟩ := Option.map_eq_some_iff.1 h
  obtain ⟨hm, hp⟩ := mem_of_find?_reverse rows _ r hf
  rw [← eq_of_beq hp, ← e]
  exact hm

theorem lastByUtf8_mem (rows : List Row) (u k : Bytes) (h : lastByUtf8 rows u = some k) :
    ∃ cp, (k, cp) ∈ rows ∧ encodeUcs2 cp = u := by
  obtain ⟨r, hf, e⟩ := Option.map_eq_some_iff.1 h
  obtain ⟨hm, hp⟩ := mem_of_find?_reverse rows _ r hf
  exact ⟨r.2, by rw [← e]; exact hm, eq_of_beq hp⟩

theorem key_unique_of_nodup (rows : List Row) (hn : (rows.map (·.1)).Nodup) :
    ∀ r ∈ rows, ∀ r' ∈ rows, r.1 = r'.1 → r = r' := by
  have h := List.pairwise_map.1 hn
  -- the same row; two rows in list order; two rows in the opposite order
  exact List.Pairwise.forall_of_forall_of_flip (fun _ _ _ => rfl) (h.imp fun n e => absurd e n)
    (h.imp fun n e => absurd e.symm n)

theorem wfB2URow_iff (r : Row) : wfB2URow r = true ↔
    (r.1.length = 2 ∧ 0x80 ≤ r.1.headD 0 ∧ 0x80 ≤ r.2 ∧ r.2 < 0x10000 ∧ isSurrogate r.2 = false) := by
  simp [wfB2URow, and_assoc]

theorem wfB2U_lastByKey (rows : List Row) (hwf : wfB2U rows = true) (k : Bytes) (cp : Nat)
    (h : lastByKey rows k = some cp) :
    k.length = 2 ∧ 0x80 ≤ k.headD 0 ∧ 0x80 ≤ cp ∧ cp < 0x10000 ∧ isSurrogate cp = false :=
  (wfB2URow_iff (k, cp)).1 (List.all_eq_true.1 hwf _ (lastByKey_mem rows k cp h))

theorem wfU2BRow_iff (r : Row) : wfU2BRow r = true ↔ (r.1.length = 2 ∧ 0x80 ≤ r.2 ∧ r.2 < 0x10000) := by
  simp [wfU2BRow, and_assoc]

theorem lastByUtf8_eq_lastByCp (rows : List Row) (hwf : wfU2B rows = true) (cp : Nat) (h1 : 0x80 ≤ cp) (h2 : cp < 0x10000) :
    lastByUtf8 rows (utf8enc cp) = lastByCp rows cp := by
  unfold lastByUtf8 lastByCp
  rw [← List.head?_filter, ← List.head?_filter, List.filter_congr]
  intro r hr
  have hw := (wfU2BRow_iff r).1 (List.all_eq_true.1 hwf _ (List.mem_reverse.1 hr))
  rw [encodeUcs2_eq r.2 hw.2.1 hw.2.2, Bool.eq_iff_iff, beq_iff_eq, beq_iff_eq]
  exact ⟨utf8enc_injective r.2 cp hw.2.1 hw.2.2 h1 h2, congrArg utf8enc⟩

/-! ### the table-file parser on files in the UAO format -/

/-! #### `strings.Split` -/

theorem splitAux_acc (sep : Nat) (s cur : Bytes) (acc : List Bytes) :
    splitAux sep s cur acc = acc.reverse ++ splitAux sep s cur [] := by
  induction s generalizing cur acc with
  | nil => simp [splitAux]
  | cons c cs ih =>
    simp only [splitAux]
    split
    · rw [ih [] (cur.reverse :: acc), ih [] [cur.reverse]]
      simp
    · exact ih (c :: cur) acc

theorem splitAux_run (sep : Nat) (l s cur : Bytes) (acc : List Bytes) (h : sep ∉ l) :
    splitAux sep (l ++ s) cur acc = splitAux sep s (l.reverse ++ cur) acc := by
  induction l generalizing cur with
  | nil => rfl
  | cons c cs ih =>
    rw [List.cons_append, splitAux, if_neg (List.ne_of_not_mem_cons h).symm, ih (c :: cur) (List.not_mem_of_not_mem_cons h)]
    simp

theorem split_piece (sep : Nat) (l s : Bytes) (h : sep ∉ l) : split sep (l ++ sep :: s) = l :: split sep s := by
  unfold split
  rw [splitAux_run sep l _ [] [] h, splitAux, if_pos rfl, splitAux_acc]
  simp

theorem split_last (sep : Nat) (l : Bytes) (h : sep ∉ l) : split sep l = [l] := by
  simpa [split, splitAux] using splitAux_run sep l [] [] [] h

theorem splitAux_ne_nil (sep : Nat) (s cur : Bytes) (acc : List Bytes) : splitAux sep s cur acc ≠ [] := by
  fun_induction splitAux sep s cur acc with
  | case1 => simp
  | case2 | case3 => assumption

theorem split_ne_nil (sep : Nat) (s : Bytes) : split sep s ≠ [] := splitAux_ne_nil sep s [] []

/-! #### the by-content tokenizer -/

theorem fieldsAux_acc (s cur : Bytes) (acc : List Bytes) : fieldsAux s cur acc = acc.reverse ++ fieldsAux s cur [] := by
  induction s generalizing cur acc with
  | nil => cases cur <;> simp [fieldsAux]
  | cons c cs ih =>
    simp only [fieldsAux]
    split
    · rw [ih [] (if cur.isEmpty then acc else cur.reverse :: acc), ih [] (if cur.isEmpty then [] else [cur.reverse])]
      cases cur <;> simp
    · exact ih (c :: cur) acc

theorem fieldsAux_run (l s cur : Bytes) (acc : List Bytes) (h : ∀ c ∈ l, isBlank c = false) :
    fieldsAux (l ++ s) cur acc = fieldsAux s (l.reverse ++ cur) acc := by
  induction l generalizing cur with
  | nil => rfl
  | cons c cs ih =>
    obtain ⟨hc, hcs⟩ := List.forall_mem_cons.1 h
    rw [List.cons_append, fieldsAux, hc, if_neg Bool.false_ne_true, ih (c :: cur) hcs]
    simp

theorem fields_piece (l s : Bytes) (b : Nat) (hl : ∀ c ∈ l, isBlank c = false) (hne : l ≠ []) (hb : isBlank b = true) :
    fields (l ++ b :: s) = l :: fields s := by
  unfold fields
  rw [fieldsAux_run l _ [] [] hl, fieldsAux, if_pos hb, fieldsAux_acc]
  cases l with
  | nil => exact absurd rfl hne
  | cons a as => simp

theorem rowByContent_two_fields (f0 f1 s : Bytes) (b0 b1 k cp : Nat)
    (h0 : ∀ c ∈ f0, isBlank c = false) (n0 : f0 ≠ []) (hb0 : isBlank b0 = true)
    (h1 : ∀ c ∈ f1, isBlank c = false) (n1 : f1 ≠ []) (hb1 : isBlank b1 = true)
    (hk : hexField f0 = some k) (hc : hexField f1 = some cp) :
    rowByContent (f0 ++ b0 :: (f1 ++ b1 :: s)) = some ([k / 256, k % 256], cp) := by
  simp [rowByContent, fields_piece f0 _ b0 h0 n0 hb0, fields_piece f1 _ b1 h1 n1 hb1, hk, hc]

/-! #### a rendered row -/

/-- upper-case hex digit. -/
def upHex (d : Nat) : Nat := if d < 10 then 48 + d else 55 + d

def hex4 (n : Nat) : Bytes := [upHex (n / 4096 % 16), upHex (n / 256 % 16), upHex (n / 16 % 16), upHex (n % 16)]

/-- a row of a UAO table file: `0xKKKK 0xCCCC`, optionally with a carriage return (the b2u file has CR LF). -/
def renderRow (k cp : Nat) (cr : Bool) : Bytes :=
  [48, 120] ++ hex4 k ++ [32, 48, 120] ++ hex4 cp ++ (if cr then [13] else [])

theorem upHex_facts : ∀ d, d < 16 → hexVal (upHex d) = some d ∧ isSpace (upHex d) = false := by
  decide

/-- a byte that `TrimSpace` keeps is none of the separators (the line feed, the loader's ' ', a blank of the
by-content rule): what is said of the bytes of a rendered field goes through `isSpace c = false`. -/
theorem not_sep_of_not_isSpace (c : Nat) (h : isSpace c = false) : c ≠ 10 ∧ c ≠ 32 ∧ isBlank c = false := by
  simp only [isSpace, Bool.or_eq_false_iff, beq_eq_false_iff_ne] at h
  simp only [isBlank, Bool.or_eq_false_iff, beq_eq_false_iff_ne]
  omega

theorem isSpace_hex4 (n c : Nat) (h : c ∈ hex4 n) : isSpace c = false := by
  simp only [hex4, List.mem_cons, List.not_mem_nil, or_false] at h
  rcases h with rfl | rfl | rfl | rfl
  all_goals exact (upHex_facts _ (Nat.mod_lt _ (by decide))).2

theorem isSpace_field (n c : Nat) (h : c ∈ 48 :: 120 :: hex4 n) : isSpace c = false := by
  simp only [List.mem_cons] at h
  rcases h with rfl | rfl | h
  · decide
  · decide
  · exact isSpace_hex4 n c h

theorem field_not_blank (n c : Nat) (h : c ∈ 48 :: 120 :: hex4 n) : isBlank c = false :=
  (not_sep_of_not_isSpace c (isSpace_field n c h)).2.2

theorem space_not_in_field (n : Nat) (tail : Bytes) (ht : ∀ c ∈ tail, c = 13) : 32 ∉ (48 :: 120 :: hex4 n) ++ tail := by
  intro h
  rcases List.mem_append.1 h with h | h
  · exact (not_sep_of_not_isSpace 32 (isSpace_field n 32 h)).2.1 rfl
  · cases ht 32 h

theorem renderRow_eq (k cp : Nat) (cr : Bool) :
    renderRow k cp cr = (48 :: 120 :: hex4 k) ++ 32 :: ((48 :: 120 :: hex4 cp) ++ if cr then [13] else []) := rfl

theorem cr_tail (cr : Bool) : ∀ c ∈ (if cr then [13] else []), c = 13 := by
  cases cr <;> simp

theorem newline_not_in_renderRow (k cp : Nat) (cr : Bool) : 10 ∉ renderRow k cp cr := by
  intro h
  rw [renderRow_eq] at h
  simp only [List.mem_append, List.mem_cons (a := 10) (b := 32)] at h
  rcases h with h | h | h | h
  · exact (not_sep_of_not_isSpace 10 (isSpace_field k 10 h)).1 rfl
  · cases h
  · exact (not_sep_of_not_isSpace 10 (isSpace_field cp 10 h)).1 rfl
  · cases cr_tail cr 10 h

theorem dropWhile_of_all_false {α} (p : α → Bool) (l : List α) (h : ∀ c ∈ l, p c = false) : l.dropWhile p = l := by
  cases l with
  | nil => rfl
  | cons a as => rw [List.dropWhile_cons, h a (by simp)]; rfl

theorem trimSpace_append_spaces (l tail : Bytes) (hl : ∀ c ∈ l, isSpace c = false) (ht : ∀ c ∈ tail, isSpace c = true) :
    trimSpace (l ++ tail) = l := by
  unfold trimSpace
  cases l with
  | nil =>
    have : tail.dropWhile isSpace = [] := by
      simpa using List.dropWhile_append_of_pos (l₂ := []) ht
    rw [List.nil_append, this]
    rfl
  | cons a as =>
    rw [List.cons_append, List.dropWhile_cons, hl a (by simp)]
    simp only [Bool.false_eq_true, if_false]
    rw [← List.cons_append, List.reverse_append,
      List.dropWhile_append_of_pos (fun c hc => ht c (List.mem_reverse.1 hc)),
      dropWhile_of_all_false _ _ (fun c hc => hl c (List.mem_reverse.1 hc)), List.reverse_reverse]

theorem hexVal_upHex (n : Nat) : hexVal (upHex (n % 16)) = some (n % 16) :=
  (upHex_facts _ (Nat.mod_lt _ (by decide))).1

theorem hi_digits (n : Nat) (h : n < 65536) : n / 4096 % 16 * 16 + n / 256 % 16 = n / 256 := by
  have e : n / 4096 = n / 256 / 16 := (Nat.div_div_eq_div_mul n 256 16).symm
  have l : n / 256 / 16 < 16 := Nat.div_lt_of_lt_mul (Nat.div_lt_of_lt_mul h)
  rw [e, Nat.mod_eq_of_lt l]
  exact Nat.div_add_mod' (n / 256) 16

theorem lo_digits (n : Nat) : n / 16 % 16 * 16 + n % 16 = n % 256 := by
  have e : n / 16 % 16 = n % 256 / 16 := (Nat.mod_mul_right_div_self n 16 16).symm
  have f : n % 16 = n % 256 % 16 := (Nat.mod_mod_of_dvd n ⟨16, rfl⟩).symm
  rw [e, f]
  exact Nat.div_add_mod' (n % 256) 16

theorem hexDecode2_hex4 (n : Nat) (h : n < 65536) : hexDecode2 (hex4 n) = .ok (some [n / 256, n % 256]) := by
  simp [hex4, hexDecode2, hexDecodeInto, hexVal_upHex, hi_digits n h, lo_digits n]

theorem hexField_hex4 (n : Nat) (h : n < 65536) : hexField (48 :: 120 :: hex4 n) = some n := by
  have e (a b c d : Nat) : a * 4096 + b * 256 + c * 16 + d = (a * 16 + b) * 256 + (c * 16 + d) := by omega
  simp only [hex4, hexField, hexVal_upHex, bind, Option.bind, pure]
  rw [e, hi_digits n h, lo_digits n, Nat.div_add_mod' n 256]

theorem initToBig5_hex4 (n : Nat) (h : n < 65536) : initToBig5 (hex4 n) = .ok (some [n / 256, n % 256]) := by
  have ht : trimSpace (hex4 n) = hex4 n := trimSpace_append_spaces (hex4 n) [] (isSpace_hex4 n) (by simp)
  rw [initToBig5, ht, hexDecode2_hex4 n h]

theorem initUcs2_hex4 (n : Nat) (h : n < 65536) (tail : Bytes) (ht : ∀ c ∈ tail, isSpace c = true) :
    initUcs2 (hex4 n ++ tail) = .ok (some n) := by
  rw [initUcs2, trimSpace_append_spaces (hex4 n) tail (isSpace_hex4 n) ht, hexDecode2_hex4 n h]
  simp only [bind, Except.bind, pure, Except.pure, Option.map_some, List.getD_cons_zero, List.getD_cons_succ]
  congr 2
  exact Nat.div_add_mod' n 256

theorem parseLine_two_fields (line x y big5 : Bytes) (a0 b0 a1 b1 cp : Nat)
    (hs : split 32 line = [a0 :: b0 :: x, a1 :: b1 :: y]) (hb : initToBig5 x = .ok (some big5))
    (hc : initUcs2 y = .ok (some cp)) : parseLine line = .ok (some (big5, cp)) := by
  simp [parseLine, hs, idx, sliceFrom, slice, hb, hc, bind, Except.bind, pure, Except.pure]

theorem parseLine_not_two_pieces (line : Bytes) (h : (split 32 line).length ≠ 2) : parseLine line = .ok none := by
  simp [parseLine, h, pure, Except.pure]

theorem parseLine_renderRow (k cp : Nat) (cr : Bool) (hk : k < 65536) (hc : cp < 65536) :
    parseLine (renderRow k cp cr) = .ok (some ([k / 256, k % 256], cp)) := by
  have h0 : 32 ∉ 48 :: 120 :: hex4 k := space_not_in_field k [] (by simp)
  apply parseLine_two_fields (renderRow k cp cr) (hex4 k) (hex4 cp ++ if cr then [13] else []) _ 48 120 48 120
  · rw [renderRow_eq, split_piece 32 _ _ h0, split_last 32 _ (space_not_in_field cp _ (cr_tail cr))]
    rfl
  · exact initToBig5_hex4 k hk
  · exact initUcs2_hex4 cp hc _ (fun c h => by rw [cr_tail cr c h]; rfl)

theorem parseLine_renderRow_extra (k cp : Nat) (cr : Bool) (rest : Bytes) :
    parseLine (renderRow k cp cr ++ 32 :: rest) = .ok none := by
  apply parseLine_not_two_pieces
  have h0 : 32 ∉ 48 :: 120 :: hex4 k := space_not_in_field k [] (by simp)
  rw [renderRow_eq, List.append_assoc, List.cons_append (a := 32), split_piece 32 _ _ h0,
    split_piece 32 _ _ (space_not_in_field cp _ (cr_tail cr))]
  have := List.length_pos_iff.2 (split_ne_nil 32 rest)
  simp only [List.length_cons]
  omega

theorem rowByContent_renderRow_extra (k cp : Nat) (cr : Bool) (hk : k < 65536) (hc : cp < 65536) (rest : Bytes) :
    rowByContent (renderRow k cp cr ++ 32 :: rest) = some ([k / 256, k % 256], cp) := by
  -- the second field ends at a blank either way: a CR in front of the ' ' is one more blank
  have e : renderRow k cp cr ++ 32 :: rest =
      (48 :: 120 :: hex4 k) ++ 32 :: ((48 :: 120 :: hex4 cp) ++
        (if cr then 13 else 32) :: (if cr then 32 :: rest else rest)) := by
    cases cr <;> rfl
  rw [e]
  exact rowByContent_two_fields _ _ _ 32 _ k cp (field_not_blank k) (List.cons_ne_nil _ _) rfl
    (field_not_blank cp) (List.cons_ne_nil _ _) (by cases cr <;> rfl) (hexField_hex4 k hk) (hexField_hex4 cp hc)

/-- a table file in the UAO format: a header line, then one rendered row per line, every line terminated. -/
def renderFile (header : Bytes) (rows : List (Nat × Nat)) (cr : Bool) : Bytes :=
  header ++ 10 :: (rows.map fun r => renderRow r.1 r.2 cr ++ [10]).flatten

def rowOf (r : Nat × Nat) : Row := ([r.1 / 256, r.1 % 256], r.2)

/-- below the header; the `none` is the empty piece behind the last line feed. -/
theorem mapM_parseLine_rows (rows : List (Nat × Nat)) (cr : Bool) (hr : ∀ r ∈ rows, r.1 < 65536 ∧ r.2 < 65536) :
    (split 10 (rows.map fun r => renderRow r.1 r.2 cr ++ [10]).flatten).mapM parseLine =
      .ok ((rows.map fun r => some (rowOf r)) ++ [none]) := by
  induction rows with
  | nil => rfl
  | cons r rs ih =>
    obtain ⟨h1, hr'⟩ := List.forall_mem_cons.1 hr
    rw [List.map_cons, List.flatten_cons, List.append_assoc, List.singleton_append,
      split_piece 10 _ _ (newline_not_in_renderRow r.1 r.2 cr), List.mapM_cons,
      parseLine_renderRow r.1 r.2 cr h1.1 h1.2, ih hr']
    rfl

/-! ### the loader as a state machine -/

theorem getElem?_of_size_zero (m : GoMap) (h : m.size = 0) (k : Bytes) : m[k]? = none :=
  HashMap.getElem?_of_isEmpty (by rw [HashMap.isEmpty_eq_size_eq_zero, h]; rfl)

theorem size_insert_pos (m : GoMap) (k v : Bytes) : 0 < (m.insert k v).size :=
  Nat.pos_of_ne_zero (beq_eq_false_iff_ne.1 (HashMap.isEmpty_eq_size_eq_zero.symm.trans HashMap.isEmpty_insert))

/-- the last row is inserted last. -/
theorem size_foldl_insert_pos (kf vf : Row → Bytes) (rows : List Row) (m : GoMap) (h : rows ≠ []) :
    0 < (rows.foldl (fun m r => m.insert (kf r) (vf r)) m).size := by
  rw [← List.dropLast_concat_getLast h, List.foldl_append]
  exact size_insert_pos _ _ _

theorem tableOf_foldl_insert (kf vf : Row → Bytes) (m0 : GoMap) (h : m0.size = 0) (rows : List Row) :
    tableOf (rows.foldl (fun m r => m.insert (kf r) (vf r)) m0) =
      tableOf (rows.foldl (fun m r => m.insert (kf r) (vf r)) ∅) := by
  funext k
  unfold tableOf
  rw [foldl_insert_get, foldl_insert_get, getElem?_of_size_zero m0 h]
  simp

theorem tableOf_u2bMapFrom (m0 : GoMap) (h : m0.size = 0) (rows : List Row) :
    tableOf (u2bMapFrom m0 rows) = tableOf (u2bMap rows) := tableOf_foldl_insert _ _ m0 h rows

theorem tableOf_b2uMapFrom (m0 : GoMap) (h : m0.size = 0) (rows : List Row) :
    tableOf (b2uMapFrom m0 rows) = tableOf (b2uMap rows) := tableOf_foldl_insert _ _ m0 h rows

theorem initB2U_false (fs : FS) (p : String) (st st' : Loader) (h : initB2U fs p st = .ok (st', false)) :
    st'.u2b = st.u2b ∧
    ((0 < st.b2u.size ∧ st'.b2u = st.b2u) ∨
     ∃ c rows, fs p = some c ∧ parseTable c = .ok rows ∧ st'.b2u = b2uMapFrom st.b2u rows) := by
  unfold initB2U at h
  split at h
  · next hs => cases h; exact ⟨rfl, Or.inl ⟨hs, rfl⟩⟩
  · split at h
    · cases h
    · next c hf =>
      cases hp : parseTable c with
      | error x => simp [hp, bind, Except.bind] at h
      | ok rows =>
        simp only [hp, bind, Except.bind, pure, Except.pure] at h
        cases h
        exact ⟨rfl, Or.inr ⟨c, rows, hf, hp, rfl⟩⟩

theorem initB2U_true (fs : FS) (p : String) (st st' : Loader) (h : initB2U fs p st = .ok (st', true)) :
    st.b2u.size = 0 ∧ fs p = none ∧ st' = st := by
  unfold initB2U at h
  split at h
  · cases h
  · next hs =>
    split at h
    · next hf => cases h; exact ⟨by omega, hf, rfl⟩
    · next c hf =>
      cases hp : parseTable c <;> simp [hp, bind, Except.bind, pure, Except.pure] at h

theorem initU2B_false (fs : FS) (p : String) (st st' : Loader) (h : initU2B fs p st = .ok (st', false)) :
    st'.b2u = st.b2u ∧
    ((0 < st.u2b.size ∧ st'.u2b = st.u2b) ∨
     ∃ c rows, fs p = some c ∧ parseTable c = .ok rows ∧ st'.u2b = u2bMapFrom st.u2b rows) := by
  unfold initU2B at h
  split at h
  · next hs => cases h; exact ⟨rfl, Or.inl ⟨hs, rfl⟩⟩
  · split at h
    · cases h
    · next c hf =>
      cases hp : parseTable c with
      | error x => simp [hp, bind, Except.bind] at h
      | ok rows =>
        simp only [hp, bind, Except.bind, pure, Except.pure] at h
        cases h
        exact ⟨rfl, Or.inr ⟨c, rows, hf, hp, rfl⟩⟩

theorem initU2B_true (fs : FS) (p : String) (st st' : Loader) (h : initU2B fs p st = .ok (st', true)) :
    st.u2b.size = 0 ∧ fs p = none ∧ st' = st := by
  unfold initU2B at h
  split at h
  · cases h
  · next hs =>
    split at h
    · next hf => cases h; exact ⟨by omega, hf, rfl⟩
    · next c hf =>
      cases hp : parseTable c <;> simp [hp, bind, Except.bind, pure, Except.pure] at h

theorem initBig5_ok (fs : FS) (pb pu : String) (st st' : Loader) (e : Bool) (h : initBig5 fs pb pu st = .ok (st', e)) :
    (initB2U fs pb st = .ok (st', true) ∧ e = true) ∨
    ∃ st1, initB2U fs pb st = .ok (st1, false) ∧ initU2B fs pu st1 = .ok (st', e) := by
  unfold initBig5 at h
  cases h1 : initB2U fs pb st with
  | error x => simp [h1, bind, Except.bind] at h
  | ok r1 =>
    obtain ⟨st1, e1⟩ := r1
    simp only [h1, bind, Except.bind] at h
    cases e1 with
    | true =>
      simp only [if_true, pure, Except.pure] at h
      cases h
      exact Or.inl ⟨rfl, rfl⟩
    | false => exact Or.inr ⟨st1, rfl, by simpa using h⟩

/-! ### the start-up sequence, one `InitConfig` at a time -/

theorem boot_types (fs : FS) (pb pu : String) (name : Bytes) (ps : List String) (b : Boot) (l : Loader)
    (h : initBig5 fs pb pu b.loader = .ok (l, false)) :
    boot fs pb pu name ("types" :: ps) b = boot fs pb pu name ps { b with loader := l } := by
  simp only [boot, bootStep, if_true, h, bind, Except.bind, pure, Except.pure]
  rfl

theorem boot_ptttype (fs : FS) (pb pu : String) (name : Bytes) (ps : List String) (b : Boot) :
    boot fs pb pu name ("ptttype" :: ps) b =
      boot fs pb pu name ps { b with bbsnameBig5 := some (u2bSpec (tableOf b.loader.u2b) name) } := by
  have hne : ¬ ("ptttype" = "types") := by decide
  simp only [boot, bootStep, hne, if_true, if_false, utf8ToBig5, goFor_u2b _ _ _ _ (Nat.lt_succ_self _), bind, Except.bind,
    pure, Except.pure]
  rfl

theorem boot_other (fs : FS) (pb pu : String) (name : Bytes) (p : String) (ps : List String) (b : Boot)
    (h1 : p ≠ "types") (h2 : p ≠ "ptttype") : boot fs pb pu name (p :: ps) b = boot fs pb pu name ps b := by
  simp only [boot, bootStep, h1, h2, if_false, bind, Except.bind, pure, Except.pure]
  rfl
end PttVerif.C17
