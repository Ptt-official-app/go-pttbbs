import PttVerif.Model.C19
/-
C19 — `Load` never faults: on every byte string `ReadFavrec` returns a tree or a clean error, because each step
hands on a suffix of what it was given and the call depth `Load` allows is the length of the file.
-/
namespace PttVerif.C19
open PttVerif

attribute [local simp] bind Except.bind pure Except.pure

theorem readEntry_len (bs : List Nat) (it : Item) (rest : List Nat) (h : readEntry bs = some (it, rest)) :
    rest.length ≤ bs.length := by
  -- along the tests of `readEntry`: what a `some` leaf returns is a `drop` of a tail of `bs`
  unfold readEntry at h
  split at h
  · cases h
  · split at h
    · cases h
    · split at h
      · cases h
      · split at h
        · split at h
          · cases h
          · split at h
            · cases h
            · cases h; simp; omega
        · split at h
          · split at h
            · cases h; simp; omega
            · cases h
          · split at h
            · cases h
            · cases h; simp; omega

theorem readEntries_len : ∀ (n : Nat) (bs : List Nat) (its : List Item) (rest : List Nat),
    readEntries n bs = some (its, rest) → rest.length ≤ bs.length
  | 0, bs, its, rest, h => by cases h; exact Nat.le_refl _
  | n + 1, bs, its, rest, h => by
      unfold readEntries at h
      split at h
      · cases h
      · rename_i it bs' he
        split at h
        · cases h
        · rename_i its' bs'' hr
          cases h
          exact Nat.le_trans (readEntries_len n bs' its' rest hr) (readEntry_len bs it bs' he)

/-- `r` returns without a fault and leaves at most `n` bytes unread. -/
def Shrinks {α : Type} (n : Nat) (r : M (Option (α × List Nat))) : Prop :=
  ∃ x, r = .ok x ∧ ∀ a rest, x = some (a, rest) → rest.length ≤ n

theorem Shrinks.ofNone {α : Type} {n : Nat} : Shrinks (α := α) n (.ok none) :=
  ⟨_, rfl, fun _ _ h => nomatch h⟩

theorem Shrinks.ofSome {α : Type} {n : Nat} {a : α} {rest : List Nat} (h : rest.length ≤ n) :
    Shrinks n (.ok (some (a, rest))) :=
  ⟨_, rfl, fun _ _ e => by cases e; exact h⟩

theorem Shrinks.mono {α : Type} {m n : Nat} {r : M (Option (α × List Nat))} (h : Shrinks m r) (hmn : m ≤ n) :
    Shrinks n r := by
  obtain ⟨x, hx, hlen⟩ := h
  exact ⟨x, hx, fun a rest e => Nat.le_trans (hlen a rest e) hmn⟩

theorem Shrinks.bind {α β : Type} {n : Nat} {r : M (Option (α × List Nat))}
    {k : Option (α × List Nat) → M (Option (β × List Nat))} (hr : Shrinks n r) (hnone : Shrinks n (k none))
    (hsome : ∀ a rest, rest.length ≤ n → Shrinks n (k (some (a, rest)))) : Shrinks n (r >>= k) := by
  obtain ⟨x, rfl, hx⟩ := hr
  cases x with
  | none => exact hnone
  | some p => exact hsome p.1 p.2 (hx _ _ rfl)

/-- a record reader that is total on inputs of at most `N` bytes and returns a suffix no longer than its input. -/
def GoodReader (rd : List Nat → M (Option (Fav × List Nat))) (N : Nat) : Prop :=
  ∀ bs, bs.length ≤ N → Shrinks bs.length (rd bs)

theorem attach_total (rd : List Nat → M (Option (Fav × List Nat))) (N : Nat) (hrd : GoodReader rd N)
    (ents : List Item) : ∀ (bs : List Nat) (l f : Nat), bs.length ≤ N → Shrinks bs.length (attach rd ents bs l f) := by
  induction ents with
  | nil => intro bs l f _; exact .ofSome (Nat.le_refl _)
  | cons e es ih =>
    intro bs l f hbs
    cases e with
    | board a b lv ba =>
      show Shrinks _ (attach rd es bs l f >>= _)
      exact (ih bs l f hbs).bind .ofNone fun _ _ h => .ofSome h
    | line a lid =>
      show Shrinks _ (attach rd es bs ((l + 1) % 256) f >>= _)
      exact (ih bs _ f hbs).bind .ofNone fun _ _ h => .ofSome h
    | folder a fid t nB nL nF sub =>
      show Shrinks _ (rd bs >>= _)
      refine (hrd bs hbs).bind .ofNone fun g bs' hb' => ?_   -- then `attach rd es bs' l ((f + 1) % 256) >>= _`
      exact ((ih bs' l _ (Nat.le_trans hb' hbs)).mono hb').bind .ofNone fun _ _ h => .ofSome h

theorem readFavrec_total : ∀ (fuel : Nat) (bs : List Nat), bs.length < fuel → Shrinks bs.length (readFavrec fuel bs)
  | 0, bs, h => by omega
  | fuel + 1, bs, h => by
      simp only [readFavrec]
      split
      · rename_i b0 b1 nL nF rest
        split
        · exact .ofNone
        · rename_i hg
          split
          · rename_i hn
            simp [hn] at hg
          · split
            · exact .ofNone
            · rename_i ents rest' he
              have hl := readEntries_len _ _ _ _ he
              -- the 4 header bytes are gone: what a nested call gets is shorter than the fuel that is left
              have hgood : GoodReader (readFavrec fuel) rest'.length :=
                fun bs' hbs' => readFavrec_total fuel bs' (by simp at h; omega)
              have hrest : rest'.length ≤ (b0 :: b1 :: nL :: nF :: rest).length := by simp; omega
              exact ((attach_total _ _ hgood ents rest' 0 0 (Nat.le_refl _)).mono hrest).bind .ofNone
                fun _ _ h => .ofSome h
      · exact .ofNone

theorem load_total (bs : List Nat) : ∃ r, load bs = .ok r := by
  rcases bs with _ | ⟨v0, _ | ⟨v1, rest⟩⟩
  · exact ⟨none, rfl⟩
  · exact ⟨none, rfl⟩
  · obtain ⟨r, hr, _⟩ := readFavrec_total (rest.length + 1) rest (by omega)
    cases r with
    | none => exact ⟨none, by simp [load, hr]⟩
    | some p => exact ⟨some p.1, by simp [load, hr]⟩

end PttVerif.C19
